/-
  C02 over the full alphabet of path states: `verifyFs` in closed form
  when no `read` fails — the run of the classic model on `mainDisk` with the by-catch exceptions
  a stat-only probe does not confirm dropped.
-/
import Torf.Lemmas.VerifyFsSim
import Torf.Lemmas.VerifyFsFirst
namespace Torf.VerifyFs
open Torf Torf.Missing Torf.Verify

variable {α δ : Type} [Inhabited α] [DecidableEq δ]

/-- the ReadError (file, errno) with which the reader thread dies, if it does -/
def readFault (L : Nat) (sizes : List Nat) (fd : List (FState α)) : Option (Nat × Nat) :=
  ((List.range sizes.length).foldl (stepFs L sizes fd) {}).fault

theorem iterItemsFs_nofault (L : Nat) (sizes : List Nat) (fd : List (FState α))
    (h : readFault L sizes fd = none) :
    iterItemsFs L sizes fd =
      (iterItems L sizes (mainDisk sizes fd)).map fun items =>
        ⟨items.map (dropSilent sizes (statDisk fd)), none⟩ := by
  unfold readFault at h
  rcases fold_fs L sizes fd (List.range sizes.length) with hs | ⟨j, e, hflt, _⟩
  · rw [iterItemsFs_eq, hs, runOf_nofault, iterItems_eq,
      fold_step2_dropOut L sizes _ _ (fileError_statDisk sizes fd), itemsOf_dropOut,
      Option.map_map]
    rfl
  · rw [h] at hflt; cases hflt

/-- one run of `verify` in which no `read` fails: its items are the pieces of the projected disk;
    the exceptions they carry are among the bad files of that disk and contain those a stat-only
    probe shows -/
structure RunFs (H : List α → δ) (L : Nat) (sizes : List Nat) (fd : List (FState α))
    (stored : List δ) (items : List (Item α)) : Prop
    extends Trace H L sizes (mainDisk sizes fd) stored (SpecOkFs H L sizes fd stored) items where
  hit : iterItemsFs L sizes fd = some ⟨items, none⟩
  repSub : (reported items).Sublist (badFiles sizes (mainDisk sizes fd))
  repSup : (badFiles sizes (statDisk fd)).Sublist (reported items)

theorem runFs_exists (H : List α → δ) (L : Nat) (hL : 0 < L) (sizes : List Nat)
    (fd : List (FState α)) (stored : List δ)
    (hyp : NoBadEmpty sizes (mainDisk sizes fd) = true)
    (hlen : stored.length = nPieces L sizes.sum) (hnf : readFault L sizes fd = none) :
    ∃ items, RunFs H L sizes fd stored items := by
  obtain ⟨items, run⟩ := run_exists H L hL sizes (mainDisk sizes fd) stored hyp hlen
  have hit : iterItemsFs L sizes fd =
      some ⟨items.map (dropSilent sizes (statDisk fd)), none⟩ := by
    rw [iterItemsFs_nofault L sizes fd hnf, run.hit]; rfl
  refine ⟨items.map (dropSilent sizes (statDisk fd)), ?_, hit,
    run.rep ▸ reported_dropSilent_sublist sizes (statDisk fd) items,
    badFiles_sublist_reported sizes (mainDisk sizes fd) (statDisk fd)
      (fileError_statDisk sizes fd) items run.rep⟩
  cases hgf : AllGoodFs sizes fd with
  | true =>
    -- nothing to drop: the items are data items
    rw [run.good (allGood_of_allGoodFs sizes fd hgf), map_dropSilent_dataItem,
      ← run.good (allGood_of_allGoodFs sizes fd hgf), ← specOk_of_allGoodFs H L sizes fd stored hgf]
    exact run.toTrace
  | false =>
    -- a damaged file (no `read` fails): the first one is reported by an item of its own
    obtain ⟨j0, o, hj0, hbad, hfirst⟩ := exists_first_some (owedAt sizes fd) _ hgf
    obtain ⟨pre, tail, hitems, h⟩ :=
      iterItemsFs_first_damaged L sizes fd j0 o hj0 hbad hfirst _ hit
    rw [show SpecOkFs H L sizes fd stored = false by simp [SpecOkFs, hgf]]
    refine .of_exc hlen (by rw [List.length_map, run.len]) (by rw [List.map_map]; exact run.data)
      (fun it hit' hd => ?_) ?_
    · obtain ⟨it0, h0, rfl⟩ := List.mem_map.mp hit'
      simp only [dropSilent, run.clean it0 h0 hd, List.filter_nil]
    · rcases h with ⟨kind, es, rest, rfl, _⟩ | ⟨_, e, hf, _⟩
      · exact ⟨_, hitems ▸ List.mem_append_right _ List.mem_cons_self, List.cons_ne_nil _ _⟩
      · cases hf

/-- `verifySeq_run` over the full alphabet, when no `read` fails -/
theorem verifyFs_run (H : List α → δ) (L : Nat) (hL : 0 < L) (sizes : List Nat)
    (fd : List (FState α)) (stored : List δ) (single pathIsDir : Bool) (hp : single = !pathIsDir)
    (hyp : NoBadEmpty sizes (mainDisk sizes fd) = true)
    (hlen : stored.length = nPieces L sizes.sum) (hnf : readFault L sizes fd = none) :
    ∃ items, RunFs H L sizes fd stored items ∧
      verifyFs H L sizes fd stored true single pathIsDir =
        (.ok (SpecOkFs H L sizes fd stored), callsOf H L sizes stored items) ∧
      verifyFs H L sizes fd stored false single pathIsDir =
        (match (excsOf (callsOf H L sizes stored items)).head? with
          | some e => .error e
          | none => .ok true, []) := by
  obtain ⟨items, run⟩ := runFs_exists H L hL sizes fd stored hyp hlen hnf
  refine ⟨items, run, ?_, ?_⟩ <;> rw [verifyFs_eq_collect _ _ _ _ _ _ _ _ hp, run.hit]
  · exact run.toTrace.collect_cb hlen
  · exact run.toTrace.collect_nocb hlen

end Torf.VerifyFs
