/-
  C02 over the full alphabet of path states: when the extended loop is the classic one (no
  unreadable byte, no path of the recorded size that cannot be opened; or all files good).
-/
import Torf.Lemmas.VerifyFs
namespace Torf.VerifyFs
open Torf Torf.Missing Torf.Verify

variable {α δ : Type} [Inhabited α] [DecidableEq δ]

theorem fold_fs_step (L : Nat) (sizes : List Nat) (fd : List (FState α)) (js : List Nat)
    (hnr : ∀ j ∈ js, ∀ e, ¬ ReadFails sizes fd j e)
    (hstep : ∀ j ∈ js, ∀ st, step2 L sizes (mainDisk sizes fd) (statDisk fd) st j =
      step L sizes (mainDisk sizes fd) st j) :
    js.foldl (stepFs L sizes fd) {} =
      { st := js.foldl (step L sizes (mainDisk sizes fd)) {}, fault := none } := by
  have h2 : js.foldl (step2 L sizes (mainDisk sizes fd) (statDisk fd)) {} =
      js.foldl (step L sizes (mainDisk sizes fd)) {} :=
    foldl_congr_mem fun c j hj => hstep j hj c
  rw [fold_fs_nofault L sizes fd js hnr, h2]

theorem verifyFs_of_fold (H : List α → δ) (L : Nat) (sizes : List Nat) (fd : List (FState α))
    (stored : List δ) (hasCb single pathIsDir : Bool)
    (h : (List.range sizes.length).foldl (stepFs L sizes fd) {} =
      { st := (List.range sizes.length).foldl (step L sizes (mainDisk sizes fd)) {},
        fault := none }) :
    verifyFs H L sizes fd stored hasCb single pathIsDir =
      verifySeq H L sizes (mainDisk sizes fd) stored hasCb single pathIsDir := by
  rw [verifyFs_eq_gate, verifySeq_eq_gate, iterItemsFs_eq, h, runOf_nofault, iterItems_eq]
  cases itemsOf ((List.range sizes.length).foldl (step L sizes (mainDisk sizes fd)) {}) <;> rfl

omit [Inhabited α] in
theorem stateAt_mem (fd : List (FState α)) (k : Nat) :
    stateAt fd k = .gone ENOENT ∨ (stateAt fd k, k) ∈ fd.zipIdx := by
  unfold stateAt
  by_cases hk : k < fd.length
  · right
    rw [List.mem_zipIdx_iff_getElem?]
    simp [List.getD_eq_getElem?_getD, hk]
  · left
    simp [List.getD_eq_getElem?_getD, List.getElem?_eq_none (by omega : fd.length ≤ k)]

omit [Inhabited α] in
theorem not_readFails_of_noReadErr (sizes : List Nat) (fd : List (FState α))
    (h : NoReadErr fd = true) (j e : Nat) : ¬ ReadFails sizes fd j e := by
  intro ⟨c, off, hs, _⟩
  rcases stateAt_mem fd j with hg | hm
  · rw [hg] at hs; cases hs
  · unfold NoReadErr at h
    have := List.all_eq_true.mp h _ (List.fst_mem_of_mem_zipIdx hm)
    rw [hs] at this
    cases this

/-- the two projected disks differ in one state only, the one `NoSilent` excludes -/
theorem statDisk_of_noSilent (sizes : List Nat) (fd : List (FState α))
    (h : NoSilent sizes fd = true) : statDisk fd = mainDisk sizes fd := by
  apply List.ext_getElem?
  intro k
  unfold mainDisk statDisk
  simp only [List.getElem?_map, List.getElem?_zipIdx]
  cases hk : fd[k]? with
  | none => rfl
  | some s =>
    cases s with
    | noOpen n e =>
      have : n ≠ sizeOf sizes k := by
        simpa using List.all_eq_true.mp h (_, k) (List.mem_zipIdx_iff_getElem?.mpr hk)
      simp only [Option.map_some, Nat.zero_add, mainView, if_neg this]
      rfl
    | _ => rfl

/-- the classic two-state disk as a description over the full alphabet -/
def ofClassic (disk : List (Option (List α))) : List (FState α) :=
  disk.map fun d => match d with
    | none => .gone ENOENT
    | some c => .file c

theorem mainDisk_ofClassic (sizes : List Nat) (disk : List (Option (List α))) :
    mainDisk sizes (ofClassic disk) = disk := by
  apply List.ext_getElem?
  intro k
  unfold mainDisk ofClassic
  simp only [List.getElem?_map, List.getElem?_zipIdx]
  cases disk[k]? with
  | none => rfl
  | some d => cases d <;> rfl

omit [Inhabited α] in
theorem noReadErr_ofClassic (disk : List (Option (List α))) : NoReadErr (ofClassic disk) = true := by
  unfold NoReadErr ofClassic
  rw [List.all_eq_true]
  intro s hs
  obtain ⟨d, _, rfl⟩ := List.mem_map.mp hs
  cases d <;> rfl

omit [Inhabited α] in
theorem noSilent_ofClassic (sizes : List Nat) (disk : List (Option (List α))) :
    NoSilent sizes (ofClassic disk) = true := by
  unfold NoSilent
  rw [List.all_eq_true]
  intro sk hsk
  obtain ⟨s, k⟩ := sk
  have hs : s ∈ ofClassic disk := List.fst_mem_of_mem_zipIdx hsk
  unfold ofClassic at hs
  obtain ⟨d, _, rfl⟩ := List.mem_map.mp hs
  cases d <;> rfl

theorem fileError_none_of_owed_none (sizes : List Nat) (fd : List (FState α)) (k : Nat)
    (h : owedAt sizes fd k = none) : fileError sizes (mainDisk sizes fd) k = none := by
  rcases probe_cases sizes fd k with row | ⟨_, _, _, row⟩
  · exact row.main
  · rw [row.owed] at h; cases h

theorem fold_fs_good (L : Nat) (sizes : List Nat) (fd : List (FState α)) (js : List Nat)
    (h : ∀ j ∈ js, owedAt sizes fd j = none) :
    js.foldl (stepFs L sizes fd) {} =
      { st := js.foldl (step L sizes (mainDisk sizes fd)) {}, fault := none } :=
  fold_fs_step L sizes fd js
    -- a file whose `read` fails owes a ReadError
    (fun j hj e hrf => by
      have := owed_of_readFails sizes fd j e hrf
      rw [h j hj] at this
      cases this)
    (fun j hj st => step2_good_eq L sizes _ _ st j
      (fileError_none_of_owed_none sizes fd j (h j hj)))

omit [Inhabited α] in
theorem owedAt_of_allGoodFs (sizes : List Nat) (fd : List (FState α))
    (h : AllGoodFs sizes fd = true) : ∀ k ∈ List.range sizes.length, owedAt sizes fd k = none := by
  intro k hk
  have := List.all_eq_true.mp h k hk
  simpa using this

theorem allGood_of_allGoodFs (sizes : List Nat) (fd : List (FState α))
    (h : AllGoodFs sizes fd = true) : AllGood sizes (mainDisk sizes fd) = true := by
  unfold AllGood
  rw [List.all_eq_true]
  intro k hk
  rw [fileError_none_of_owed_none sizes fd k (owedAt_of_allGoodFs sizes fd h k hk)]
  rfl

theorem diskStream_of_allGoodFs (sizes : List Nat) (fd : List (FState α))
    (h : AllGoodFs sizes fd = true) : diskStream sizes (mainDisk sizes fd) = fsStream sizes fd := by
  unfold diskStream fsStream
  congr 1
  apply List.map_congr_left
  intro k hk
  exact contentOf_of_handle sizes fd k
    (fileError_none_of_owed_none sizes fd k (owedAt_of_allGoodFs sizes fd h k hk))

theorem specOk_of_allGoodFs (H : List α → δ) (L : Nat) (sizes : List Nat) (fd : List (FState α))
    (stored : List δ) (h : AllGoodFs sizes fd = true) :
    SpecOk H L sizes (mainDisk sizes fd) stored = SpecOkFs H L sizes fd stored := by
  unfold SpecOk SpecOkFs
  rw [allGood_of_allGoodFs sizes fd h, diskStream_of_allGoodFs sizes fd h, h]

theorem verifyFs_of_allGoodFs (H : List α → δ) (L : Nat) (sizes : List Nat)
    (fd : List (FState α)) (stored : List δ) (hasCb single pathIsDir : Bool)
    (h : AllGoodFs sizes fd = true) :
    verifyFs H L sizes fd stored hasCb single pathIsDir =
      verifySeq H L sizes (mainDisk sizes fd) stored hasCb single pathIsDir :=
  verifyFs_of_fold H L sizes fd stored hasCb single pathIsDir
    (fold_fs_good L sizes fd _ (owedAt_of_allGoodFs sizes fd h))

end Torf.VerifyFs
