/-
  For the piece-index methods of C11 (`get_piece_indexes_of_file`, `get_absolute_piece_indexes`,
  `get_relative_piece_indexes`): the model's answer and the arithmetic one are both ascending lists, so they
  are compared by their members (`mem_rangeIncl`, `mem_pieceIndexes`, tied by `between_iff`).
-/
import Torf.Lemmas.GeomScan
import Torf.Lemmas.Basics
namespace Torf.GeomLemmas
open Torf Torf.Geometry

theorem mem_rangeIncl (a b x : Int) : x ∈ rangeIncl a b ↔ a ≤ x ∧ x ≤ b := by
  unfold rangeIncl
  simp only [List.mem_map, List.mem_range]
  constructor
  · rintro ⟨k, hk, rfl⟩; omega
  · intro h; exact ⟨(x - a).toNat, by omega, by omega⟩

theorem rangeIncl_sorted (a b : Int) : (rangeIncl a b).Pairwise (· < ·) := by
  unfold rangeIncl
  rw [List.pairwise_map]
  exact List.pairwise_lt_range.imp (by intro x y h; omega)

theorem rangeIncl_head (a b : Int) (h : a ≤ b) : (rangeIncl a b).head? = some a := by
  unfold rangeIncl
  rw [List.head?_map, List.head?_range]
  have : (b + 1 - a).toNat ≠ 0 := by omega
  simp [this]

theorem rangeIncl_getLast (a b : Int) (h : a ≤ b) : (rangeIncl a b).getLast? = some b := by
  unfold rangeIncl
  rw [List.getLast?_map, List.getLast?_range]
  have : (b + 1 - a).toNat ≠ 0 := by omega
  simp only [this, if_false, Option.map_some]
  congr 1
  omega

/-- the list is what `GeomSpec.pieceIndexesOfFile` answers for a listed file -/
theorem mem_pieceIndexes (sizes : List Nat) (L j : Nat) (excl : Bool) (x : Int) (hL : 0 < L) :
    x ∈ ((List.range (nPieces L (GeomSpec.total sizes))).filter
        (GeomSpec.pieceOfFile sizes L j excl)).map Int.ofNat ↔
      (GeomSpec.validPiece sizes L x = true ∧ GeomSpec.fileInPiece sizes L x j = true) ∧
        (excl = false ∨ ∀ k, k < sizes.length → k = j ∨ GeomSpec.fileInPiece sizes L x k = false) := by
  simp only [List.mem_map, List.mem_filter, List.mem_range, lt_nPieces_iff _ _ _ hL,
    GeomSpec.pieceOfFile, GeomSpec.validPiece, GeomSpec.allFiles, Bool.and_eq_true, Bool.or_eq_true,
    Bool.not_eq_true', List.all_eq_true, decide_eq_true_eq, beq_iff_eq, Int.ofNat_eq_natCast]
  constructor
  · rintro ⟨i, ⟨hi, h1, h2⟩, rfl⟩
    exact ⟨⟨⟨Int.natCast_nonneg i, by have := Int.natCast_mul i L; omega⟩, h1⟩, h2⟩
  · rintro ⟨⟨⟨h0, hv⟩, h1⟩, h2⟩
    obtain ⟨i, rfl⟩ := Int.eq_ofNat_of_zero_le h0
    exact ⟨i, ⟨by have := Int.natCast_mul i L; omega, h1, h2⟩, rfl⟩

theorem pieceIndexes_sorted (p : Nat → Bool) (n : Nat) :
    (((List.range n).filter p).map Int.ofNat).Pairwise (· < ·) :=
  (List.pairwise_lt_range.filter p).map _ fun _ _ h => Int.ofNat_lt.mpr h

theorem between_iff (sizes : List Nat) (L j : Nat) (x : Int) (hL : 0 < L)
    (hs : 0 < GeomSpec.size sizes j) :
    (floorDiv (GeomSpec.pos sizes j : Int) L ≤ x ∧
        x ≤ floorDiv ((GeomSpec.pos sizes j : Int) + (GeomSpec.size sizes j : Int) - 1) L) ↔
      GeomSpec.validPiece sizes L x = true ∧ GeomSpec.fileInPiece sizes L x j = true := by
  have hL' : (0 : Int) < (L : Int) := by omega
  have htot := pos_add_size_le_total sizes j
  have h2 : floorDiv (GeomSpec.pos sizes j : Int) L ≤ x ↔ (GeomSpec.pos sizes j : Int) / (L : Int) < x + 1 := by
    unfold floorDiv; omega
  rw [h2, Int.ediv_lt_iff_lt_mul hL', floorDiv, Int.le_ediv_iff_mul_le hL']
  simp only [GeomSpec.validPiece, GeomSpec.fileInPiece, fileInRange_iff, Bool.and_eq_true,
    decide_eq_true_eq]
  constructor
  · rintro ⟨h3, h4⟩
    have hx : 0 ≤ x := by
      false_or_by_contra
      have : (x + 1) * (L : Int) ≤ 0 := Int.mul_nonpos_of_nonpos_of_nonneg (by omega) (by omega)
      omega
    omega
  · omega

theorem clampRel_eq (m r : Int) : clampRel m r = GeomSpec.clamp (m + 1) r := by
  unfold clampRel GeomSpec.clamp
  by_cases h : r < 0
  · simp only [h, if_true]
    have e1 : m - (r.natAbs : Int) + 1 = m + 1 + r := by omega
    rw [e1, Int.add_sub_cancel]
  · simp only [h, if_false]
    rw [Int.add_sub_cancel]

/-- the condition under which a file's piece count can be read off its size alone -/
def SizeOnlyOk (sizes : List Nat) (L : Nat) (j : Nat) : Prop :=
  (GeomSpec.pos sizes j % L + GeomSpec.size sizes j - 1) / L = (GeomSpec.size sizes j - 1) / L

end Torf.GeomLemmas
