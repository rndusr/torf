/-
  `validate`: the arithmetic of the expected piece count, and what the content path of a single-file torrent may be.
-/
import Torf.Lemmas.ValidateCommon
namespace Torf.Validate
open Torf Torf.Export

/-- `-(-size // piece_length)` is the ceiling of `size / piece_length` -/
theorem expPieces_eq {len pl : Int} (hl : 0 ≤ len) (hp : 0 < pl) :
    expPieces len pl = ((len.toNat + pl.toNat - 1) / pl.toNat : Nat) := by
  obtain ⟨a, rfl⟩ := Int.eq_ofNat_of_zero_le hl
  obtain ⟨b, rfl⟩ := Int.eq_ofNat_of_zero_le (Int.le_of_lt hp)
  have hb : 0 < b := by omega
  simp only [Int.toNat_natCast]
  unfold expPieces
  rw [Int.fdiv_eq_ediv_of_nonneg _ (by omega)]
  generalize hq : (a + b - 1) / b = q
  have h1 := Nat.div_add_mod (a + b - 1) b
  have h2 := Nat.mod_lt (a + b - 1) hb
  rw [hq] at h1
  generalize hm : (a + b - 1) % b = m at h1 h2
  -- from `a + b - 1 = b * q + m`, `m < b`:  `-a = b * (-q) + (b - 1 - m)` with `0 ≤ b - 1 - m < b`
  have key : (-(a:Int)) / (b:Int) = -(q:Int) := by
    rw [Int.ediv_eq_iff_of_pos (by omega), Int.neg_mul, Int.mul_comm, ← Int.natCast_mul]
    generalize ht : b * q = t at h1
    omega
  rw [key]; omega

theorem expPieces_le {len pl : Int} (hl : 0 ≤ len) (hp : 0 < pl) :
    0 ≤ expPieces len pl ∧ expPieces len pl ≤ len := by
  rw [expPieces_eq hl hp]
  obtain ⟨a, rfl⟩ := Int.eq_ofNat_of_zero_le hl
  obtain ⟨b, rfl⟩ := Int.eq_ofNat_of_zero_le (Int.le_of_lt hp)
  have hb : 0 < b := by omega
  simp only [Int.toNat_natCast]
  refine ⟨Int.natCast_nonneg _, ?_⟩
  have : (a + b - 1) / b ≤ a := by
    rw [Nat.div_le_iff_le_mul_add_pred hb]
    have := Nat.le_mul_of_pos_left a hb
    omega
  omega

theorem expPieces_zero (pl : Int) : expPieces 0 pl = 0 := by
  simp only [expPieces, Int.neg_zero, Int.zero_fdiv]

theorem numVal_of_fileLength {l : PyVal} (h1 : isIntOrFloat l = true) (h2 : isFileLength l = true) :
    ∃ n, numVal? l = some n ∧ 0 ≤ n := by
  cases l with
  | int i =>
    simp only [isFileLength, intVal] at h2
    exact ⟨i, rfl, of_decide_eq_true h2⟩
  | bool b => cases b <;> simp [numVal?]
  | float f =>
    cases f with
    | fin t integral neg =>
      simp only [isFileLength, Bool.and_eq_true, decide_eq_true_eq] at h2
      obtain ⟨hi, ht⟩ := h2
      subst hi
      exact ⟨t, rfl, ht⟩
    | _ => simp [isFileLength] at h2
  | _ => simp [isIntOrFloat, PyVal.isInt, PyVal.isFloat] at h1

theorem pieceLength_pos {v : PyVal} (h : isDivisibleBy16KiB v = true) :
    0 < intVal v ∧ intVal v % 16384 = 0 := by
  unfold isDivisibleBy16KiB at h
  split at h
  · exact absurd h (by simp)
  · constructor
    · omega
    · simpa using h

/-- `exists` → `isfile` → `real_size` on one `stat` answer: the size of a regular file, and
    MetainfoError for every other answer — a directory, a FIFO or socket, every errno, a path
    that never reaches the OS.  In particular `real_size` never fails here and never walks. -/
theorem statSize_cases (st : Stat) :
    (∃ n, st = .file n ∧ statSize st = .ok n) ∨
    (st.isFile = false ∧ statSize st = .error .metainfo) := by
  cases st <;> simp [statSize, Stat.exists, Stat.isFile, realSize, bind, Except.bind, pure, Except.pure,
    throw, throwThe, MonadExceptOf.throw]

theorem checkRootFile_cases (fs : FsOracle) (len : Int) :
    (checkRootFile fs len = .ok () ∧ fs.root = .file len.toNat ∧ 0 ≤ len) ∨
    checkRootFile fs len = .error .metainfo := by
  unfold checkRootFile
  cases h : fs.root with
  | file n =>
    by_cases hn : (n : Int) = len
    · left; subst hn
      simp [Stat.isFile, realSize, bind, Except.bind, pure, Except.pure]
    · right
      simp [Stat.isFile, realSize, bind, Except.bind, pure, Except.pure, hn, throw, throwThe,
        MonadExceptOf.throw]
  | _ => right; simp [Stat.isFile, bind, Except.bind, throw, throwThe, MonadExceptOf.throw]

end Torf.Validate
