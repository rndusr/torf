/-
  Torf.Lemmas.PipelineSent — sentinel discipline of the piece queue (clauses (ii), (iii), (vi) of
  the invariant sketched in DESIGN.md, Appendix A): no QUEUE_CLOSED before the reader is done;
  afterwards exactly one, either last in the piece queue or in the hands of the single hasher
  that is about to re-queue it (the queue is empty then, so re-queueing never blocks); the
  finalize event implies the reader is done; the vital hasher only finishes by setting the event.
-/
import Torf.Lemmas.PipelineCtl
namespace Torf.Pipeline

theorem q_pop {l rest : List (Option Nat)} {x : Option Nat} (h : l = x :: rest)
    (hq : none ∉ l.dropLast) : none ∉ rest.dropLast := by
  subst h
  cases rest with
  | nil => simp
  | cons y r => simp [List.dropLast] at hq ⊢; exact hq.2

theorem q_closed {l rest : List (Option Nat)} (h : l = none :: rest)
    (hq : none ∉ l.dropLast) : rest = [] := by
  subst h
  cases rest with
  | nil => rfl
  | cons y r => simp [List.dropLast] at hq

theorem q_push {l : List (Option Nat)} (x : Option Nat) (h : none ∉ l) :
    none ∉ (l ++ [x]).dropLast := by
  simpa using h

structure InvB2 (s : State) : Prop where
  e1pq : s.rpc ≠ RPc.done → none ∉ s.pq
  e1hs : s.rpc ≠ RPc.done → ∀ i : Nat, s.hs[i]? ≠ some HPc.requeue ∧ s.hs[i]? ≠ some HPc.setEv
  e1fin : s.rpc ≠ RPc.done → s.fin = false
  e2 : s.rpc = RPc.done → none ∈ s.pq ∨ ∃ i : Nat, s.hs[i]? = some HPc.requeue
  e3 : ∀ i : Nat, s.hs[i]? = some HPc.requeue → s.pq = []
  e4 : ∀ i j : Nat, s.hs[i]? = some HPc.requeue → s.hs[j]? = some HPc.requeue → i = j
  q : none ∉ s.pq.dropLast
  r2 : s.fin = true → ∀ x ∈ s.pq, x = none
  r2' : ∀ i : Nat, s.hs[i]? = some HPc.setEv → ∀ x ∈ s.pq, x = none
  v2 : s.hs[0]? = some HPc.done → s.fin = true

theorem InvB2.done_of_fin {s : State} (h : InvB2 s) (hf : s.fin = true) : s.rpc = .done :=
  Classical.byContradiction fun hr => by rw [h.e1fin hr] at hf; cases hf

theorem InvB2.init (cfg : Cfg) : InvB2 (init cfg) where
  e1pq _ := List.not_mem_nil
  e1hs _ _ := ⟨fun h => (nomatch init_hs h), fun h => nomatch init_hs h⟩
  e1fin _ := rfl
  e2 := nofun
  e3 _ h := nomatch init_hs h
  e4 _ _ h := nomatch init_hs h
  q := List.not_mem_nil
  r2 := nofun
  r2' _ h := nomatch init_hs h
  v2 h := nomatch init_hs h

/-- What the invariant reads: whether the reader is done, the piece queue, the event, which hashers
    are about to re-queue the sentinel or to set the event, and whether the vital hasher is done. -/
theorem InvB2.congr {s s' : State} (h : InvB2 s) (hr : s'.rpc = .done ↔ s.rpc = .done)
    (hp : s'.pq = s.pq) (hf : s'.fin = s.fin)
    (h1 : ∀ i : Nat, s'.hs[i]? = some .requeue ↔ s.hs[i]? = some .requeue)
    (h2 : ∀ i : Nat, s'.hs[i]? = some .setEv ↔ s.hs[i]? = some .setEv)
    (h3 : s'.hs[0]? = some .done → s.hs[0]? = some .done) : InvB2 s' := by
  obtain ⟨e1pq, e1hs, e1fin, e2, e3, e4, q, r2, r2', v2⟩ := h
  constructor <;> simp only [hr, hp, hf, h1, h2, ne_eq] <;> first | assumption | skip
  exact fun h => v2 (h3 h)

theorem InvB2.frame {s s' : State} (h : InvB2 s) (hr : s'.rpc = .done ↔ s.rpc = .done)
    (hp : s'.pq = s.pq) (hf : s'.fin = s.fin) (hh : s'.hs = s.hs) : InvB2 s' :=
  h.congr hr hp hf (by simp [hh]) (by simp [hh]) (by simp [hh])

theorem InvB2.set_hs {s s' : State} {i : Nat} {q : HPc} (h : InvB2 s) (hh : s'.hs = s.hs.set i q)
    (hr : s'.rpc = .done ↔ s.rpc = .done) (hp : s'.pq = s.pq) (hf : s'.fin = s.fin)
    (p1 : s.hs[i]? ≠ some .requeue) (p2 : s.hs[i]? ≠ some .setEv)
    (q1 : q ≠ .requeue) (q2 : q ≠ .setEv) (q3 : q = .done → i ≠ 0) : InvB2 s' :=
  h.congr hr hp hf (hh ▸ getElem?_set_other p1 q1) (hh ▸ getElem?_set_other p2 q2)
    (hh ▸ getElem?_set_zero q3)

theorem InvB2.pop {s : State} {k : Nat} {rest : List (Option Nat)} (h : InvB2 s)
    (hpq : s.pq = some k :: rest) : InvB2 { s with pq := rest } :=
  have sub : ∀ x, x ∈ rest → x ∈ s.pq := fun x hx => hpq ▸ List.mem_cons_of_mem _ hx
  { e1pq := fun hr hn => h.e1pq hr (sub _ hn)
    e1hs := h.e1hs
    e1fin := h.e1fin
    e2 := fun hr => (h.e2 hr).imp_left (by rw [hpq]; simp)
    e3 := fun i hi => by have := h.e3 i hi; simp [hpq] at this
    e4 := h.e4
    q := q_pop hpq h.q
    r2 := fun hf x hx => h.r2 hf x (sub x hx)
    r2' := fun i hi x hx => h.r2' i hi x (sub x hx)
    v2 := h.v2 }

/-- the reader appends `x` to the piece queue; it is done afterwards iff `x` is the sentinel -/
theorem InvB2.push {s s' : State} {x : Option Nat} (h : InvB2 s) (hr : s.rpc ≠ .done)
    (hx : s'.rpc = .done ↔ x = none) (hp : s'.pq = s.pq ++ [x]) (hh : s'.hs = s.hs)
    (hf : s'.fin = s.fin) : InvB2 s' :=
  have hn := h.e1pq hr
  have hhs := h.e1hs hr
  { e1pq := fun hr' => by simpa [hp, hn, hx] using fun hx' => hr' (hx.2 hx'.symm)
    e1hs := fun _ => hh ▸ hhs
    e1fin := fun _ => hf ▸ h.e1fin hr
    e2 := fun hr' => .inl (by simp [hp, hx.1 hr'])
    e3 := fun i hi => absurd (hh ▸ hi) (hhs i).1
    e4 := hh ▸ h.e4
    q := hp ▸ q_push x hn
    r2 := fun hf' => by simp [hf ▸ h.e1fin hr] at hf'
    r2' := fun i hi => absurd (hh ▸ hi) (hhs i).2
    v2 := hh ▸ hf ▸ h.v2 }

theorem InvB2.takeClosed {s : State} {i : Nat} {rest : List (Option Nat)} (h : InvB2 s)
    (hi : s.hs[i]? = some .getting) (hpq : s.pq = none :: rest) :
    InvB2 { s with pq := rest, hs := s.hs.set i .requeue } :=
  have hrest : rest = [] := q_closed hpq h.q
  have hd : s.rpc = .done := Classical.byContradiction fun hr => h.e1pq hr (by simp [hpq])
  have nor : ∀ j : Nat, s.hs[j]? ≠ some .requeue := fun j hj => by simpa [hpq] using h.e3 j hj
  { e1pq := fun hr => absurd hd hr
    e1hs := fun hr => absurd hd hr
    e1fin := fun hr => absurd hd hr
    e2 := fun _ => .inr ⟨i, List.getElem?_set_self (List.getElem?_eq_some_iff.1 hi).1⟩
    e3 := fun _ _ => hrest
    e4 := fun a b ha hb => (eq_of_getElem?_set (nor a) ha).trans (eq_of_getElem?_set (nor b) hb).symm
    q := by simp [hrest]
    r2 := by simp [hrest]
    r2' := by simp [hrest]
    v2 := fun h0 => h.v2 (getElem?_set_zero (by simp) h0) }

/-- the hasher that holds the sentinel puts it back (the queue is empty, so this never blocks) -/
theorem InvB2.requeue {s : State} {i : Nat} (h : InvB2 s) (hi : s.hs[i]? = some .requeue) :
    InvB2 { s with pq := s.pq ++ [none], hs := s.hs.set i .setEv } :=
  have hpq : s.pq = [] := h.e3 i hi
  have hd : s.rpc = .done := Classical.byContradiction fun hr => (h.e1hs hr i).1 hi
  have nor : ∀ j : Nat, (s.hs.set i .setEv)[j]? ≠ some .requeue := fun j hj => by
    rw [List.getElem?_set] at hj
    split at hj
    · split at hj <;> simp at hj
    · exact ‹¬ i = j› (h.e4 i j hi hj)
  { e1pq := fun hr => absurd hd hr
    e1hs := fun hr => absurd hd hr
    e1fin := fun hr => absurd hd hr
    e2 := fun _ => .inl (by simp)
    e3 := fun j hj => absurd hj (nor j)
    e4 := fun a _ ha => absurd ha (nor a)
    q := by simp [hpq]
    r2 := by simp [hpq]
    r2' := by simp [hpq]
    v2 := fun h0 => h.v2 (getElem?_set_zero (by simp) h0) }

theorem InvB2.setEv {s : State} {i : Nat} (h : InvB2 s) (hi : s.hs[i]? = some .setEv) :
    InvB2 { s with fin := true, hs := s.hs.set i .done } :=
  have hd : s.rpc = .done := Classical.byContradiction fun hr => (h.e1hs hr i).2 hi
  have req : ∀ j : Nat, (s.hs.set i .done)[j]? = some .requeue ↔ s.hs[j]? = some .requeue :=
    getElem?_set_other (by simp [hi]) (by simp)
  { e1pq := fun hr => absurd hd hr
    e1hs := fun hr => absurd hd hr
    e1fin := fun hr => absurd hd hr
    e2 := by simpa only [req] using h.e2
    e3 := by simpa only [req] using h.e3
    e4 := by simpa only [req] using h.e4
    q := h.q
    r2 := fun _ => h.r2' i hi
    r2' := fun _ _ => h.r2' i hi
    v2 := fun _ => rfl }

theorem InvB2.main {cfg : Cfg} {s s' : State} (hA : InvA cfg s) (h : InvB2 s)
    (hs : MainStep cfg s s') : InvB2 s' := by
  -- a hasher that main is about to start has not been started
  have start : ∀ i m, s.main = .startHasher i →
      InvB2 { s with hs := s.hs.set i .begin_, main := m } := fun i m hm =>
    have hn : ∀ r, r ≠ .notStarted → s.hs[i]? ≠ some r := fun r hr hi =>
      hr (hA.unstarted hm hi)
    h.set_hs rfl .rfl rfl rfl (hn _ (by simp)) (hn _ (by simp)) (by simp) (by simp) (by simp)
  cases hs with
  | startReader hm => exact h.frame (by simp [hA.rfresh (.inr hm)]) rfl rfl rfl
  | startHasherNext i hm | startHasherLast i hm => exact start i _ hm
  | _ => exact h.frame .rfl rfl rfl rfl

theorem InvB2.reader {cfg : Cfg} {s s' : State} (h : InvB2 s)
    (hs : ReaderStep cfg s s') : InvB2 s' := by
  cases hs with
  | begin hr t hn => cases hn <;> exact h.frame (by simp [hr]) rfl rfl rfl
  | put k hr hc t hn => cases hn <;> exact h.push (by simp [hr]) (by simp) rfl rfl rfl
  | close hr hc => exact h.push (by simp [hr]) (by simp) rfl rfl rfl

theorem InvB2.hasher {cfg : Cfg} {s s' : State} {i : Nat} (h : InvB2 s)
    (hs : HasherStep cfg s i s') : InvB2 s' := by
  cases hs with
  | begin hi | deliver k hi =>
    exact h.set_hs rfl .rfl rfl rfl (by simp [hi]) (by simp [hi]) (by simp) (by simp) (by simp)
  | idle => exact h
  | quit hi hpq h0 =>
    exact h.set_hs rfl .rfl rfl rfl (by simp [hi]) (by simp [hi]) (by simp) (by simp) (fun _ => h0)
  | take k rest hi hpq =>
    exact (h.pop hpq).set_hs rfl .rfl rfl rfl (by simp [hi]) (by simp [hi]) (by simp) (by simp)
      (by simp)
  | takeClosed rest hi hpq => exact h.takeClosed hi hpq
  | requeue hi hc => exact h.requeue hi
  | setEv hi => exact h.setEv hi

theorem InvB2.janitor {s s' : State} (h : InvB2 s)
    (hs : JanitorStep s s') : InvB2 s' := by
  cases hs <;> exact h.frame .rfl rfl rfl rfl

theorem InvB2.step {cfg : Cfg} {s s' : State} (hA : InvA cfg s) (h : InvB2 s)
    (hs : Step cfg s s') : InvB2 s' := by
  cases hs with
  | main h' => exact h.main hA h'
  | reader h' => exact h.reader h'
  | hasher i h' => exact h.hasher h'
  | janitor h' => exact h.janitor h'

end Torf.Pipeline
