/-
  Helper lemmas for C20: `partial_size` of a listed file is its own recorded length when the
  listed paths are pairwise distinct; the loop of `verify_filesize` refines the specification.
-/
import Torf.Spec.FileSize
import Torf.Lemmas.Sort
namespace Torf.FileSize

theorem filter_ne_empty (p : List String) (h : "" ∉ p) : p.filter (· ≠ "") = p := by
  apply List.filter_eq_self.mpr
  intro a ha
  simp only [ne_eq, decide_not, Bool.not_eq_eq_eq_not, Bool.not_true, decide_eq_false_iff_not]
  intro h0; subst h0; exact h ha

theorem listed_of_isSingle {t : Torrent} (h : t.isSingle = true) : ∃ n, t.listed = [⟨[], n⟩] := by
  unfold Torrent.isSingle at h
  unfold Torrent.listed
  cases hm : t.mode with
  | single n => exact ⟨n, rfl⟩
  | multi _ => rw [hm] at h; cases h

theorem partialSizeLoop_listed (name : String) (f : Listed) (l : List Listed) (acc : List Nat)
    (hf : f ∈ l) (hsame : ∀ g ∈ l, g.path = f.path → g.size = f.size)
    (hne : ∀ g ∈ l, "" ∉ g.path) :
    partialSizeLoop name (name :: f.path) l acc = .ok f.size := by
  induction l generalizing acc with
  | nil => cases hf
  | cons g rest ih =>
    unfold partialSizeLoop
    simp only [filter_ne_empty g.path (hne g (List.mem_cons_self ..)), List.cons.injEq, true_and]
    by_cases hp : g.path = f.path
    · rw [if_pos hp, hsame g (List.mem_cons_self ..) hp]
    · have ih' := fun acc => ih acc ((List.mem_cons.mp hf).resolve_left fun e => hp (e ▸ rfl))
        (fun g hg => hsame g (List.mem_cons_of_mem _ hg)) (fun g hg => hne g (List.mem_cons_of_mem _ hg))
      rw [if_neg hp]
      split
      · exact ih' _
      · exact ih' _

theorem partialSize_listed (t : Torrent) (hwf : WF t) (f : Listed) (hf : f ∈ t.listed) :
    partialSize t (t.name :: f.path) = .ok f.size := by
  unfold partialSize
  unfold Torrent.listed at hf
  unfold WF Torrent.listed at hwf
  cases hm : t.mode with
  | single n =>
    simp only [hm, List.mem_singleton] at hf
    subst hf
    simp
  | multi files =>
    simp only [hm] at hf hwf ⊢
    exact partialSizeLoop_listed t.name f files [] hf
      (fun g hg hp => by rw [eq_of_nodup_map hwf.1 hg hf hp]) hwf.2

theorem loop_congr (t : Torrent) (fs fs' : FS) (cb : Callback) (total : Nat) (l : List Listed)
    (h : ∀ f ∈ l, fs f.path = fs' f.path) (i : Nat) (exc : Option Err) :
    loop t fs cb total i l exc = loop t fs' cb total i l exc := by
  induction l generalizing i exc with
  | nil => rfl
  | cons f rest ih =>
    unfold loop
    simp only [h f (List.mem_cons_self ..), ih (fun g hg => h g (List.mem_cons_of_mem _ hg))]

/-- `loop` writes this out three times; the typed model (Model/FileSizeEnv) has it as `report`: the call
    for this file, then — unless it raised or asked to stop — `r`, the rest of the loop -/
def reportL (cb : Callback) (total i : Nat) (exc : Option Err) (r : Res × List Call) : Res × List Call :=
  match cancel cb total i exc with
  | .error e => (.raised e, [])
  | .ok (stop, calls) => if stop then (.ok false, calls) else (r.1, calls ++ r.2)

theorem loop_cons_report (t : Torrent) (fs : FS) (cb : Callback) (total i : Nat) (f : Listed)
    (rest : List Listed) (exc : Option Err) :
    loop t fs cb total i (f :: rest) exc =
      if !pathExists (fs f.path) then
        reportL cb total i (some .read) (loop t fs cb total (i + 1) rest (some .read))
      else
        match realSize (fs f.path) with
        | .error e => (.raised e, [])
        | .ok actual =>
          match partialSize t (t.name :: f.path) with
          | .error e => (.raised e, [])
          | .ok expected =>
            if actual ≠ expected then
              reportL cb total i (some (.size actual expected))
                (loop t fs cb total (i + 1) rest (some (.size actual expected)))
            else reportL cb total i none (loop t fs cb total (i + 1) rest exc) := by
  rw [loop]; rfl

theorem loop_cons (t : Torrent) (fs : FS) (cb : Callback) (total i : Nat) (f : Listed)
    (rest : List Listed) (exc : Option Err) (hf : partialSize t (t.name :: f.path) = .ok f.size) :
    loop t fs cb total i (f :: rest) exc =
      reportL cb total i (errOf fs f) (loop t fs cb total (i + 1) rest ((errOf fs f).or exc)) := by
  rw [loop_cons_report, hf]
  unfold errOf
  cases fs f.path with
  | missing => rfl
  | file n => by_cases hn : n = f.size <;> simp [pathExists, realSize, hn]
  | dir n => by_cases hn : n = f.size <;> simp [pathExists, realSize, hn]

theorem loop_none (t : Torrent) (fs : FS) (total : Nat) (l : List Listed)
    (hps : ∀ f ∈ l, partialSize t (t.name :: f.path) = .ok f.size) (i : Nat) (exc : Option Err) :
    loop t fs none total i l exc =
      match firstErr fs l with
      | some e => (.raised e, [])
      | none => (.ok exc.isNone, []) := by
  induction l generalizing i exc with
  | nil => rfl
  | cons f rest ih =>
    rw [loop_cons _ _ _ _ _ _ _ _ (hps f (List.mem_cons_self ..)), firstErr]
    cases errOf fs f with
    | some e => rfl
    | none => simp [reportL, cancel, ih (fun g hg => hps g (List.mem_cons_of_mem _ hg))]

theorem loop_some (t : Torrent) (fs : FS) (g : Call → Bool) (total : Nat) (l : List Listed)
    (hps : ∀ f ∈ l, partialSize t (t.name :: f.path) = .ok f.size) (i : Nat) (exc : Option Err) :
    loop t fs (some g) total i l exc =
      (.ok ((exc.isNone && l.all (good fs)) && !(takeThrough g (fullCallsFrom fs total i l)).any g),
       takeThrough g (fullCallsFrom fs total i l)) := by
  induction l generalizing i exc with
  | nil => simp [loop, fullCallsFrom, takeThrough]
  | cons f rest ih =>
    rw [loop_cons _ _ _ _ _ _ _ _ (hps f (List.mem_cons_self ..)),
      ih (fun g hg => hps g (List.mem_cons_of_mem _ hg))]
    simp only [reportL, cancel, fullCallsFrom, takeThrough, good, List.all_cons]
    cases errOf fs f with
    | none => cases hg : g ⟨i, i + 1, total, none⟩ <;> cases exc <;> simp [hg]
    | some e => cases hg : g ⟨i, i + 1, total, some e⟩ <;> cases exc <;> simp [hg]

theorem firstErr_eq_findSome? (fs : FS) (l : List Listed) : firstErr fs l = l.findSome? (errOf fs) := by
  induction l with
  | nil => rfl
  | cons a rest ih => unfold firstErr; cases h : errOf fs a <;> simp [h, ih]

theorem firstErr_none_iff (fs : FS) (l : List Listed) :
    firstErr fs l = none ↔ l.all (good fs) = true := by
  simp only [firstErr_eq_findSome?, List.findSome?_eq_none_iff, List.all_eq_true, good,
    Option.isNone_iff_eq_none]

theorem verifyFilesize_eq_spec (t : Torrent) (hwf : WF t) (fs : FS) (cb : Callback) :
    verifyFilesize t fs cb = spec t fs cb := by
  unfold verifyFilesize spec
  by_cases hv : validateCore t = true
  · have hps := partialSize_listed t hwf
    simp only [hv, Bool.not_true, Bool.false_eq_true, if_false]
    change (if singleAtDir t fs = true then _ else _) = _
    by_cases hd : singleAtDir t fs = true
    · obtain ⟨n, hl⟩ := listed_of_isSingle (Bool.and_eq_true_iff.mp hd).1
      cases cb <;> simp [hd, hl, cancel, fullCalls, takeThrough, allGood]
    · rw [if_neg hd]
      cases cb with
      | none => rw [if_neg hd, loop_none t fs _ _ hps]; cases firstErr fs t.listed <;> rfl
      | some g => rw [loop_some t fs g _ _ hps]; simp [fullCalls, hd, allGood]
  · simp [hv]

end Torf.FileSize
