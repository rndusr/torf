/-
  How to reason about predicates on bencode values.  `BVal.induct` is structural induction with the
  hypothesis for every element of a list and every value of a dict; the predicates of the model
  (`canon`, `small`, `uniqKeys`) are given by Boolean folds over lists and entries, and each fold
  says that all members satisfy the predicate (`all_iff` and its instances).
-/
import Torf.Model.Bencode
namespace Torf.Bencode

theorem BVal.induct {P : BVal → Prop} (int : ∀ i, P (.int i)) (bytes : ∀ b, P (.bytes b))
    (list : ∀ l, (∀ v ∈ l, P v) → P (.list l)) (dict : ∀ kvs, (∀ p ∈ kvs, P p.2) → P (.dict kvs))
    (v : BVal) : P v :=
  BVal.rec (motive_1 := P) (motive_2 := fun l => ∀ v ∈ l, P v)
    (motive_3 := fun kvs => ∀ p ∈ kvs, P p.2) (motive_4 := fun p => P p.2)
    int bytes list dict (fun _ h => nomatch h) (fun _ _ hv ht => List.forall_mem_cons.mpr ⟨hv, ht⟩)
    (fun _ h => nomatch h) (fun _ _ hp ht => List.forall_mem_cons.mpr ⟨hp, ht⟩) (fun _ _ hv => hv) v

theorem all_iff {f : List α → Bool} {g : α → Bool} (h0 : f [] = true)
    (hc : ∀ a t, f (a :: t) = (g a && f t)) : ∀ {l}, f l = true ↔ ∀ a ∈ l, g a = true
  | [] => by simp [h0]
  | a :: t => by rw [hc, Bool.and_eq_true, all_iff h0 hc (l := t), List.forall_mem_cons]

-- The folds over entries are defined on the pattern `(k, v) :: t`; their equation for a variable
-- head is still `rfl` (eta for pairs).

theorem canonList_iff {l : List BVal} : canonList l = true ↔ ∀ v ∈ l, canon v = true :=
  all_iff rfl fun _ _ => rfl

theorem canonKvs_iff {l : List (Bytes × BVal)} : canonKvs l = true ↔ ∀ p ∈ l, canon p.2 = true :=
  all_iff (g := fun p : Bytes × BVal => canon p.2) rfl fun _ _ => rfl

theorem uniqList_iff {l : List BVal} : uniqList l = true ↔ ∀ v ∈ l, uniqKeys v = true :=
  all_iff rfl fun _ _ => rfl

theorem uniqKvs_iff {l : List (Bytes × BVal)} : uniqKvs l = true ↔ ∀ p ∈ l, uniqKeys p.2 = true :=
  all_iff (g := fun p : Bytes × BVal => uniqKeys p.2) rfl fun _ _ => rfl

theorem smallList_iff {lim : Nat} {l : List BVal} :
    smallList lim l = true ↔ ∀ v ∈ l, small lim v = true :=
  all_iff rfl fun _ _ => rfl

theorem smallKvs_iff {lim : Nat} {l : List (Bytes × BVal)} :
    smallKvs lim l = true ↔ ∀ p ∈ l, (decNat p.1.length).length ≤ lim ∧ small lim p.2 = true :=
  (all_iff (g := fun p : Bytes × BVal => decide ((decNat p.1.length).length ≤ lim) && small lim p.2)
    rfl fun _ _ => rfl).trans (by simp only [Bool.and_eq_true, decide_eq_true_eq])

end Torf.Bencode
