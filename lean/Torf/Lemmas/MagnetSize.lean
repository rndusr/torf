/-
  Helper lemmas for the size clauses of C13: well-formed magnets with arbitrarily many trackers.
-/
import Torf.Lemmas.MagnetUri
namespace Torf.Magnet

theorem manyUrls_length (n : Nat) : (manyUrls n).length = n := by simp [manyUrls]

theorem manyUrls_nodup (n : Nat) : (manyUrls n).Nodup :=
  nodup_map_inj (fun _ _ e => by simpa using congrArg List.length e) List.nodup_range

theorem manyUrls_ok (n : Nat) : ∀ u ∈ manyUrls n, urlOk (fun _ => true) u = true := by
  intro u hu
  obtain ⟨i, _, rfl⟩ := List.mem_map.mp hu
  simp [urlOk, List.replicate_succ]

theorem bigMagnet_wf (n : Nat) : WF (fun _ => true) (bigMagnet n) = true :=
  (WF_iff _ _).2 {
    hash := (by decide : validHash (List.replicate 40 'a') = true)
    tr := manyUrls_ok n, tr_nodup := manyUrls_nodup n
    ws := nofun, ws_nodup := List.nodup_nil
    dn := nofun, xl := nofun, xs := nofun, as_ := rfl, kt := nofun, x := rfl }

theorem bigMagnet_fields (n : Nat) : fieldCount (bigMagnet n) = n + 1 := by
  simp [fieldCount, bigMagnet, manyUrls_length]; omega

end Torf.Magnet
