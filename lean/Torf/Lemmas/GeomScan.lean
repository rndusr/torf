/-
  The position / byte-range / files-per-piece methods of C11 against the layout of the stream
  (`Lemmas/Layout`): the loops of the model in closed form over the file index.
-/
import Torf.Lemmas.Layout
namespace Torf.GeomLemmas
open Torf Torf.Geometry

theorem lookupFile_eq (sizes : List Nat) (j : Nat) :
    lookupFile sizes j =
      if j < sizes.length then .ok (GeomSpec.pos sizes j, GeomSpec.size sizes j) else .error .value := by
  unfold lookupFile GeomSpec.pos GeomSpec.size
  split
  · next h => rw [if_pos (List.getElem?_eq_some_iff.mp h).1, List.getD_eq_getElem?_getD, h]; rfl
  · next h => rw [if_neg (Nat.not_lt.mpr (List.getElem?_eq_none_iff.mp h))]

/-- every method that begins by looking a file up: the answer computed from the file's position and size
    if the file is listed, ValueError if not -/
theorem lookupFile_bind {β : Type} {sizes : List Nat} {j : Nat} {f : Nat × Nat → Res β} {g : Res β}
    (h : j < sizes.length → f (GeomSpec.pos sizes j, GeomSpec.size sizes j) = g) :
    (lookupFile sizes j >>= f) = if j < sizes.length then g else .error .value := by
  rw [lookupFile_eq]
  split
  · next hlt => exact h hlt
  · rfl

theorem mem_filesAtByteRange (sizes : List Nat) (a b : Int) (j : Nat) :
    j ∈ GeomSpec.filesAtByteRange sizes a b ↔ j < sizes.length ∧ GeomSpec.fileInRange sizes a b j = true := by
  simp [GeomSpec.filesAtByteRange, GeomSpec.allFiles, List.mem_filter, List.mem_range]

theorem filesAtByteRange_sorted (sizes : List Nat) (a b : Int) :
    (GeomSpec.filesAtByteRange sizes a b).Pairwise (· < ·) := by
  unfold GeomSpec.filesAtByteRange GeomSpec.allFiles
  exact List.Pairwise.sublist List.filter_sublist List.pairwise_lt_range

/-- the search loop in closed form.  The test on the right is the specification's (`GeomSpec.fileAtPosition`: both
    ends of a file), so that model = spec is this lemma at `off = 0`; the code tests the upper end only, and the
    lower one holds along the search, which is what the hypothesis `hoff` is for.  `off` is the stream position at
    which the list starts (0 for the method, the sizes passed so far in the induction), likewise in
    `byteRangeLoop_eq`. -/
theorem fileAtPosLoop_eq (p : Int) (sizes : List Nat) (off : Int) (hoff : off ≤ p) :
    Geometry.fileAtPosLoop p sizes off =
      (List.range sizes.length).find? (fun j =>
        decide (off + (GeomSpec.pos sizes j : Int) ≤ p) &&
        decide (p < off + (GeomSpec.pos sizes j : Int) + (GeomSpec.size sizes j : Int))) := by
  induction sizes generalizing off with
  | nil => simp [Geometry.fileAtPosLoop]
  | cons s rest ih =>
    simp only [Geometry.fileAtPosLoop, List.length_cons, List.range_succ_eq_map,
      List.find?_cons, pos_zero, size_cons_zero, Int.natCast_zero, Int.add_zero, decide_eq_true hoff, Bool.true_and]
    by_cases h : off + (s : Int) - 1 ≥ p
    · rw [if_pos h, decide_eq_true (by omega)]
    · rw [if_neg h, decide_eq_false (by omega), Int.sub_add_cancel, ih (off + (s : Int)) (by omega), List.find?_map]
      congr 2
      funext k
      simp only [Function.comp, Nat.succ_eq_add_one, pos_cons_succ, size_cons_succ]
      rw [Int.natCast_add, Int.add_assoc]

theorem byteRangeLoop_eq (a b : Int) (sizes : List Nat) (off : Int) :
    Geometry.byteRangeLoop a b sizes off =
      (List.range sizes.length).filter (fun j =>
        Geometry.rangeHit a b (off + (GeomSpec.pos sizes j : Int)) (GeomSpec.size sizes j)) := by
  have h := scan_inv id (loop := fun l idx pos acc => acc ++ (byteRangeLoop a b l pos).map (· + idx))
    (rangeHit a b) id (fun _ _ _ => by simp [byteRangeLoop])
    (fun s rest idx pos acc => by
      simp only [byteRangeLoop, id, List.map_append, List.map_map, ← List.append_assoc]
      congr 1
      · split <;> simp
      · apply List.map_congr_left; intro x _; simp [Nat.add_comm, Nat.add_left_comm])
    sizes 0 off []
  simpa using h

theorem rangeHit_iff (a b pos : Int) (s : Nat) :
    rangeHit a b pos s = true ↔
      ((a ≤ pos ∧ pos ≤ b) ∨ (a ≤ pos + (s : Int) - 1 ∧ pos + (s : Int) - 1 ≤ b)) ∨
        (a ≥ pos ∧ b ≤ pos + (s : Int) - 1) := by
  simp only [rangeHit, Bool.or_eq_true, Bool.and_eq_true, decide_eq_true_eq]

theorem getFilesAtByteRange_spec (sizes : List Nat) (a b : Int) (hne : NoEmpty sizes) (hab : a ≤ b) :
    Geometry.getFilesAtByteRange sizes a b = .ok (GeomSpec.filesAtByteRange sizes a b) := by
  unfold Geometry.getFilesAtByteRange GeomSpec.filesAtByteRange GeomSpec.allFiles
  rw [if_pos hab, byteRangeLoop_eq]
  refine congrArg Except.ok (List.filter_congr fun j hj => ?_)
  -- for a file with at least one byte the source's three-way test is the plain interval test
  have hs := size_pos_of_noEmpty sizes hne j (List.mem_range.mp hj)
  rw [Bool.eq_iff_iff, rangeHit_iff, fileInRange_iff]
  omega

theorem filesAtByteRange_owners (sizes : List Nat) (hne : NoEmpty sizes) (a b j k : Nat)
    (hk : j + k < sizes.length)
    (ha1 : GeomSpec.pos sizes j ≤ a) (ha2 : a < GeomSpec.pos sizes j + GeomSpec.size sizes j)
    (hb1 : GeomSpec.pos sizes (j + k) ≤ b) (hb2 : b < GeomSpec.pos sizes (j + k) + GeomSpec.size sizes (j + k)) :
    GeomSpec.filesAtByteRange sizes (a : Int) (b : Int) = List.range' j (k + 1) := by
  refine eq_of_sorted_of_mem_iff (· < ·) (fun _ _ h1 h2 => by omega) _ _ (filesAtByteRange_sorted sizes a b)
    List.pairwise_lt_range' fun i => ?_
  rw [mem_filesAtByteRange, fileInRange_iff, List.mem_range'_1, ← Int.natCast_add, Int.ofNat_lt, Int.ofNat_le,
    (owner_iff sizes a j ha1 ha2 i).2, (owner_iff sizes b (j + k) hb1 hb2 i).1]
  constructor
  · rintro ⟨_, _, h1, h2⟩; omega
  · rintro ⟨h1, h2⟩
    exact ⟨by omega, size_pos_of_noEmpty sizes hne i (by omega), h1, by omega⟩

theorem getFileAtPosition_owner (sizes : List Nat) (p j : Nat) (hj : j < sizes.length)
    (h1 : GeomSpec.pos sizes j ≤ p) (h2 : p < GeomSpec.pos sizes j + GeomSpec.size sizes j) :
    getFileAtPosition sizes p = .ok j := by
  unfold getFileAtPosition
  rw [if_pos (Int.natCast_nonneg p), fileAtPosLoop_eq _ _ 0 (Int.natCast_nonneg p),
    List.find?_range_eq_some.mpr ⟨?_, List.mem_range.mpr hj, fun i hi => ?_⟩]
  · simp only [Bool.and_eq_true, decide_eq_true_eq]; omega
  · have := files_disjoint sizes i j hi
    simp only [Bool.not_eq_eq_eq_not, Bool.not_true, Bool.and_eq_false_imp, decide_eq_true_eq,
      decide_eq_false_iff_not]
    omega

theorem filesAtPieceIndex_filter_eq (sizes : List Nat) (L : Nat) (i : Int) :
    (GeomSpec.allFiles sizes).filter (GeomSpec.fileInPiece sizes L i) =
      GeomSpec.filesAtByteRange sizes (i * (L : Int)) ((i + 1) * (L : Int) - 1) := rfl

theorem filesAtByteRange_ne_nil_of_valid (sizes : List Nat) (L : Nat) (i : Int) (hL : 0 < L)
    (hi : 0 ≤ i) (hv : i * (L : Int) < (GeomSpec.total sizes : Int)) :
    GeomSpec.filesAtByteRange sizes (i * (L : Int)) ((i + 1) * (L : Int) - 1) ≠ [] := by
  have hnn : 0 ≤ i * (L : Int) := Int.mul_nonneg hi (by omega)
  obtain ⟨p, hpe⟩ := Int.eq_ofNat_of_zero_le hnn
  have hp : p < GeomSpec.total sizes := by omega
  obtain ⟨j, hj, h1, h2⟩ := exists_owner sizes p hp
  have e : (i + 1) * (L : Int) = i * (L : Int) + (L : Int) := by rw [Int.add_mul, Int.one_mul]
  exact List.ne_nil_of_mem ((mem_filesAtByteRange sizes _ _ j).mpr
    ⟨hj, (fileInRange_iff sizes _ _ j).mpr ⟨by omega, by omega, by omega⟩⟩)

theorem filesAtByteRange_eq_nil_of_ge (sizes : List Nat) (a b : Int)
    (hv : (GeomSpec.total sizes : Int) ≤ a) :
    GeomSpec.filesAtByteRange sizes a b = [] := by
  rw [List.eq_nil_iff_forall_not_mem]
  intro j hmem
  rw [mem_filesAtByteRange] at hmem
  obtain ⟨hj, hr⟩ := hmem
  have := pos_add_size_le_total sizes j
  rw [fileInRange_iff] at hr
  omega

theorem getFilesAtPieceIndex_spec (sizes : List Nat) (L : Nat) (i : Int) (hL : 0 < L) (hne : NoEmpty sizes) :
    Geometry.getFilesAtPieceIndex sizes L i = GeomSpec.filesAtPieceIndex sizes L i := by
  unfold Geometry.getFilesAtPieceIndex GeomSpec.filesAtPieceIndex GeomSpec.validPiece
  rw [filesAtPieceIndex_filter_eq]
  by_cases hi : i ≥ 0
  · have hab : i * (L : Int) ≤ (i + 1) * (L : Int) - 1 := by
      rw [Int.add_mul, Int.one_mul]; omega
    rw [if_pos hi, getFilesAtByteRange_spec sizes _ _ hne hab]
    by_cases hv : i * (L : Int) < (GeomSpec.total sizes : Int)
    · have hnil := filesAtByteRange_ne_nil_of_valid sizes L i hL hi hv
      have hemp := List.isEmpty_eq_false_iff.mpr hnil
      simp [bind, Except.bind, hemp, hi, hv]
      rfl
    · have hnil := filesAtByteRange_eq_nil_of_ge sizes (i * (L : Int)) ((i + 1) * (L : Int) - 1) (by omega)
      rw [hnil]
      simp [bind, Except.bind, hv]
  · rw [if_neg hi]
    have : ¬ (0 ≤ i) := hi
    simp [this]

end Torf.GeomLemmas
