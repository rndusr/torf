/-
  The exports built on `validate`: what `dump` returns after a successful validation is Sound; and the outcome of a
  call as a Boolean, for the witnesses.
-/
import Torf.Lemmas.SoundMain
import Torf.Lemmas.SerOk
namespace Torf.Validate
open Torf Torf.Export

variable (urlOk : Bytes → Bool) (fs : FsOracle)

theorem dump_ok_inv {md : Items} {bs : Bytes} (hv : validate urlOk fs md = .ok ())
    (hd : dump urlOk fs md = .ok bs) :
    ∃ u, Codec.encodeValue (.dict md) = .ok u ∧ Bencode.serOk u = true ∧ bs = Bencode.ser u := by
  unfold dump at hd
  rw [hv] at hd
  simp only [bind, Except.bind, dumpNoValidate, ensureInfo_of_validate_ok urlOk fs hv] at hd
  obtain ⟨u, he, hs⟩ := bind_ok (valueToMetainfo_ok hd)
  exact ⟨u, encodeValue_ok he, ser_ok hs⟩

theorem dump_ok_of {md : Items} {u : BVal} (hv : validate urlOk fs md = .ok ())
    (he : Codec.encodeValue (.dict md) = .ok u) (hs : Bencode.serOk u = true) :
    dump urlOk fs md = .ok (Bencode.ser u) := by
  unfold dump
  rw [hv]
  simp only [bind, Except.bind, dumpNoValidate, ensureInfo_of_validate_ok urlOk fs hv, encodeDict,
    encodeValue, he, ser, hs, if_true, valueToMetainfo]

theorem dump_exported {md : Items} {bs : Bytes} (hw : Codec.wf (.dict md) = true)
    (hv : validate urlOk fs md = .ok ()) (hd : dump urlOk fs md = .ok bs) :
    ∃ b, Sound.Exported (.dict md) b ∧ Sound.parse bs = some b := by
  obtain ⟨u, he, hs, rfl⟩ := dump_ok_inv urlOk fs hv hd
  exact ⟨_, ⟨hw, u, he, rfl⟩, Sound.parse_ser_norm u (Codec.uniq_encodeValue _ u he hw) hs⟩

/-- C07: what `dump` returns after a successful `validate` is structurally sound — it is read back as the export of
    the metainfo, and the export of a metainfo with `ValidFacts` is sound -/
theorem export_sound {md : Items} {bs : Bytes} (hw : Codec.wf (.dict md) = true)
    (hv : validate urlOk fs md = .ok ()) (hd : dump urlOk fs md = .ok bs) :
    Sound.Sound urlOk bs = true := by
  obtain ⟨b, he, hp⟩ := dump_exported urlOk fs hw hv hd
  rw [Sound.Sound, hp]
  exact Sound.soundVal_of_valid urlOk (validate_ok urlOk fs hv).1 he

/-- every export validates first: what `validate()` raises, they raise -/
theorem dump_of_validate_err {md : Items} {e : ErrKind} (h : validate urlOk fs md = .error e) :
    dump urlOk fs md = .error e := by
  unfold dump; rw [h]; rfl

theorem infoBytes_of_validate_err {md : Items} {e : ErrKind} (h : validate urlOk fs md = .error e) :
    infoBytes urlOk fs md = .error e := by
  unfold infoBytes; rw [h]; rfl

theorem magnet_of_validate_err {md : Items} {e : ErrKind} (h : validate urlOk fs md = .error e) :
    magnet urlOk fs md = .error e := by
  unfold magnet; rw [infoBytes_of_validate_err urlOk fs h]; rfl

theorem infoBytes_ok_of {md info : Items} {u : BVal} (hv : validate urlOk fs md = .ok ())
    (hi : PyVal.lookupStr "info" md = some (.dict info))
    (he : Codec.encodeValue (.dict info) = .ok u) (hs : Bencode.serOk u = true) :
    infoBytes urlOk fs md = .ok (Bencode.ser u) := by
  unfold infoBytes
  rw [hv]
  simp only [bind, Except.bind, ensureInfo_of_validate_ok urlOk fs hv, getE_dict hi,
    encodeDict, encodeValue, he, ser, hs, if_true, valueToMetainfo]

/-! Outcomes as Booleans: `Except` has no decidable equality, so the witnesses of Properties/C07 are stated (or
    obtained) through these, which `decide +kernel` evaluates. -/

def isOk {α : Type} : Except ErrKind α → Bool | .ok _ => true | .error _ => false

theorem isOk_unit {x : Except ErrKind Unit} (h : isOk x = true) : x = .ok () := by
  cases x with
  | ok u => rfl
  | error e => cases h

def isInternal {α : Type} : Except ErrKind α → Bool
  | .error (.internal _) => true
  | _ => false

theorem not_metainfo_of_internal {α : Type} {x : Except ErrKind α} (h : isInternal x = true) :
    ∃ e, x = .error e ∧ e ≠ .metainfo := by
  cases x with
  | error e =>
    cases e with
    | internal t => exact ⟨_, rfl, nofun⟩
    | _ => cases h
  | ok a => cases h

def isMetainfo {α : Type} : Except ErrKind α → Bool
  | .error .metainfo => true
  | _ => false

theorem eq_of_isMetainfo {α : Type} {x : Except ErrKind α} (h : isMetainfo x = true) :
    x = .error .metainfo := by
  cases x with
  | error e =>
    cases e with
    | metainfo => rfl
    | _ => cases h
  | ok a => cases h

/-- the hypotheses of `C07_export_sound` are satisfiable (`decide` evaluates `validate` and the
    converters; `flatbencode.encode` succeeds because every number has at most 4300 digits) -/
theorem witness_dumps (urlOk : Bytes → Bool) (md : Items)
    (hv : isOk (validate urlOk noPath md) = true)
    (hs : (match Codec.encodeValue (.dict md) with
           | .ok u => Bencode.smallS 4299 u | .error _ => false) = true) :
    Codec.wf (.dict md) = true → ∃ bs, validate urlOk noPath md = .ok () ∧
      dump urlOk noPath md = .ok bs ∧ Sound.Sound urlOk bs = true := by
  intro hw
  have hv' := isOk_unit hv
  cases he : Codec.encodeValue (.dict md) with
  | error e => rw [he] at hs; exact absurd hs (by simp)
  | ok u =>
    rw [he] at hs
    have hd := dump_ok_of urlOk noPath hv' he (Bencode.serOk_of_smallS u hs)
    exact ⟨_, hv', hd, export_sound urlOk noPath hw hv' hd⟩

end Torf.Validate
