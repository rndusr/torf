/-
  `validate` as a whole: nothing but MetainfoError outside the class D07f, and what a successful validation
  establishes about the metainfo and — when a content path is set — about the world.
-/
import Torf.Lemmas.ValidateMulti
namespace Torf.Validate
open Torf Torf.Export

variable (urlOk : Bytes → Bool) (fs : FsOracle)

structure ValidFacts (items : Items) : Prop where
  ex : ∃ info b, CommonFacts urlOk items info ∧ AnnounceFacts urlOk items ∧
    PyVal.lookupStr "pieces" info = some (.bytes b) ∧ b.length ≠ 0 ∧ b.length % 20 = 0 ∧ SizeFacts info b.length

/-- the world as a successful validation with a content path has seen it -/
structure FsAgrees (md0 : Items) : Prop where
  /-- single-file: the content path is a regular file of the listed size -/
  single : ∀ info l len, PyVal.lookupStr "info" md0 = some (.dict info) →
    PyVal.lookupStr "length" info = some l → numVal? l = some len →
    fs.root = .file len.toNat ∧ 0 ≤ len
  /-- multi-file: the content path is a directory and every listed path is a regular file of the
      listed size (and a path `os.path.join` accepts) -/
  multi : ∀ info fl files, PyVal.lookupStr "info" md0 = some (.dict info) →
    PyVal.lookupStr "files" info = some fl → pyIter fl = some files →
    fs.root.isDir = true ∧
    ∀ j x, files[j]? = some x → fs.fileStat j = .file (fileLen x).toNat ∧ entryJoinable x = true

theorem FsAgrees.of_info {md0 info : Items} (hi : PyVal.lookupStr "info" md0 = some (.dict info))
    (hp : fs.hasPath = true) (hs : SingleWorld fs info) (hm : MultiWorld fs info) : FsAgrees fs md0 :=
  ⟨fun _ l len hi' => by cases hi.symm.trans hi'; exact hs hp l len,
   fun _ fl files hi' => by cases hi.symm.trans hi'; exact hm hp fl files⟩

/-- outside the class of finding D07f: what `outsideD07f` says in terms of lookups -/
def OutsideD07f (items : Items) : Prop :=
  ∀ info, PyVal.lookupStr "info" items = some (.dict info) → FilesOk fs info

theorem inE_dict (k : String) (info : Items) :
    inE (.s k) (.dict info) = .ok (PyVal.lookupStr k info).isSome := by
  simp only [inE, lookupKey, pure, Except.pure]

theorem validate_checks (md0 : Items) :
    Checks (OutsideD07f fs (ensureInfo md0))
      (ValidFacts urlOk (ensureInfo md0) ∧ (fs.hasPath = true → FsAgrees fs (ensureInfo md0)))
      (validate urlOk fs md0) := by
  obtain ⟨iv, hiv⟩ := ensureInfo_lookup md0
  unfold validate
  simp only [getE_dict hiv, ok_bind]
  refine (checkCommon_checks urlOk).bind fun ⟨info, cf⟩ => ?_
  cases hiv.symm.trans cf.hinfo
  refine (checkAnnounceList_checks urlOk cf.announceList).bind fun af => ?_
  obtain ⟨b, hb⟩ := cf.pieces
  simp only [getE_dict hb, lenE, pyLen, pure, Except.pure, inE_dict, ok_bind]
  refine Checks.ite (fun _ => Checks.metainfo) fun hz => Checks.ite (fun _ => Checks.metainfo) fun h20 => ?_
  have hz : b.length ≠ 0 := by simpa using hz
  have h20 : b.length % 20 = 0 := by simpa using h20
  refine Checks.ite (fun _ => Checks.metainfo) fun hboth => Checks.ite (fun hL => ?_) fun hL =>
    Checks.ite (fun hF => ?_) fun _ => Checks.metainfo
  · have hfil : PyVal.lookupStr "files" info = none := by
      cases hx : PyVal.lookupStr "files" info with
      | none => rfl
      | some _ => rw [hL, hx] at hboth; exact absurd rfl hboth
    refine (checkSingle_checks urlOk fs cf _ hfil).imp fun ⟨sf, sw⟩ =>
      ⟨⟨info, b, cf, af, hb, hz, h20, sf⟩, fun hp =>
        .of_info fs cf.hinfo hp sw fun _ _ _ hfl => nomatch hfil.symm.trans hfl⟩
  · have hlen : PyVal.lookupStr "length" info = none := by
      cases hx : PyVal.lookupStr "length" info with
      | none => rfl
      | some _ => rw [hx] at hL; exact absurd rfl hL
    refine ((checkMulti_checks fs cf (by omega) hlen).mono fun hX => hX info cf.hinfo).imp fun ⟨mf, mw⟩ =>
      ⟨⟨info, b, cf, af, hb, hz, h20, mf⟩, fun hp =>
        .of_info fs cf.hinfo hp (fun _ _ _ hl => nomatch hlen.symm.trans hl) mw⟩

theorem outside_spec {md0 : Items} (h : outsideD07f fs md0 = true) : OutsideD07f fs (ensureInfo md0) := by
  intro info hi fl hf
  rcases ensureInfo_cases md0 with ⟨he, _⟩ | he
  · rw [he] at hi
    simp only [outsideD07f, filesNotMapping, pathsJoinable, hi, hf, Bool.and_eq_true, Bool.or_eq_true,
      Bool.not_eq_true'] at h
    obtain ⟨h1, h2⟩ := h
    have hall : ∀ l : List PyVal, (fs.hasPath = false ∨ l.all entryJoinable = true) →
        fs.hasPath = true → ∀ files, some l = some files → ∀ x ∈ files, entryJoinable x = true := by
      rintro l (hp | hl) hp' files ⟨⟩ x hx
      · rw [hp] at hp'; cases hp'
      · exact List.all_eq_true.mp hl x hx
    cases fl with
    | dict _ => cases h1
    | list l | tuple l => exact ⟨rfl, hall l h2⟩
    | bytes b | str b =>
      refine ⟨rfl, fun _ files hfiles x hx => ?_⟩
      cases hfiles
      obtain ⟨y, _, rfl⟩ := List.mem_map.mp hx
      rfl
    | _ => exact ⟨rfl, fun _ _ hfiles => nomatch hfiles⟩
  · cases he.symm.trans hi
    cases hf

/-- without a content path the second half of D07f cannot occur -/
theorem outsideD07f_noPath (md0 : Items) : outsideD07f noPath md0 = filesNotMapping md0 := by
  simp only [outsideD07f, noPath, Bool.not_false, Bool.true_or, Bool.and_true]

/-- `validate()` raises nothing but MetainfoError outside the class of the finding D07f
    (`files` is a mapping; a content path with an unjoinable `path`), for numbers of any size
    (the messages are built with `safe_repr`: /repo 3420ff7 repaired D07j) -/
theorem validate_err {md0 : Items} {e : ErrKind} (ho : outsideD07f fs md0 = true)
    (h : validate urlOk fs md0 = .error e) : e = .metainfo :=
  (validate_checks urlOk fs md0).err (outside_spec fs ho) e h

/-- a metainfo that validates has its `info` (the one `ensureInfo` supplies is empty and has no `name`): `validate`
    and the exports, which read `ensureInfo md0`, have read `md0` itself -/
theorem ensureInfo_of_validate_ok {md0 : Items} (h : validate urlOk fs md0 = .ok ()) : ensureInfo md0 = md0 := by
  rcases ensureInfo_cases md0 with ⟨he, _⟩ | he
  · exact he
  · obtain ⟨info, _, cf, _⟩ := ((validate_checks urlOk fs md0).ok h).1.ex
    cases he.symm.trans cf.hinfo
    obtain ⟨v, hv, _⟩ := cf.name
    cases hv

theorem validate_ok {md0 : Items} (h : validate urlOk fs md0 = .ok ()) :
    ValidFacts urlOk md0 ∧ ensureInfo md0 = md0 :=
  have he := ensureInfo_of_validate_ok urlOk fs h
  ⟨he ▸ ((validate_checks urlOk fs md0).ok h).1, he⟩

theorem validate_ok_fs {md0 : Items} (h : validate urlOk fs md0 = .ok ()) (hp : fs.hasPath = true) :
    FsAgrees fs md0 :=
  ensureInfo_of_validate_ok urlOk fs h ▸ ((validate_checks urlOk fs md0).ok h).2 hp

end Torf.Validate
