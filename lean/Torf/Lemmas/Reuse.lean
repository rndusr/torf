/-
  Helper lemmas for C18 (reuse): the body of the search loop as a function of what the later items
  give (`round`, `loop_cons`) and the one case analysis of it (`round_cases`, over the four shapes `Verdict`); folded over the items:
  the relation `Ends` — how a search can end — from which soundness, atomicity and completeness are
  read off (the list of possible exceptions: Lemmas/ReuseMatch), and `loop_congr` — what the loop
  reads of the torrent; what a successful `is_file_match` / `is_content_match` / `copy` entails;
  sampling arithmetic.
-/
import Torf.Spec.Reuse
namespace Torf.Reuse

def Accepts (t : Tor) (c : Cand) (loc : Nat → LocalPiece) (t' : Tor) : Prop :=
  isFileMatch t c = .ok true ∧ isContentMatch t c loc = .ok true ∧ copy c t = .ok t'

theorem readItem_ok {it : Item} {c : Cand} {loc : Nat → LocalPiece}
    (h : readItem it = .ok (c, loc)) : it = .file (.torrent c) loc := by
  cases it with
  | pathError => cases h
  | file r l => cases r <;> cases h <;> rfl

theorem readItem_error {it : Item} {e : Err} (h : readItem it = .error e) :
    e = .read ∨ e = .bdecode ∨ e = .metainfo := by
  cases it with
  | pathError => cases h; simp
  | file r l => cases r <;> cases h <;> simp

/-- `if cancelled: return False`, else on to the next item.  `pre` = the calls this round has made
    already, `next` = what the later items give, `t₀` = the torrent handed back -/
def afterReport (t₀ : Tor) (next : Res × Tor × List Call) (stopCalls : Except Err (Bool × List Call))
    (pre : List Call) : Res × Tor × List Call :=
  match stopCalls with
  | .error e => (.raised e, t₀, pre)
  | .ok (stop, calls) =>
    if stop then (.ok false, t₀, pre ++ calls) else (next.1, next.2.1, pre ++ calls ++ next.2.2)

/-- The body of the search loop for one item (`done` already counts it), as a function of what the
    later items give (`next`), with the two uses of the torrent kept apart: the tests look at `t`,
    and `t₀` is handed back when the search ends without an acceptance.  In the loop both are the
    same torrent; that the tests read neither hashes nor piece length is then
    `round t₀ {t with …} = round t₀ t`, by `rfl`. -/
def round (t₀ t : Tor) (cb : Callback) (elapsed : Bool) (tot idx done : Nat) (it : Item)
    (next : Res × Tor × List Call) : Res × Tor × List Call :=
  match readItem it with
  | .error e => afterReport t₀ next (maybeCall cb elapsed ⟨idx, done, tot, some false, some e⟩) []
  | .ok (c, loc) =>
    match isFileMatch t c with
    | .error e => (.raised e, t₀, [])
    | .ok false => afterReport t₀ next (maybeCall cb elapsed ⟨idx, done, tot, some false, none⟩) []
    | .ok true =>
      match maybeCall cb elapsed ⟨idx, done, tot, none, none⟩ with
      | .error e => (.raised e, t₀, [])
      | .ok (stop, calls1) =>
        if stop then (.ok false, t₀, calls1)
        else
          match isContentMatch t c loc with
          | .error e => (.raised e, t₀, calls1)
          | .ok false =>
            afterReport t₀ next (maybeCall cb elapsed ⟨idx, done, tot, some false, none⟩) calls1
          | .ok true =>
            let calls2 := match maybeCall cb elapsed ⟨idx, done, tot, some true, none⟩ with
              | .ok (_, cs) => cs
              | .error _ => []
            match copy c t with
            | .error e => (.raised e, t₀, calls1 ++ calls2)
            | .ok t' => (.ok true, t', calls1 ++ calls2)

theorem loop_cons (t : Tor) (cb : Callback) (elapsed : Bool) (tot idx done : Nat) (it : Item)
    (rest : List Item) :
    loop t cb elapsed tot idx done (it :: rest) =
      round t t cb elapsed tot idx (if it.counted then done + 1 else done) it
        (loop t cb elapsed tot (idx + 1) (if it.counted then done + 1 else done) rest) := by
  rw [loop]; rfl

theorem maybeCall_cases (cb : Callback) (elapsed : Bool) (call : Call) :
    (∃ e, maybeCall cb elapsed call = .error e ∧ cb = none ∧ call.exc = some e) ∨
    (∃ calls, maybeCall cb elapsed call = .ok (false, calls)) ∨
    (∃ calls g, maybeCall cb elapsed call = .ok (true, calls) ∧ cb = some g ∧ g call = true) := by
  unfold maybeCall
  cases cb with
  | none => cases call.exc <;> simp
  | some g =>
    dsimp only
    split
    · cases hg : g call
      · exact .inr (.inl ⟨_, rfl⟩)
      · exact .inr (.inr ⟨_, g, rfl, rfl, hg⟩)
    · exact .inr (.inl ⟨_, rfl⟩)

def Raises (t : Tor) (cb : Callback) (it : Item) (e : Err) : Prop :=
  (readItem it = .error e ∧ cb = none) ∨
  ∃ c loc, readItem it = .ok (c, loc) ∧
    (isFileMatch t c = .error e ∨ (isFileMatch t c = .ok true ∧
      (isContentMatch t c loc = .error e ∨ (isContentMatch t c loc = .ok true ∧ copy c t = .error e))))

def Skips (t : Tor) (it : Item) : Prop :=
  (∃ e, readItem it = .error e) ∨
  ∃ c loc, readItem it = .ok (c, loc) ∧
    (isFileMatch t c = .ok false ∨ (isFileMatch t c = .ok true ∧ isContentMatch t c loc = .ok false))

/-- What one round does with the torrent handed back (`t₀`) and with what the later items give
    (`next`): one of four functions of the two. -/
inductive Verdict (t : Tor) (cb : Callback) (it : Item) :
    (Tor → Res × Tor × List Call → Res × Tor × List Call) → Prop
  | raises (e calls) : Raises t cb it e → Verdict t cb it fun t₀ _ => (.raised e, t₀, calls)
  | cancelled (calls) {g call} : cb = some g → g call = true →
      Verdict t cb it fun t₀ _ => (.ok false, t₀, calls)
  | skips (calls) : Skips t it → Verdict t cb it fun _ next => (next.1, next.2.1, calls ++ next.2.2)
  | accepts (t' calls) {c loc} : readItem it = .ok (c, loc) → Accepts t c loc t' →
      Verdict t cb it fun _ _ => (.ok true, t', calls)

/-- The equation holds for every `t₀`: `loop_ends` reads it at the loop's own torrent, `loop_congr` at another one. -/
theorem round_cases (t : Tor) (cb : Callback) (elapsed : Bool) (tot idx d : Nat) (it : Item) :
    ∃ F, (∀ t₀ next, round t₀ t cb elapsed tot idx d it next = F t₀ next) ∧ Verdict t cb it F := by
  -- a report without exception either goes on or is cancelled
  have skip : ∀ call pre, call.exc = none → Skips t it →
      ∃ F, (∀ t₀ next, afterReport t₀ next (maybeCall cb elapsed call) pre = F t₀ next) ∧
        Verdict t cb it F := by
    intro call pre hx hs
    rcases maybeCall_cases cb elapsed call with ⟨e, _, _, he⟩ | ⟨calls, h⟩ | ⟨calls, g, h, hcb, hg⟩
    · rw [hx] at he; cases he
    · rw [h]; exact ⟨_, fun _ _ => rfl, .skips (pre ++ calls) hs⟩
    · rw [h]; exact ⟨_, fun _ _ => rfl, .cancelled (pre ++ calls) hcb hg⟩
  unfold round
  cases hr : readItem it with
  | error e =>
    dsimp only
    rcases maybeCall_cases cb elapsed ⟨idx, d, tot, some false, some e⟩ with
      ⟨e', h, hcb, he⟩ | ⟨calls, h⟩ | ⟨calls, g, h, hcb, hg⟩
    · cases he; rw [h]; exact ⟨_, fun _ _ => rfl, .raises e [] (.inl ⟨hr, hcb⟩)⟩
    · rw [h]; exact ⟨_, fun _ _ => rfl, .skips ([] ++ calls) (.inl ⟨e, hr⟩)⟩
    · rw [h]; exact ⟨_, fun _ _ => rfl, .cancelled ([] ++ calls) hcb hg⟩
  | ok p =>
    obtain ⟨c, loc⟩ := p
    dsimp only
    cases hfm : isFileMatch t c with
    | error e => exact ⟨_, fun _ _ => rfl, .raises e [] (.inr ⟨c, loc, hr, .inl hfm⟩)⟩
    | ok b =>
      cases b with
      | false => exact skip _ [] rfl (.inr ⟨c, loc, hr, .inl hfm⟩)
      | true =>
        dsimp only
        rcases maybeCall_cases cb elapsed ⟨idx, d, tot, none, none⟩ with
          ⟨e', _, _, he⟩ | ⟨calls1, h⟩ | ⟨calls1, g, h, hcb, hg⟩
        · cases he
        · rw [h]
          simp only [Bool.false_eq_true, if_false]
          cases hcm : isContentMatch t c loc with
          | error e =>
            exact ⟨_, fun _ _ => rfl, .raises e calls1 (.inr ⟨c, loc, hr, .inr ⟨hfm, .inl hcm⟩⟩)⟩
          | ok b =>
            cases b with
            | false => exact skip _ calls1 rfl (.inr ⟨c, loc, hr, .inr ⟨hfm, hcm⟩⟩)
            | true =>
              dsimp only
              cases hcp : copy c t with
              | error e =>
                exact ⟨_, fun _ _ => rfl,
                  .raises e _ (.inr ⟨c, loc, hr, .inr ⟨hfm, .inr ⟨hcm, hcp⟩⟩⟩)⟩
              | ok t' => exact ⟨_, fun _ _ => rfl, .accepts t' _ hr ⟨hfm, hcm, hcp⟩⟩
        · rw [h]; exact ⟨_, fun _ _ => rfl, .cancelled calls1 hcb hg⟩

/-- result and torrent afterwards of a search, by the item that decides it; the callback trace is
    left out (`loop_congr` speaks of it) -/
inductive Ends (t : Tor) (cb : Callback) : List Item → Res → Tor → Prop
  | exhausted : Ends t cb [] (.ok false) t
  | raised {it rest e} : Raises t cb it e → Ends t cb (it :: rest) (.raised e) t
  | cancelled {it rest g call} : cb = some g → g call = true → Ends t cb (it :: rest) (.ok false) t
  | skip {it rest r t'} : Skips t it → Ends t cb rest r t' → Ends t cb (it :: rest) r t'
  | accepted {rest c loc t'} :
      Accepts t c loc t' → Ends t cb (.file (.torrent c) loc :: rest) (.ok true) t'

theorem loop_ends (t : Tor) (cb : Callback) (elapsed : Bool) (tot : Nat) (items : List Item) :
    ∀ idx done, Ends t cb items (loop t cb elapsed tot idx done items).1
      (loop t cb elapsed tot idx done items).2.1 := by
  induction items with
  | nil => intro idx done; rw [loop]; exact .exhausted
  | cons it rest ih =>
    intro idx done
    rw [loop_cons]
    obtain ⟨F, h, hv⟩ := round_cases t cb elapsed tot idx (if it.counted then done + 1 else done) it
    rw [h]
    cases hv with
    | raises _ _ hr => exact .raised hr
    | cancelled _ hcb hg => exact .cancelled hcb hg
    | skips _ hs => exact .skip hs (ih _ _)
    | accepts _ _ hr ha => rw [readItem_ok hr]; exact .accepted ha

theorem reuse_ends (t : Tor) (items : List Item) (cb : Callback) (elapsed : Bool) :
    Ends t cb items (reuse t items cb elapsed).1 (reuse t items cb elapsed).2.1 :=
  loop_ends t cb elapsed (total items) items 0 0

theorem Ends.cases {t : Tor} {cb : Callback} {items : List Item} {r : Res} {t' : Tor}
    (h : Ends t cb items r t') :
    (r ≠ .ok true ∧ t' = t) ∨
    (r = .ok true ∧ ∃ c loc, Item.file (.torrent c) loc ∈ items ∧ Accepts t c loc t') := by
  induction h with
  | exhausted => exact .inl ⟨nofun, rfl⟩
  | raised _ => exact .inl ⟨nofun, rfl⟩
  | cancelled _ _ => exact .inl ⟨nofun, rfl⟩
  | skip _ _ ih => exact ih.imp_right fun ⟨h1, c, loc, hm, ha⟩ => ⟨h1, c, loc, List.mem_cons_of_mem _ hm, ha⟩
  | accepted ha => exact .inr ⟨rfl, _, _, List.mem_cons_self .., ha⟩

/-- what the loop reads of the torrent: it enters through the tests of a round (`h`) and as what is
    handed back when nothing is accepted -/
theorem loop_congr {t t₁ : Tor} {cb : Callback} {elapsed : Bool}
    (h : ∀ t₀ tot idx d it next,
      round t₀ t₁ cb elapsed tot idx d it next = round t₀ t cb elapsed tot idx d it next)
    (tot : Nat) (items : List Item) : ∀ idx done,
    loop t₁ cb elapsed tot idx done items =
      ((loop t cb elapsed tot idx done items).1,
        if (loop t cb elapsed tot idx done items).1 = .ok true
          then (loop t cb elapsed tot idx done items).2.1 else t₁,
        (loop t cb elapsed tot idx done items).2.2) := by
  induction items with
  | nil => intro idx done; simp [loop]
  | cons it rest ih =>
    intro idx done
    rw [loop_cons, loop_cons, h]
    obtain ⟨F, hh, hv⟩ := round_cases t cb elapsed tot idx (if it.counted then done + 1 else done) it
    rw [hh, hh]
    cases hv with
    | skips => rw [ih]
    | _ => simp

theorem isFileMatch_iff (t : Tor) (c : Cand) :
    isFileMatch t c = .ok true ↔
      t.name = c.name ∧
      (∃ tid cid, filepathsAndSizes t.name t.single t.files = .ok tid ∧
        filepathsAndSizes c.name c.single c.files c.bytesPath = .ok cid ∧ tid.Perm cid) ∧
      t.plMin ≤ c.pieceLength ∧ c.pieceLength ≤ t.plMax := by
  unfold isFileMatch
  by_cases hn : t.name = c.name
  · cases filepathsAndSizes t.name t.single t.files with
    | error e => simp [hn]
    | ok tid =>
      cases filepathsAndSizes c.name c.single c.files c.bytesPath with
      | error e => simp [hn]
      | ok cid => by_cases hp : tid.isPerm cid = true <;> simp [hn, hp, ← List.isPerm_iff]
  · simp [hn]

theorem verifyPiece_true_iff {c : Cand} {loc : Nat → LocalPiece} {i : Nat} :
    verifyPiece c loc i = .ok (some true) ↔ ∃ d, c.hashes[i]? = some d ∧ loc i = .hash d := by
  unfold verifyPiece
  cases c.hashes[i]? with
  | none => simp
  | some stored => cases loc i <;> simp <;> exact eq_comm

theorem checkAll_true_iff {c : Cand} {loc : Nat → LocalPiece} {l : List Nat} :
    checkAll c loc l = .ok true ↔ ∀ i ∈ l, verifyPiece c loc i = .ok (some true) := by
  induction l with
  | nil => simp [checkAll]
  | cons a rest ih =>
    unfold checkAll
    cases hv : verifyPiece c loc a with
    | error e => simp [hv]
    | ok r =>
      cases r with
      | none => simp [hv]
      | some b => cases b <;> simp [hv, ih]

theorem mem_sortedSet {n : Nat} {s : List Nat} {i : Nat} (h : i ∈ sortedSet n s) : i ∈ s := by
  rcases List.mem_append.mp h with h | h
  · simpa using (List.mem_filter.mp h).2
  · exact (List.mem_filter.mp (List.mem_of_mem_take h)).1

theorem mem_sortedSet_of_lt {n : Nat} {s : List Nat} {i : Nat} (hi : i ∈ s) (hlt : i < n) :
    i ∈ sortedSet n s :=
  List.mem_append_left _ (by simp [hi, hlt])

theorem sortedSet_tail_mem {n : Nat} {s : List Nat} {i : Nat} (hi : i ∈ s) (hge : n ≤ i) :
    ∃ j, j ∈ sortedSet n s ∧ n ≤ j := by
  unfold sortedSet
  cases hf : s.filter (fun i => decide (n ≤ i)) with
  | nil =>
    have : i ∈ s.filter (fun i => decide (n ≤ i)) := List.mem_filter.mpr ⟨hi, by simpa using hge⟩
    rw [hf] at this; cases this
  | cons j rest =>
    have hj : j ∈ s.filter (fun i => decide (n ≤ i)) := hf ▸ List.mem_cons_self ..
    exact ⟨j, List.mem_append_right _ (by simp), by simpa using (List.mem_filter.mp hj).2⟩

theorem isContentMatch_iff {t : Tor} {c : Cand} {loc : Nat → LocalPiece} {s : List Nat}
    (hs : samples t c = .ok s) :
    isContentMatch t c loc = .ok true ↔ ∀ i ∈ s, ∃ d, c.hashes[i]? = some d ∧ loc i = .hash d := by
  unfold isContentMatch
  simp only [hs, checkAll_true_iff, verifyPiece_true_iff]
  refine ⟨fun hall i hi => ?_, fun h i hi => h i (mem_sortedSet hi)⟩
  by_cases hlt : i < c.hashes.length
  · exact hall i (mem_sortedSet_of_lt hi hlt)
  · -- a sample beyond the stored hashes would have been looked up, and failed
    obtain ⟨j, hj, hge⟩ := sortedSet_tail_mem hi (Nat.le_of_not_lt hlt)
    obtain ⟨d, hd, _⟩ := hall j hj
    exact absurd (List.getElem?_eq_some_iff.mp hd).1 (Nat.not_lt.mpr hge)

theorem filePosition_cases (name : String) (f : FileEnt) (files : List FileEnt) (start : Nat) :
    (∀ pos, filePosition name f files start = some pos →
      ∃ pre g post, files = pre ++ g :: post ∧ joined name g = joined name f ∧ g.size = f.size ∧
        pos = start + (pre.map (·.size)).sum ∧
        ∀ g' ∈ pre, ¬ (joined name g' = joined name f ∧ g'.size = f.size)) ∧
    (filePosition name f files start = none →
      ∀ g ∈ files, ¬ (joined name g = joined name f ∧ g.size = f.size)) := by
  induction files generalizing start with
  | nil => exact ⟨nofun, fun _ => List.forall_mem_nil _⟩
  | cons g rest ih =>
    unfold filePosition
    by_cases hg : joined name g = joined name f ∧ g.size = f.size
    · rw [if_pos hg]
      exact ⟨fun pos h => by cases h; exact ⟨[], g, rest, rfl, hg.1, hg.2, rfl, List.forall_mem_nil _⟩, nofun⟩
    · rw [if_neg hg]
      obtain ⟨ih1, ih2⟩ := ih (start + g.size)
      refine ⟨fun pos h => ?_, fun h => List.forall_mem_cons.mpr ⟨hg, ih2 h⟩⟩
      obtain ⟨pre, g2, post, rfl, h1, h2, rfl, h4⟩ := ih1 pos h
      exact ⟨g :: pre, g2, post, rfl, h1, h2, by simp [Nat.add_assoc], List.forall_mem_cons.mpr ⟨hg, h4⟩⟩

/-- the sampled pieces of one file of the torrent, located in the candidate's layout -/
def samplesOf (c : Cand) (f : FileEnt) : List Nat :=
  match filePosition c.name f c.files 0 with
  | some pos => fileSamples c.pieceLength pos f.size
  | none => []

theorem samplesOf_located {c : Cand} {f : FileEnt} {pos : Nat}
    (h : filePosition c.name f c.files 0 = some pos) :
    samplesOf c f = fileSamples c.pieceLength pos f.size := by
  rw [samplesOf, h]

theorem samples_ok_iff {c : Cand} {files : List FileEnt} {s : List Nat} :
    files.foldr (samplesStep c) (.ok []) = .ok s ↔
      (∀ f ∈ files, ∃ pos, filePosition c.name f c.files 0 = some pos) ∧
        files.flatMap (samplesOf c) = s := by
  induction files generalizing s with
  | nil => simp
  | cons a rest ih =>
    rw [List.foldr_cons, samplesStep.eq_def]
    cases hr : rest.foldr (samplesStep c) (.ok []) with
    | error e =>
      refine ⟨nofun, fun ⟨h, _⟩ => ?_⟩
      have := ih.mpr ⟨fun f hf => h f (List.mem_cons_of_mem _ hf), rfl⟩
      rw [hr] at this; cases this
    | ok l =>
      obtain ⟨hl, rfl⟩ := ih.mp hr
      cases hp : filePosition c.name a c.files 0 with
      | none => simp [hp]
      | some pos =>
        simp only [hp, Except.ok.injEq, List.flatMap_cons, samplesOf_located hp, List.forall_mem_cons]
        exact ⟨fun h => ⟨⟨⟨pos, rfl⟩, hl⟩, h⟩, fun h => h.2⟩

theorem isContentMatch_true {t : Tor} {c : Cand} {loc : Nat → LocalPiece}
    (h : isContentMatch t c loc = .ok true) :
    ∀ f ∈ t.files, ∃ pos, filePosition c.name f c.files 0 = some pos ∧
      ∀ i ∈ fileSamples c.pieceLength pos f.size, ∃ d, c.hashes[i]? = some d ∧ loc i = .hash d := by
  cases hs : samples t c with
  | error e => simp [isContentMatch, hs] at h
  | ok s =>
    obtain ⟨hloc, rfl⟩ := samples_ok_iff.mp hs
    intro f hf
    obtain ⟨pos, hpos⟩ := hloc f hf
    exact ⟨pos, hpos, fun i hi => (isContentMatch_iff hs).mp h i
      (List.mem_flatMap.mpr ⟨f, hf, samplesOf_located hpos ▸ hi⟩)⟩

theorem take_one_range' {s n : Nat} (h : 0 < n) : (List.range' s n).take 1 = [s] := by
  obtain ⟨m, rfl⟩ := Nat.exists_eq_add_one.mpr h; rfl

theorem firstPiece_le_last (pl pos : Nat) {size : Nat} (hs : 0 < size) :
    pos / pl ≤ (pos + size - 1) / pl :=
  Nat.div_le_div_right (Nat.le_sub_one_of_lt (Nat.lt_add_of_pos_right hs))

theorem fileSamples_eq (pl pos size : Nat) (hs : 0 < size) :
    fileSamples pl pos size = firstMiddleLast pl pos size := by
  unfold fileSamples firstMiddleLast pieceRange
  have hab := firstPiece_le_last pl pos hs
  simp only [Nat.ne_of_gt (Nat.add_pos_right pos hs), Nat.ne_of_gt hs, if_false]
  generalize pos / pl = a at hab ⊢
  generalize (pos + size - 1) / pl = b at hab ⊢
  -- the file lies in the pieces `a … a + n`
  obtain ⟨n, rfl⟩ : ∃ n, b = a + n := ⟨b - a, (Nat.add_sub_cancel' hab).symm⟩
  simp only [Nat.add_assoc, Nat.add_sub_cancel_left, List.drop_range', Nat.mul_one, Nat.add_sub_cancel]
  rw [take_one_range' (Nat.succ_pos n),
    take_one_range' (Nat.sub_pos_of_lt (Nat.div_lt_self (Nat.succ_pos n) (by decide)))]
  rfl

theorem copy_ok {c : Cand} {t t' : Tor} (h : copy c t = .ok t') :
    t'.pieceLength = c.pieceLength ∧ t'.pieces = some c.hashes ∧
    (c.single = false → t'.files = c.files ∧ t.files.Perm c.files) ∧
    (c.single = true → t'.files = t.files) ∧
    t'.name = t.name ∧ t'.single = t.single ∧ t'.plMin = t.plMin ∧ t'.plMax = t.plMax := by
  unfold copy at h
  cases hcs : c.single with
  | true =>
    simp only [hcs, Bool.not_true, Bool.false_eq_true, if_false, Except.ok.injEq] at h
    subst h; simp
  | false =>
    simp only [hcs, Bool.not_false, if_true] at h
    cases hts : t.single with
    | true => simp [hts] at h
    | false =>
      simp only [hts, Bool.false_eq_true, if_false] at h
      by_cases hp : t.files.isPerm c.files = true
      · simp only [hp, Bool.not_true, Bool.false_eq_true, if_false, Except.ok.injEq] at h
        subst h
        simp [List.isPerm_iff.mp hp]
      · simp [hp] at h

/-- an item that does not end the search with an exception (errors need a callback to be
    reported to; a candidate must get through the tests without an exception) -/
def NoRaise (t : Tor) (cb : Callback) : Item → Prop
  | .pathError => cb.isSome = true
  | .file (.torrent c) loc =>
      isFileMatch t c = .ok false ∨
      (isFileMatch t c = .ok true ∧ (isContentMatch t c loc = .ok false ∨
        (isContentMatch t c loc = .ok true ∧ ∃ t', copy c t = .ok t')))
  | .file _ _ => cb.isSome = true

theorem NoRaise.not_raises {t : Tor} {cb : Callback} {it : Item} (h : NoRaise t cb it) (e : Err) :
    ¬ Raises t cb it e := by
  rintro (⟨hr, hcb⟩ | ⟨c, loc, hr, hx⟩)
  · cases it with
    | pathError => rw [hcb] at h; cases h
    | file r l =>
      cases r with
      | torrent c => cases hr
      | _ => rw [hcb] at h; cases h
  · cases readItem_ok hr
    rcases h with h | ⟨h1, h | ⟨h2, t', h3⟩⟩ <;>
      rcases hx with hx | ⟨_, hx | ⟨_, hx⟩⟩ <;> simp_all

theorem Accepts.noRaise {t : Tor} {cb : Callback} {c : Cand} {loc : Nat → LocalPiece} {t' : Tor}
    (h : Accepts t c loc t') : NoRaise t cb (.file (.torrent c) loc) :=
  .inr ⟨h.1, .inr ⟨h.2.1, t', h.2.2⟩⟩

theorem Accepts.not_skips {t : Tor} {c : Cand} {loc : Nat → LocalPiece} {t' : Tor}
    (h : Accepts t c loc t') : ¬ Skips t (.file (.torrent c) loc) := by
  rintro (⟨e, hr⟩ | ⟨c', loc', hr, hx⟩)
  · cases hr
  · cases hr; obtain ⟨h1, h2, _⟩ := h; simp_all

theorem Ends.complete {t : Tor} {cb : Callback} (hp : ∀ g, cb = some g → ∀ call, g call = false)
    {pre post : List Item} {c : Cand} {loc : Nat → LocalPiece} {t' t'' : Tor} {r : Res}
    (hpre : ∀ it ∈ pre, NoRaise t cb it) (ha : Accepts t c loc t')
    (h : Ends t cb (pre ++ .file (.torrent c) loc :: post) r t'') : r = .ok true := by
  -- a first item that neither raises nor is cancelled is accepted or passed over
  have first : ∀ {it rest r t''}, NoRaise t cb it → Ends t cb (it :: rest) r t'' →
      r = .ok true ∨ (Skips t it ∧ Ends t cb rest r t'') := by
    intro it rest r t'' hn h
    cases h with
    | raised hr => exact absurd hr (hn.not_raises _)
    | cancelled hcb hg => rw [hp _ hcb] at hg; cases hg
    | skip hs h => exact .inr ⟨hs, h⟩
    | accepted _ => exact .inl rfl
  induction pre with
  | nil => exact (first ha.noRaise h).elim id fun ⟨hs, _⟩ => absurd hs ha.not_skips
  | cons it pre ih =>
    exact (first (hpre it (List.mem_cons_self ..)) h).elim id fun ⟨_, h⟩ =>
      ih (fun x hx => hpre x (List.mem_cons_of_mem _ hx)) h

end Torf.Reuse
