/-
  Torf.Lemmas.Sort — facts about the insertion sort `Torf.sortBy` (Torf/Base/Sort.lean):
  it permutes its input, its result is pairwise ordered for a total transitive `le`, and therefore
  it is determined by the multiset of its input whenever `le` is antisymmetric on the members
  (the same for core's `List.mergeSort` by a numeric key, as the collectors of the hashing pipeline
  use it);
  it leaves a pairwise ordered list as it is; it commutes with a map along which two comparisons
  agree on the members.  Also: in a list with pairwise distinct keys the key determines the member.
-/
import Torf.Base.Sort
namespace Torf

theorem eq_of_nodup_map {f : α → β} {l : List α} (h : (l.map f).Nodup) {x y : α}
    (hx : x ∈ l) (hy : y ∈ l) (e : f x = f y) : x = y := by
  have hp : l.Pairwise fun a b => f a ≠ f b := List.pairwise_map.mp h
  exact List.Pairwise.forall_of_forall_of_flip (R := fun a b => f a = f b → a = b)
    (fun _ _ _ => rfl) (hp.imp fun h e => absurd e h) (hp.imp fun h e => absurd e.symm h) hx hy e

theorem insertBy_perm (le : α → α → Bool) (a : α) (l : List α) :
    (insertBy le a l).Perm (a :: l) := by
  induction l with
  | nil => exact List.Perm.refl _
  | cons b l ih =>
    unfold insertBy
    split
    · exact List.Perm.refl _
    · exact (List.Perm.cons b ih).trans (List.Perm.swap a b l)

theorem mem_insertBy {le : α → α → Bool} {a x : α} {l : List α} :
    x ∈ insertBy le a l ↔ x = a ∨ x ∈ l := by
  rw [(insertBy_perm le a l).mem_iff, List.mem_cons]

theorem sortBy_perm (le : α → α → Bool) (l : List α) : (sortBy le l).Perm l := by
  induction l with
  | nil => exact List.Perm.refl _
  | cons a l ih => exact (insertBy_perm le a _).trans (List.Perm.cons a ih)

theorem mem_sortBy {le : α → α → Bool} {l : List α} {x : α} : x ∈ sortBy le l ↔ x ∈ l :=
  (sortBy_perm le l).mem_iff

theorem length_sortBy (le : α → α → Bool) (l : List α) : (sortBy le l).length = l.length :=
  (sortBy_perm le l).length_eq

theorem insertBy_pairwise (le : α → α → Bool)
    (htrans : ∀ x y z, le x y = true → le y z = true → le x z = true)
    (htotal : ∀ x y, le x y = true ∨ le y x = true) (a : α) (l : List α)
    (h : l.Pairwise (fun x y => le x y = true)) :
    (insertBy le a l).Pairwise (fun x y => le x y = true) := by
  induction l with
  | nil => exact List.pairwise_singleton _ _
  | cons b l ih =>
    have hb := List.pairwise_cons.mp h
    unfold insertBy
    split
    · next hab =>
      refine List.pairwise_cons.mpr ⟨fun y hy => ?_, h⟩
      rcases List.mem_cons.mp hy with rfl | hy
      · exact hab
      · exact htrans _ _ _ hab (hb.1 y hy)
    · next hab =>
      refine List.pairwise_cons.mpr ⟨fun y hy => ?_, ih hb.2⟩
      rcases mem_insertBy.mp hy with rfl | hy
      · exact (htotal y b).resolve_left hab
      · exact hb.1 y hy

theorem sortBy_pairwise (le : α → α → Bool)
    (htrans : ∀ x y z, le x y = true → le y z = true → le x z = true)
    (htotal : ∀ x y, le x y = true ∨ le y x = true) (l : List α) :
    (sortBy le l).Pairwise (fun x y => le x y = true) := by
  induction l with
  | nil => exact List.Pairwise.nil
  | cons a l ih => exact insertBy_pairwise le htrans htotal a _ ih

theorem sortBy_eq_of_perm (le : α → α → Bool) (l₁ l₂ : List α) (hp : l₁.Perm l₂)
    (htrans : ∀ x y z, le x y = true → le y z = true → le x z = true)
    (htotal : ∀ x y, le x y = true ∨ le y x = true)
    (hanti : ∀ x ∈ l₁, ∀ y ∈ l₁, le x y = true → le y x = true → x = y) :
    sortBy le l₁ = sortBy le l₂ :=
  List.Perm.eq_of_pairwise (le := fun x y => le x y = true)
    (fun a b ha hb => hanti a (mem_sortBy.mp ha) b (hp.mem_iff.mpr (mem_sortBy.mp hb)))
    (sortBy_pairwise le htrans htotal l₁) (sortBy_pairwise le htrans htotal l₂)
    ((sortBy_perm le l₁).trans (hp.trans (sortBy_perm le l₂).symm))

theorem mergeSort_key_eq_of_perm {key : α → Nat} {l m : List α} (hp : l.Perm m)
    (hm : m.Pairwise fun a b => key a ≤ key b)
    (hinj : ∀ a ∈ m, ∀ b ∈ m, key a = key b → a = b) :
    l.mergeSort (fun a b => decide (key a ≤ key b)) = m :=
  List.Perm.eq_of_pairwise (le := fun a b => decide (key a ≤ key b) = true)
    (fun a b ha hb hab hba => hinj a (hp.subset (List.mem_mergeSort.mp ha)) b hb
      (Nat.le_antisymm (of_decide_eq_true hab) (of_decide_eq_true hba)))
    (List.pairwise_mergeSort (le := fun a b => decide (key a ≤ key b))
      (fun _ _ _ h1 h2 => decide_eq_true (Nat.le_trans (of_decide_eq_true h1) (of_decide_eq_true h2)))
      (fun a b => by simpa using Nat.le_total (key a) (key b)) l)
    (hm.imp decide_eq_true) ((List.mergeSort_perm l _).trans hp)

theorem sortBy_eq_self_of_pairwise (le : α → α → Bool) (l : List α)
    (h : l.Pairwise (fun x y => le x y = true)) : sortBy le l = l := by
  induction l with
  | nil => rfl
  | cons a l ih =>
    have hb := List.pairwise_cons.mp h
    unfold sortBy
    rw [ih hb.2]
    cases l with
    | nil => rfl
    | cons b l => unfold insertBy; rw [if_pos (hb.1 b (by simp))]

theorem insertBy_map (le : β → β → Bool) (le' : α → α → Bool) (f : α → β) (a : α) (l : List α)
    (h : ∀ b ∈ l, le (f a) (f b) = le' a b) :
    insertBy le (f a) (l.map f) = (insertBy le' a l).map f := by
  induction l with
  | nil => rfl
  | cons b l ih =>
    simp only [List.map_cons, insertBy]
    rw [h b (List.mem_cons_self ..), ih fun c hc => h c (List.mem_cons_of_mem _ hc)]
    split <;> rfl

theorem sortBy_map (le : β → β → Bool) (le' : α → α → Bool) (f : α → β) (l : List α)
    (h : ∀ a ∈ l, ∀ b ∈ l, le (f a) (f b) = le' a b) :
    sortBy le (l.map f) = (sortBy le' l).map f := by
  induction l with
  | nil => rfl
  | cons a l ih =>
    simp only [List.map_cons, sortBy]
    rw [ih fun x hx y hy => h x (List.mem_cons_of_mem _ hx) y (List.mem_cons_of_mem _ hy)]
    exact insertBy_map le le' f a _ fun b hb =>
      h a (List.mem_cons_self ..) b (List.mem_cons_of_mem _ (mem_sortBy.mp hb))

end Torf
