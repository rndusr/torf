/-
  Decimal numerals and the two token readers of the bencode model.  `decNat` writes the minimal
  numeral (no leading zero) and `valDigits` reads it back; on a serialised integer or string
  followed by anything the readers return the value and what follows, as instances of
  `readDigitsInt_iff`, `readString_iff`, which say what input each reader accepts (the grammar of
  the token); what a reader leaves is shorter than its input (`read*_length`), and what it
  returns is written within the digit limit it was given (`read*_small`): the minimal numeral of
  the value of a digit run is not longer than the run (`decNat_valDigits_length`).
-/
import Torf.Model.Bencode
namespace Torf.Bencode

theorem toNat_digitByte (d : Nat) (h : d < 10) : (UInt8.ofNat (48 + d)).toNat = 48 + d := by
  simp only [UInt8.toNat_ofNat']; omega

theorem isDigit_digitByte (d : Nat) (h : d < 10) : isDigit (UInt8.ofNat (48 + d)) = true := by
  simp only [isDigit, toNat_digitByte d h, Bool.and_eq_true, decide_eq_true_eq]; omega

theorem decNat_lt (n : Nat) (h : n < 10) : decNat n = [UInt8.ofNat (48 + n)] := by
  rw [decNat]; simp [h]

theorem decNat_ge (n : Nat) (h : ¬ n < 10) :
    decNat n = decNat (n / 10) ++ [UInt8.ofNat (48 + n % 10)] := by
  rw [decNat]; simp [h]

theorem decNat_ne_nil (n : Nat) : decNat n ≠ [] := by
  by_cases h : n < 10
  · rw [decNat_lt n h]; simp
  · rw [decNat_ge n h]; simp

theorem decNat_allDigits (n : Nat) : ∀ c ∈ decNat n, isDigit c = true := by
  induction n using decNat.induct with
  | case1 n h => rw [decNat_lt n h]; exact List.forall_mem_singleton.mpr (isDigit_digitByte n h)
  | case2 n h ih =>
    rw [decNat_ge n h]
    exact List.forall_mem_append.mpr
      ⟨ih, List.forall_mem_singleton.mpr (isDigit_digitByte _ (Nat.mod_lt _ (by decide)))⟩

theorem valDigits_snoc (a : Bytes) (d : UInt8) :
    valDigits (a ++ [d]) = valDigits a * 10 + (d.toNat - 48) := by
  simp [valDigits, List.foldl_append]

theorem valDigits_decNat (n : Nat) : valDigits (decNat n) = n := by
  induction n using decNat.induct with
  | case1 n h =>
    rw [decNat_lt n h]
    simp only [valDigits, List.foldl_cons, List.foldl_nil, toNat_digitByte n h]; omega
  | case2 n h ih =>
    rw [decNat_ge n h, valDigits_snoc, ih, toNat_digitByte _ (Nat.mod_lt _ (by decide))]
    omega

theorem decNat_head_zero (n : Nat) (h : (decNat n).head? = some 48) : n = 0 := by
  induction n using decNat.induct with
  | case1 n hn =>
    rw [decNat_lt n hn, List.head?_cons, Option.some.injEq] at h
    have := congrArg UInt8.toNat h
    rw [toNat_digitByte n hn] at this
    simp at this; omega
  | case2 n hn ih =>
    -- the head of a longer numeral is the head of the numeral of `n / 10`, and `n / 10 ≠ 0`
    obtain ⟨a, t, hd⟩ := List.exists_cons_of_ne_nil (decNat_ne_nil (n / 10))
    rw [decNat_ge n hn, hd, List.cons_append, List.head?_cons] at h
    have := ih (by rw [hd, List.head?_cons]; exact h)
    omega

theorem decNat_zero : decNat 0 = [48] := by rw [decNat_lt 0 (by omega)]; rfl

theorem decNat_inj (a b : Nat) (h : decNat a = decNat b) : a = b := by
  rw [← valDigits_decNat a, ← valDigits_decNat b, h]

theorem spanDigits_eq_takeWhile_dropWhile : ∀ s : Bytes, spanDigits s = (s.takeWhile isDigit, s.dropWhile isDigit)
  | [] => rfl
  | c :: t => by
    rw [spanDigits, spanDigits_eq_takeWhile_dropWhile t, List.takeWhile_cons, List.dropWhile_cons]
    split <;> rfl

theorem spanDigits_append (ds : Bytes) (c : UInt8) (r : Bytes)
    (hd : ∀ x ∈ ds, isDigit x = true) (hc : isDigit c = false) :
    spanDigits (ds ++ c :: r) = (ds, c :: r) := by
  rw [spanDigits_eq_takeWhile_dropWhile, List.takeWhile_append_of_pos hd, List.dropWhile_append_of_pos hd,
    List.takeWhile_cons_of_neg (by simp [hc]), List.dropWhile_cons_of_neg (by simp [hc]), List.append_nil]

theorem spanDigits_eq (s : Bytes) : (spanDigits s).1 ++ (spanDigits s).2 = s := by
  rw [spanDigits_eq_takeWhile_dropWhile]; exact List.takeWhile_append_dropWhile

theorem spanDigits_all (s : Bytes) : ∀ c ∈ (spanDigits s).1, isDigit c = true := by
  rw [spanDigits_eq_takeWhile_dropWhile]; exact List.all_eq_true.mp List.all_takeWhile

theorem readDigitsInt_iff {lim : Nat} {neg : Bool} {s : Bytes} {n : Int} {r : Bytes} :
    readDigitsInt lim neg s = some (n, r) ↔
    ∃ ds, s = ds ++ 101 :: r ∧ ds ≠ [] ∧ (∀ c ∈ ds, isDigit c = true) ∧
      ¬ (ds.head? = some 48 ∧ 1 < ds.length) ∧ ds.length ≤ lim ∧
      ¬ (valDigits ds = 0 ∧ neg = true) ∧
      n = if neg then - (Int.ofNat (valDigits ds)) else Int.ofNat (valDigits ds) := by
  -- the two refusals as the model writes them
  have hb : ∀ ds : Bytes, ((ds.head? == some 48 && decide (ds.length > 1)) = true ↔
      ds.head? = some 48 ∧ 1 < ds.length) ∧
      ((valDigits ds == 0 && neg) = true ↔ valDigits ds = 0 ∧ neg = true) := fun ds => by
    simp only [Bool.and_eq_true, beq_iff_eq, decide_eq_true_eq, gt_iff_lt, and_self]
  constructor
  · intro h
    unfold readDigitsInt at h
    dsimp only at h
    split at h
    · rename_i rest heq
      simp only [Option.ite_none_left_eq_some, Option.some.injEq, Prod.mk.injEq, (hb _).1,
        (hb _).2] at h
      obtain ⟨hne, hz, hlen, h0, rfl, rfl⟩ := h
      exact ⟨_, by rw [← heq, spanDigits_eq], fun he => hne (by rw [he]; rfl), spanDigits_all s, hz,
        Nat.le_of_not_gt hlen, h0, rfl⟩
    · exact nomatch h
  · rintro ⟨ds, rfl, hne, hd, hz, hlen, h0, rfl⟩
    unfold readDigitsInt
    rw [spanDigits_append ds 101 _ hd (by decide)]
    simp only [List.isEmpty_eq_false_iff.mpr hne, Nat.not_lt.mpr hlen, (hb _).1, (hb _).2, hz, h0,
      if_false, Bool.false_eq_true]

theorem readDigitsInt_decNat (lim : Nat) (neg : Bool) (n : Nat) (rest : Bytes)
    (hl : (decNat n).length ≤ lim) (hz : ¬ (n = 0 ∧ neg = true)) :
    readDigitsInt lim neg (decNat n ++ 101 :: rest)
      = some (if neg then - (Int.ofNat n) else Int.ofNat n, rest) :=
  readDigitsInt_iff.mpr ⟨_, rfl, decNat_ne_nil n, decNat_allDigits n,
    -- a numeral that starts with `0` is `0`
    fun ⟨hh, h1⟩ => by rw [decNat_head_zero n hh, decNat_zero] at h1; exact absurd h1 (by decide),
    hl, by rwa [valDigits_decNat], by rw [valDigits_decNat]⟩

theorem readInteger_iff {lim : Nat} {s : Bytes} {n : Int} {r : Bytes} :
    readInteger lim s = some (n, r) ↔
    (∃ t, s = 45 :: t ∧ readDigitsInt lim true t = some (n, r)) ∨
      readDigitsInt lim false s = some (n, r) := by
  constructor
  · intro h
    unfold readInteger at h
    split at h
    · exact .inl ⟨_, rfl, h⟩
    · exact .inr h
  · rintro (⟨t, rfl, h⟩ | h)
    · exact h
    · -- what `readDigitsInt` accepts starts with a digit, and `-` is none
      obtain ⟨ds, rfl, hne, hd, _⟩ := readDigitsInt_iff.mp h
      obtain ⟨d, t, rfl⟩ := List.exists_cons_of_ne_nil hne
      unfold readInteger
      split
      · rename_i heq
        exact absurd ((List.cons.inj heq).1 ▸ hd d List.mem_cons_self) (by decide)
      · exact h

theorem readInteger_decInt (lim : Nat) (i : Int) (rest : Bytes) (hl : numDigits i ≤ lim) :
    readInteger lim (decInt i ++ 101 :: rest) = some (i, rest) := by
  unfold decInt
  split
  · refine readInteger_iff.mpr (.inl ⟨decNat i.natAbs ++ 101 :: rest, rfl, ?_⟩)
    rw [readDigitsInt_decNat lim true i.natAbs rest hl (by omega), if_pos rfl]
    congr 2; simp only [Int.ofNat_eq_natCast]; omega
  · refine readInteger_iff.mpr (.inr ?_)
    rw [readDigitsInt_decNat lim false i.natAbs rest hl (by simp), if_neg (by decide)]
    congr 2; simp only [Int.ofNat_eq_natCast]; omega

theorem readString_iff {lim : Nat} {s b r : Bytes} : readString lim s = some (b, r) ↔
    ∃ ds, s = ds ++ 58 :: (b ++ r) ∧ ds ≠ [] ∧ (∀ c ∈ ds, isDigit c = true) ∧ ds.length ≤ lim ∧
      valDigits ds = b.length := by
  constructor
  · intro h
    unfold readString at h
    dsimp only at h
    split at h
    · rename_i rest heq
      simp only [Option.ite_none_left_eq_some, Option.some.injEq, Prod.mk.injEq] at h
      obtain ⟨hne, hlen, hrest, rfl, rfl⟩ := h
      refine ⟨_, ?_, fun he => hne (by rw [he]; rfl), spanDigits_all s, Nat.le_of_not_gt hlen, ?_⟩
      · rw [List.take_append_drop, ← heq, spanDigits_eq]
      · rw [List.length_take, Nat.min_eq_left (Nat.le_of_not_gt hrest)]
    · exact nomatch h
  · rintro ⟨ds, rfl, hne, hd, hlen, hv⟩
    unfold readString
    rw [spanDigits_append ds 58 _ hd (by decide)]
    simp only [List.isEmpty_eq_false_iff.mpr hne, Nat.not_lt.mpr hlen, hv, List.length_append,
      Nat.not_lt.mpr (Nat.le_add_right _ _), List.take_left', List.drop_left', if_false,
      Bool.false_eq_true]

theorem readString_serBytes (lim : Nat) (b rest : Bytes) (hl : (decNat b.length).length ≤ lim) :
    readString lim (serBytes b ++ rest) = some (b, rest) :=
  readString_iff.mpr ⟨_, by rw [serBytes, List.append_assoc, List.cons_append], decNat_ne_nil _,
    decNat_allDigits _, hl, valDigits_decNat _⟩

theorem readDigitsInt_length {lim : Nat} {neg : Bool} {s : Bytes} {n : Int} {r : Bytes}
    (h : readDigitsInt lim neg s = some (n, r)) : r.length < s.length := by
  obtain ⟨ds, rfl, _⟩ := readDigitsInt_iff.mp h
  simp only [List.length_append, List.length_cons]; omega

theorem readInteger_length {lim : Nat} {s : Bytes} {n : Int} {r : Bytes}
    (h : readInteger lim s = some (n, r)) : r.length < s.length := by
  rcases readInteger_iff.mp h with ⟨t, rfl, h⟩ | h
  · exact Nat.lt_succ_of_lt (readDigitsInt_length h)
  · exact readDigitsInt_length h

theorem readString_length {lim : Nat} {s b r : Bytes} (h : readString lim s = some (b, r)) :
    r.length < s.length := by
  obtain ⟨ds, rfl, _⟩ := readString_iff.mp h
  simp only [List.length_append, List.length_cons]; omega

theorem decNat_step_length (acc r : Nat) (hr : r < 10) :
    (decNat (acc * 10 + r)).length ≤ (decNat acc).length + 1 := by
  by_cases h0 : acc = 0
  · subst h0; rw [decNat_lt _ (by omega)]; simp
  · rw [decNat_ge _ (by omega)]
    have : (acc * 10 + r) / 10 = acc := by omega
    rw [this]; simp

theorem decNat_length_le : ∀ (k n : Nat), n < 10 ^ (k + 1) → (decNat n).length ≤ k + 1
  | 0, n, h => by rw [decNat_lt n (by simpa using h)]; exact Nat.le_refl 1
  | k + 1, n, h => by
    have h1 := decNat_length_le k (n / 10)
      (by rw [Nat.div_lt_iff_lt_mul (by decide), ← Nat.pow_succ]; exact h)
    have h2 := decNat_step_length (n / 10) (n % 10) (Nat.mod_lt _ (by decide))
    rw [Nat.div_add_mod' n 10] at h2
    omega

theorem digit_val_lt (d : UInt8) (h : isDigit d = true) : d.toNat - 48 < 10 := by
  simp only [isDigit, Bool.and_eq_true, decide_eq_true_eq] at h; omega

theorem decNat_foldl_length (ds : Bytes) (hd : ∀ c ∈ ds, isDigit c = true) (acc : Nat) :
    (decNat (ds.foldl (fun a d => a * 10 + (d.toNat - 48)) acc)).length ≤
      (decNat acc).length + ds.length := by
  induction ds generalizing acc with
  | nil => simp
  | cons d t ih =>
    simp only [List.foldl_cons, List.length_cons]
    have h1 := ih (fun c hc => hd c (List.mem_cons_of_mem _ hc)) (acc * 10 + (d.toNat - 48))
    have h2 := decNat_step_length acc (d.toNat - 48) (digit_val_lt d (hd d List.mem_cons_self))
    omega

theorem decNat_valDigits_length (ds : Bytes) (hd : ∀ c ∈ ds, isDigit c = true) (hne : ds ≠ []) :
    (decNat (valDigits ds)).length ≤ ds.length := by
  cases ds with
  | nil => exact absurd rfl hne
  | cons d t =>
    simp only [valDigits, List.foldl_cons, List.length_cons, Nat.zero_mul, Nat.zero_add]
    have h1 := decNat_foldl_length t (fun c hc => hd c (List.mem_cons_of_mem _ hc)) (d.toNat - 48)
    rw [decNat_lt _ (digit_val_lt d (hd d List.mem_cons_self))] at h1
    simpa [Nat.add_comm] using h1

theorem readDigitsInt_small {lim : Nat} {neg : Bool} {s : Bytes} {n : Int} {r : Bytes}
    (h : readDigitsInt lim neg s = some (n, r)) : small lim (.int n) = true := by
  obtain ⟨ds, _, hne, hd, _, hlen, _, rfl⟩ := readDigitsInt_iff.mp h
  have : numDigits (if neg then - (Int.ofNat (valDigits ds)) else Int.ofNat (valDigits ds))
      = (decNat (valDigits ds)).length := by rw [numDigits]; split <;> simp
  exact decide_eq_true (this ▸ Nat.le_trans (decNat_valDigits_length ds hd hne) hlen)

theorem readInteger_small {lim : Nat} {s : Bytes} {n : Int} {r : Bytes}
    (h : readInteger lim s = some (n, r)) : small lim (.int n) = true := by
  rcases readInteger_iff.mp h with ⟨_, _, h⟩ | h <;> exact readDigitsInt_small h

theorem readString_small {lim : Nat} {s b r : Bytes} (h : readString lim s = some (b, r)) :
    small lim (.bytes b) = true := by
  obtain ⟨ds, _, hne, hd, hlen, hv⟩ := readString_iff.mp h
  exact decide_eq_true (hv ▸ Nat.le_trans (decNat_valDigits_length ds hd hne) hlen)

end Torf.Bencode
