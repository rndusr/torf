/-
  `flatbencode.decode` makes values in four ways only: what the two token readers return, the
  list of the values popped at an `e`, the dict `list_to_dict` makes of them.  A property of values
  that these keep (`DecClosed`) holds of whatever the decoder returns (`parse_all`); the invariant
  of the loop is that every value on the stack has it (`AllSt`; `GoodR` is what that says of the
  outcome of one iteration).  The digit limit is such a property: whatever is decoded under the
  limit `lim` only contains numerals that can be rendered within `lim` digits again
  (`parse_small`).
-/
import Torf.Lemmas.BencodeParse
namespace Torf.Bencode

structure DecClosed (lim : Nat) (P : BVal → Prop) : Prop where
  int : ∀ {s n r}, readInteger lim s = some (n, r) → P (.int n)
  bytes : ∀ {s b r}, readString lim s = some (b, r) → P (.bytes b)
  list : ∀ {l}, (∀ v ∈ l, P v) → P (.list l)
  dict : ∀ {l d}, (∀ v ∈ l, P v) → listToDict l = some d → P d

def AllSt (P : BVal → Prop) (st : List Item) : Prop := ∀ v, .val v ∈ st → P v

def GoodR (P : BVal → Prop) : StepResult → Prop
  | .done (some v) => P v
  | .done none => True
  | .cont _ st' => AllSt P st'

section
variable {lim : Nat} {P : BVal → Prop} (hP : DecClosed lim P)
include hP

theorem popUntil_all : ∀ {st : List Item} {acc : List BVal} {elem : BVal} {st' : List Item},
    AllSt P st → (∀ v ∈ acc, P v) → popUntil st acc = some (elem, st') → P elem ∧ AllSt P st'
  | [], _, _, _, _, _, h => nomatch h
  | .lst :: st, acc, elem, st', hst, hacc, h => by
    simp only [popUntil, Option.some.injEq, Prod.mk.injEq] at h
    obtain ⟨rfl, rfl⟩ := h
    exact ⟨hP.list hacc, fun v hv => hst v (List.mem_cons_of_mem _ hv)⟩
  | .dct :: st, acc, elem, st', hst, hacc, h => by
    simp only [popUntil, Option.map_eq_some_iff, Prod.mk.injEq] at h
    obtain ⟨d, hd, rfl, rfl⟩ := h
    exact ⟨hP.dict hacc hd, fun v hv => hst v (List.mem_cons_of_mem _ hv)⟩
  | .val x :: st, acc, elem, st', hst, hacc, h =>
    popUntil_all (fun v hv => hst v (List.mem_cons_of_mem _ hv))
      (List.forall_mem_cons.mpr ⟨hst x List.mem_cons_self, hacc⟩) h

omit hP in
theorem deliver_good {elem : BVal} (rest : Bytes) {st : List Item} (he : P elem)
    (hst : AllSt P st) : GoodR P (deliver elem rest st) := by
  unfold deliver
  split
  · split
    · exact he
    · trivial
  · intro v hv
    rcases List.mem_cons.mp hv with h | hv
    · cases h; exact he
    · exact hst v hv

theorem step_good (inp : Bytes) {st : List Item} (hst : AllSt P st) :
    GoodR P (step lim inp st) := by
  -- an opening marker is not a value
  have hpush : ∀ x rest, (∀ v, .val v ≠ x) → GoodR P (.cont rest (x :: st)) :=
    fun x rest hx v hv => (List.mem_cons.mp hv).elim (absurd · (hx v)) (hst v)
  rcases step_token lim inp st with hs | ⟨c, rest, rfl, hs⟩
  · rw [hs]; trivial
  rcases hs with ⟨-, elem, st', hp, hs⟩ | ⟨-, ⟨n, rest', hr, hs⟩ | hs | hs | ⟨b, rest', hr, hs⟩⟩ <;> rw [hs]
  · obtain ⟨h1, h2⟩ := popUntil_all hP (acc := []) hst (fun _ h => nomatch h) hp
    exact deliver_good rest h1 h2
  · exact deliver_good rest' (hP.int hr) hst
  · exact hpush .dct rest nofun
  · exact hpush .lst rest nofun
  · exact deliver_good rest' (hP.bytes hr) hst

theorem run_all : ∀ (f : Nat) {inp : Bytes} {st : List Item} {v : BVal},
    AllSt P st → run lim f inp st = some v → P v
  | 0, _, _, _, _, h => nomatch h
  | f + 1, inp, st, v, hst, h => by
    have hg := step_good hP inp hst
    simp only [run] at h
    split at h
    · rename_i r hr
      rw [hr] at hg
      subst h
      exact hg
    · rename_i rest st' hr
      rw [hr] at hg
      exact run_all f hg h

theorem parse_all {bs : Bytes} {v : BVal} (h : parse lim bs = some v) : P v :=
  run_all hP _ (st := []) (fun _ h => nomatch h) h

end

theorem parse_small (lim : Nat) (bs : Bytes) (v : BVal) (h : parse lim bs = some v) :
    small lim v = true :=
  parse_all ⟨readInteger_small, readString_small, smallList_iff.mpr, fun hl h => by
    obtain ⟨kvs, rfl, hk⟩ := mem_listToDict h
    exact smallKvs_iff.mpr fun p hp => ⟨of_decide_eq_true (hl _ (hk p hp).1), hl _ (hk p hp).2⟩⟩ h

end Torf.Bencode
