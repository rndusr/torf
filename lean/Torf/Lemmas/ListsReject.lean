/-
  Helper lemmas for C16, operations that raise: one that tries to store an invalid URL raises the
  URL error (`_reject`: every operation starts with a routine that `Validates` the URLs it is given,
  or is a loop of such routines), and one that raises — whatever the error — without being
  extend / += leaves the metainfo untouched (`_atomic`: the callback has not run, `urlsOp_atomic` /
  `tiersOp_atomic`, so nothing was written back).
-/
import Torf.Lemmas.Lists
namespace Torf.Lists
variable {isUrl : String → Bool}

/-- URLs an in-place edit of a URL list tries to store -/
def UOp.urls : UOp → List String
  | .insert _ u => [u] | .append u => [u] | .extend us => us | .iadd us => us
  | .replace us => us | .setItem _ u => [u] | .setSlice _ _ _ us => us
  | _ => []

def TOp.urls : TOp → List String
  | .set .none => [] | .set (.str s) => [s] | .set (.list vs) => vs.flatMap tierValUrls
  | .set .other => []
  | .insert _ v => tierValUrls v | .append v => tierValUrls v | .setItem _ v => tierValUrls v
  | .extend vs => vs.flatMap tierValUrls | .iadd vs => vs.flatMap tierValUrls
  | .replace vs => vs.flatMap tierValUrls
  | .setSlice _ _ vs => flatVals vs
  | .tier _ op => op.urls
  | _ => []

def SOp.urls : SOp → List String
  | .set .none => [] | .set (.str s) => [s] | .set (.list us) => us | .set .other => []
  | .edit op => op.urls

def SOp.atomic : SOp → Bool
  | .edit op => op.atomic | _ => true

def Op.urls : Op → List String
  | .trackers op => op.urls | .webseeds op => op.urls | .httpseeds op => op.urls

def Op.atomic : Op → Bool
  | .trackers op => op.atomic | .webseeds op => op.atomic | .httpseeds op => op.atomic

/-- the tier addressed by `torrent.trackers[ti].<op>` exists (otherwise Python raises IndexError
    before the URL is looked at) -/
def Op.tierInRange (T : Tiers) : Op → Bool
  | .trackers (.tier ti _) => (pyIndex T.length ti).isSome
  | _ => true

theorem urlsOp_reject {known items : List String} {op : UOp} {u : String}
    (hu : u ∈ op.urls) (hinv : accepts isUrl u = false) :
    (urlsOp isUrl known items op).2 = .error .url := by
  cases op <;> simp only [UOp.urls, List.mem_singleton, List.not_mem_nil] at hu
  case insert | append => subst hu; simp [urlsOp, filterIns_invalid hinv]
  case extend | iadd =>
    obtain ⟨l, h⟩ := extendLoop_invalid (known := known) (items := items) (last := none) hu hinv
    rw [urlsOp, h]
  case replace => simp [urlsOp, urlsReplace_validates.reject hu hinv]
  case setItem => subst hu; simp [urlsOp, coerce_invalid hinv]
  case setSlice => simp [urlsOp, urlsSetSlice, coerceAll_validates.reject hu hinv]

theorem seedsOp_reject {stored : Option (List String)} {op : SOp} {u : String}
    (hu : u ∈ op.urls) (hinv : accepts isUrl u = false) :
    (seedsOp isUrl stored op).2 = .error .url := by
  cases op with
  | set v =>
    cases v <;> simp only [SOp.urls, List.mem_singleton, List.not_mem_nil] at hu
    case str => subst hu; simp [seedsOp, mkSeeds, urlsReplace_validates.reject (List.mem_singleton.2 rfl) hinv]
    case list => simp [seedsOp, mkSeeds, urlsReplace_validates.reject hu hinv]
  | edit op =>
    simp only [SOp.urls] at hu
    by_cases hi : ∃ us, op = .iadd us
    · obtain ⟨us, rfl⟩ := hi
      simp only [UOp.urls] at hu
      simp only [seedsOp]
      split
      · rename_i e he; rw [urlsReplace_validates.error he]
      · rename_i items _
        obtain ⟨l, h⟩ := extendLoop_invalid (known := []) (items := items) (last := none) hu hinv
        rw [h]
    · rw [seedsOp_generic fun us h => hi ⟨us, h⟩]
      split
      · rename_i e he; rw [urlsReplace_validates.error he]
      · exact urlsOp_reject hu hinv

theorem seedsOp_atomic {stored : Option (List String)} {op : SOp} {e : Err} (ha : op.atomic = true)
    (he : (seedsOp isUrl stored op).2 = .error e) : (seedsOp isUrl stored op).1 = stored := by
  cases op with
  | set v =>
    simp only [seedsOp] at he ⊢
    generalize mkSeeds isUrl v = g at he ⊢
    cases g with
    | error _ => rfl
    | ok _ => cases he
  | edit op =>
    rw [seedsOp_generic fun us h => by subst h; cases ha] at he ⊢
    generalize getSeeds isUrl stored = g at he ⊢
    cases g with
    | error _ => rfl
    | ok items => exact congrArg (lastSeeds stored) ((urlsOp_atomic ha).none_of_error he)

theorem tiersExtendLoop_reject {T : Tiers} {last : Option Tiers} {vs : List TierVal} {u : String}
    (hu : u ∈ vs.flatMap tierValUrls) (hinv : accepts isUrl u = false) :
    ∃ T' l, tiersExtendLoop isUrl T last vs = (T', l, .error .url) := by
  induction vs generalizing T last with
  | nil => simp at hu
  | cons v vs ih =>
    unfold tiersExtendLoop
    split
    · rename_i e he; rw [tiersInsert_validates.error he]; exact ⟨T, last, rfl⟩
    · rename_i T' he
      simp only [List.flatMap_cons, List.mem_append] at hu
      rcases hu with hu | hu
      · rw [tiersInsert_validates.reject hu hinv] at he; cases he
      · exact ih hu

theorem tierOp_reject {T : Tiers} {ti : Int} {op : UOp} {u : String}
    (hu : u ∈ op.urls) (hinv : accepts isUrl u = false) (hti : (pyIndex T.length ti).isSome = true) :
    (tierOp isUrl T ti op).2 = .error .url := by
  obtain ⟨k, hpi⟩ := Option.isSome_iff_exists.1 hti
  have hk := pyIndex_lt hpi
  have hget : T[k]? = some T[k] := List.getElem?_eq_getElem hk
  simp only [tierOp, hpi, hget]
  split
  · rename_i us
    obtain ⟨l, h⟩ := extendLoop_invalid (known := (splice T k (k + 1) []).flatten)
      (items := T[k]) (last := none) (us := us) hu hinv
    rw [h]
  · exact urlsOp_reject hu hinv

theorem tiersOp_reject {T : Tiers} {op : TOp} {u : String}
    (hu : u ∈ op.urls) (hinv : accepts isUrl u = false) (hset : ∀ v, op ≠ .set v)
    (hti : (Op.trackers op).tierInRange T = true) :
    (tiersOp isUrl T op).2 = .error .url := by
  cases op <;> simp only [TOp.urls, List.not_mem_nil] at hu
  case set v => exact absurd rfl (hset v)
  case insert | append => simp [tiersOp, tiersInsert_validates.reject hu hinv]
  case extend | iadd =>
    obtain ⟨T', l, h⟩ := tiersExtendLoop_reject (T := T) (last := none) hu hinv
    rw [tiersOp, h]
  case replace => simp [tiersOp, tiersAddAll_validates.reject hu hinv]
  case setItem => simp [tiersOp, tiersSetItem, tiersSetItemT, mkURLs_validates.reject hu hinv]
  case setSlice => simp [tiersOp, tiersSetSlice, urlsReplace_validates.reject hu hinv]
  case tier ti o => exact tierOp_reject hu hinv hti

theorem mkTrackers_reject {v : TrackersVal} {u : String}
    (hu : u ∈ (TOp.set v).urls) (hinv : accepts isUrl u = false) :
    mkTrackers isUrl v = .error .url := by
  cases v <;> simp only [TOp.urls, List.mem_singleton, List.not_mem_nil] at hu
  case str => exact tiersAddAll_validates.reject (by simp [tierValUrls, hu]) hinv
  case list => exact tiersAddAll_validates.reject hu hinv

theorem trackersOp_reject {s : MI} {op : TOp} {u : String}
    (hu : u ∈ op.urls) (hinv : accepts isUrl u = false)
    (hti : ∀ T, getTrackers isUrl s = .ok T → (Op.trackers op).tierInRange T = true) :
    (trackersOp isUrl s op).2 = .error .url := by
  by_cases hset : ∃ v, op = .set v
  · obtain ⟨v, rfl⟩ := hset
    simp [trackersOp, mkTrackers_reject hu hinv]
  · have hns : ∀ v, op ≠ .set v := fun v hv => hset ⟨v, hv⟩
    rw [trackersOp_generic hns]
    split
    · rename_i e he; rw [tiersAddAll_error he]
    · rename_i T hT
      exact tiersOp_reject hu hinv hns (hti T hT)

theorem trackersOp_atomic {s : MI} {op : TOp} {e : Err} (ha : op.atomic = true)
    (he : (trackersOp isUrl s op).2 = .error e) : (trackersOp isUrl s op).1 = s := by
  by_cases hset : ∃ v, op = .set v
  · obtain ⟨v, rfl⟩ := hset
    simp only [trackersOp] at he ⊢
    generalize mkTrackers isUrl v = g at he ⊢
    cases g with
    | error _ => rfl
    | ok _ => cases he
  · have hns : ∀ v, op ≠ .set v := fun v hv => hset ⟨v, hv⟩
    rw [trackersOp_generic hns] at he ⊢
    generalize getTrackers isUrl s = g at he ⊢
    cases g with
    | error _ => rfl
    | ok T => exact congrArg (applyWritten s) ((tiersOp_atomic ha hns).none_of_error he)

theorem step_atomic {s : MI} {op : Op} {e : Err} (ha : op.atomic = true)
    (he : (step isUrl s op).2 = .error e) : (step isUrl s op).1 = s := by
  cases op with
  | trackers t => exact trackersOp_atomic ha he
  | webseeds o => simp only [step] at he ⊢; rw [seedsOp_atomic ha he]
  | httpseeds o => simp only [step] at he ⊢; rw [seedsOp_atomic ha he]

end Torf.Lists
