/-
  Torf.Lemmas.Write — normal forms of the computations of `Torf.Model.Write` and every outcome of
  the two exports with its condition (`writeStream_ok_cases`, `WriteRun` / `write_run`), which is what the
  theorems use.  `write_stream` is a prelude (`seekable()`, and for a seekable stream `seek(0)`,
  `truncate(0)`: `writeStreamBody_eq`) whose failures leave the content alone, followed by one
  `write(content)` on a stream positioned at its end (`writeB_cases`, `writeStreamBody_cases`).
-/
import Torf.Spec.Write
namespace Torf.Write
open Torf Torf.Export

theorem accepts_le (s : Stream) (n : Nat) : s.accepts n ≤ n := by
  unfold Stream.accepts; split <;> omega

theorem env_accepts_le (e : Env) (n : Nat) : e.accepts n ≤ n := by
  unfold Env.accepts; split <;> omega

theorem failsAfterOpen_false {e : Env} {n : Nat} :
    e.failsAfterOpen n = false ↔ e.accepts n = n ∧ e.closeErr = false := by
  simp only [Env.failsAfterOpen, Bool.or_eq_false_iff, decide_eq_false_iff_not, Nat.not_lt]
  exact and_congr_left' ⟨Nat.le_antisymm (env_accepts_le e n), Nat.le_of_eq ∘ Eq.symm⟩

theorem take_accepts {e : Env} {c : Bytes} (h : e.failsAfterOpen c.length = false) :
    c.take (e.accepts c.length) = c := by
  rw [(failsAfterOpen_false.mp h).1, List.take_length]

theorem enter_bind {α : Type} (f : Unit → SM α) (s : Stream) :
    (enter >>= f) s =
      if s.faultAt = some s.calls then (.error .os, { s with calls := s.calls + 1 })
      else f () { s with calls := s.calls + 1 } := by
  by_cases h : s.faultAt = some s.calls <;> simp only [bind, SM.bind, enter, h, if_true, if_false]

theorem writeB_eq (b : Bytes) (s : Stream) :
    writeB b s =
      if s.faultAt = some s.calls then (.error .os, { s with calls := s.calls + 1 })
      else if s.text then (.error .type, { s with calls := s.calls + 1 })
      else if s.readOnly then (.error .os, { s with calls := s.calls + 1 })
      else
        (if s.accepts b.length < b.length && !s.short then .error .os else .ok (),
         { ({ s with calls := s.calls + 1 } : Stream).put (b.take (s.accepts b.length)) with
             quota := s.quota.map (· - s.accepts b.length) }) :=
  enter_bind _ s

theorem writeStreamBody_eq (c : Bytes) (s : Stream) :
    writeStreamBody c s =
      if s.faultAt = some s.calls then (.error .os, { s with calls := s.calls + 1 })
      else if s.seekable then
        if s.faultAt = some (s.calls + 1) then (.error .os, { s with calls := s.calls + 2 })
        else if s.faultAt = some (s.calls + 2) then (.error .os, { s with calls := s.calls + 3, pos := 0 })
        else if s.readOnly then (.error .os, { s with calls := s.calls + 3, pos := 0 })
        else writeB c { s with calls := s.calls + 3, pos := 0, content := [] }
      else writeB c { s with calls := s.calls + 1 } := by
  obtain ⟨content, pos, seekable, append, readOnly, text, calls, faultAt, quota, short⟩ := s
  simp only [writeStreamBody, seekableQ, seek0, truncate, enter, bind, SM.bind]
  by_cases h0 : faultAt = some calls
  · simp [h0]
  · cases seekable
    · simp [h0]
    · by_cases h1 : faultAt = some (calls + 1)
      · simp [h1, SM.bind, enter]
      · by_cases h2 : faultAt = some (calls + 2)
        · simp [h2, SM.bind, enter]
        · cases readOnly <;> simp [h0, h1, h2, SM.bind, enter, resize]

theorem writeAt_nil (b : Bytes) : writeAt [] 0 b = b := by simp [writeAt]

/-- `write` on a sink, or on a stream that was emptied and rewound: the bytes land at the end, in
    append mode or not -/
theorem put_content (s : Stream) (b : Bytes) (h : s.seekable = true → s.content = [] ∧ s.pos = 0) :
    (s.put b).content = s.content ++ b := by
  unfold Stream.put
  cases hs : s.seekable
  · rfl
  · obtain ⟨hc, hp⟩ := h hs
    cases s.append <;> simp [hc, hp, writeAt_nil]

/-- What one `write(b)` can make of a stream that has the flags and the fault plan of `s` and holds
    `ct`, when the bytes land at the end.  Success: `ct` followed by the bytes `write` took, and a
    short count was not reported by raising.  Failure: the exception, a cause `s` itself shows
    (`mayFail`), and `ct` alone or followed by a proper initial segment of `b`. -/
inductive WriteOutcome (b : Bytes) (s : Stream) (ct : Bytes) : Except Exc Unit × Stream → Prop
  | ok {u s'} (content : s'.content = ct ++ b.take (s.accepts b.length))
      (short : s.accepts b.length < b.length → s.short = true) : WriteOutcome b s ct (.ok u, s')
  | error {x s'} (exc : x = .os ∨ (x = .type ∧ s.text = true))
      (cause : s.mayFail b.length = true)
      (content : s'.content = ct ∨ ∃ k, k < b.length ∧ s'.content = ct ++ b.take k) :
      WriteOutcome b s ct (.error x, s')

/-- `write(b)` on `s` after calls that moved only the call counter, the position and the content,
    and left a seekable stream empty and rewound (`hend`).  The stream `write` finds is written as
    an update of `s`, the form the leaves of `writeStreamBody_eq` have: its flags, quota and fault
    plan are then those of `s` by projection, so the outcome speaks of `s` itself, and `hn` is all
    that `mayFail` needs of the call counter. -/
theorem writeB_cases (b : Bytes) (s : Stream) {n p : Nat} {ct : Bytes}
    (hend : s.seekable = true → ct = [] ∧ p = 0) (hn : s.calls ≤ n) :
    WriteOutcome b s ct (writeB b { s with calls := n, pos := p, content := ct }) := by
  rw [writeB_eq, show ({ s with calls := n, pos := p, content := ct } : Stream).accepts b.length =
    s.accepts b.length from rfl]
  by_cases h0 : s.faultAt = some n
  · rw [if_pos h0]; exact .error (.inl rfl) (by simp [Stream.mayFail, h0, hn]) (.inl rfl)
  rw [if_neg h0]
  by_cases ht : s.text = true
  · rw [if_pos ht]; exact .error (.inr ⟨rfl, ht⟩) (by simp [Stream.mayFail, ht]) (.inl rfl)
  rw [if_neg ht]
  by_cases hr : s.readOnly = true
  · rw [if_pos hr]; exact .error (.inl rfl) (by simp [Stream.mayFail, hr]) (.inl rfl)
  rw [if_neg hr]
  have hput := put_content { s with calls := n + 1, pos := p, content := ct } (b.take (s.accepts b.length)) hend
  by_cases hk : (decide (s.accepts b.length < b.length) && !s.short) = true
  · rw [if_pos hk]
    have hlt : s.accepts b.length < b.length := by simp at hk; exact hk.1
    exact .error (.inl rfl) (by simp [Stream.mayFail, hlt]) (.inr ⟨_, hlt, hput⟩)
  · rw [if_neg hk]
    exact .ok hput fun h => by simpa [h] using hk

/-- Every outcome of the `try` block: a call before `write(content)` raises OSError and the content
    is as it was, or `write(content)` is reached on a stream that holds nothing if it was rewound
    and what it held otherwise, and the outcome is that call's. -/
theorem writeStreamBody_cases (c : Bytes) (s : Stream) :
    (∃ s', writeStreamBody c s = (.error .os, s') ∧ s'.content = s.content ∧
      s.mayFail c.length = true) ∨
    ((s.seekable = true → s.readOnly = false) ∧
      WriteOutcome c s (if s.seekable then [] else s.content) (writeStreamBody c s)) := by
  have fault : ∀ i, s.faultAt = some (s.calls + i) → s.mayFail c.length = true :=
    fun i h => by simp [Stream.mayFail, h]
  -- along the tree, one `if` at a time (`split` on a term of this size is slow)
  rw [writeStreamBody_eq]
  by_cases h0 : s.faultAt = some s.calls
  · rw [if_pos h0]; exact .inl ⟨_, rfl, rfl, fault 0 h0⟩
  rw [if_neg h0]
  by_cases hs : s.seekable = true
  · rw [if_pos hs]
    by_cases h1 : s.faultAt = some (s.calls + 1)
    · rw [if_pos h1]; exact .inl ⟨_, rfl, rfl, fault 1 h1⟩
    rw [if_neg h1]
    by_cases h2 : s.faultAt = some (s.calls + 2)
    · rw [if_pos h2]; exact .inl ⟨_, rfl, rfl, fault 2 h2⟩
    rw [if_neg h2]
    by_cases hr : s.readOnly = true
    · rw [if_pos hr]; exact .inl ⟨_, rfl, rfl, by simp [Stream.mayFail, hr]⟩
    rw [if_neg hr, if_pos hs]
    exact .inr ⟨fun _ => by simpa using hr,
      writeB_cases c s (fun _ => ⟨rfl, rfl⟩) (Nat.le_add_right _ 3)⟩
  · rw [if_neg hs, if_neg hs]
    exact .inr ⟨fun h => absurd h hs,
      writeB_cases c s (fun h => absurd h hs) (Nat.le_add_right _ 1)⟩

/-- Every outcome of `write_stream` after a successful `dump`: those of the `try` block
    (`writeStreamBody_cases`, `WriteOutcome`) with OSError reported as WriteError; a TypeError is
    not caught. -/
theorem writeStream_ok_cases (c : Bytes) (s : Stream) :
    match writeStream (.ok c) s with
    | (.ok _, s') =>
      s'.content = (if s.seekable then [] else s.content) ++ c.take (s.accepts c.length) ∧
      (s.accepts c.length < c.length → s.short = true)
    | (.error e, s') =>
      (e = .write ∨ (e = .internal "TypeError" ∧ s.text = true)) ∧ s.mayFail c.length = true ∧
      (s'.content = s.content ∨
       (s.seekable = true → s.readOnly = false) ∧
        (s'.content = (if s.seekable then [] else s.content) ∨
         ∃ k, k < c.length ∧ s'.content = (if s.seekable then [] else s.content) ++ c.take k)) := by
  have hb := writeStreamBody_cases c s
  simp only [writeStream]
  generalize writeStreamBody c s = r at hb
  rcases hb with ⟨s', rfl, hc, hf⟩ | ⟨hro, ⟨hc, hs⟩ | ⟨hx, hf, hc⟩⟩
  · exact ⟨.inl rfl, hf, .inl hc⟩
  · exact ⟨hc, hs⟩
  · rcases hx with rfl | ⟨rfl, ht⟩
    · exact ⟨.inl rfl, hf, .inr ⟨hro, hc⟩⟩
    · exact ⟨.inr ⟨rfl, ht⟩, hf, .inr ⟨hro, hc⟩⟩

/-- a normal return of `write_stream` leaves all of `c` after what the stream held when `write` was
    called, unless the stream is raw and `write` took only part (a stream that is not raw raises
    then) -/
theorem writeStream_ok_content {c : Bytes} {s s' : Stream} {u : Unit}
    (h : writeStream (.ok c) s = (.ok u, s'))
    (hraw : s.short = false ∨ c.length ≤ s.accepts c.length) :
    s'.content = (if s.seekable then [] else s.content) ++ c := by
  have hw := writeStream_ok_cases c s
  rw [h] at hw
  rw [hw.1, List.take_of_length_le (hraw.elim
    (fun hr => Nat.le_of_not_lt fun hlt => by simp [hw.2 hlt] at hr) id)]

/-- the in-memory buffer `write` dumps into is the instance `old = []`, `p = 0` -/
theorem writeStream_plain (c old : Bytes) (p : Nat) :
    writeStream (.ok c) { content := old, pos := p } =
      (.ok (), { content := c, pos := c.length, calls := 4 }) := by
  simp [writeStream, writeStreamBody_eq, writeB_eq, Stream.put, writeAt_nil, Stream.accepts]

/-- The ways through `write`, each with its condition.  `stored` gives the result by the equation `hr`
    and not in the index, so that `cases write_run h` goes through when `h` has a constructor there
    (`C17_success`, `writeFile_cases`). -/
inductive WriteRun (d : Except ErrKind Bytes) (ov : Bool) (t : Target) :
    Except ErrKind Unit × Target × List Eff → Prop
  | refused (hov : ov = false) (hex : t.env.existsAns = true) :
      WriteRun d ov t (.error .write, t, [.existsCheck])
  | dumpFailed {e} (go : ov = true ∨ t.env.existsAns = false) (hd : d = .error e) :
      WriteRun d ov t (.error e, t, (if ov then [] else [Eff.existsCheck]) ++ [.dump])
  | openFailed {c} (go : ov = true ∨ t.env.existsAns = false) (hd : d = .ok c)
      (hop : t.openFails = true) :
      WriteRun d ov t (.error .write, t, (if ov then [] else [Eff.existsCheck]) ++ [.dump, .open_])
  | stored {c r} (go : ov = true ∨ t.env.existsAns = false) (hd : d = .ok c)
      (hop : t.openFails = false)
      (hr : r = if t.env.failsAfterOpen c.length then .error .write else .ok ()) :
      WriteRun d ov t (r, { t with node := t.node.store (c.take (t.env.accepts c.length)) },
        (if ov then [] else [Eff.existsCheck]) ++ [.dump, .open_, .writeFile])

theorem write_run {d : Except ErrKind Bytes} {ov : Bool} {t : Target}
    {x : Except ErrKind Unit × Target × List Eff} (h : write d ov t = x) : WriteRun d ov t x := by
  subst h
  unfold write
  by_cases href : (!ov && t.env.existsAns) = true
  · rw [if_pos href]
    simp only [Bool.and_eq_true, Bool.not_eq_eq_eq_not, Bool.not_true] at href
    exact .refused href.1 href.2
  · rw [if_neg href]
    have go : ov = true ∨ t.env.existsAns = false := by cases ov <;> simp_all
    cases d with
    | error e => exact .dumpFailed go rfl
    | ok c =>
      simp only [writeStream_plain]
      by_cases hop : t.openFails = true
      · rw [if_pos hop]; exact .openFailed go rfl hop
      · rw [if_neg hop]
        -- `write` raising on a short count, or `close` raising: `failsAfterOpen`
        by_cases hk : t.env.accepts c.length < c.length
        · rw [if_pos hk]
          exact .stored go rfl (by simpa using hop) (by simp [Env.failsAfterOpen, hk])
        · cases hc : t.env.closeErr <;> simp only [if_neg hk, if_true, if_false, Bool.false_eq_true] <;>
            exact .stored go rfl (by simpa using hop) (by simp [Env.failsAfterOpen, hk, hc])

theorem resEq_error {r : Except ErrKind Unit} {e : ErrKind} (h : resEq r (.error e) = true) :
    r = .error e := by
  cases r <;> simp_all [resEq]

theorem target_ext {t t' : Target} (hn : t'.node = t.node) (he : t'.env = t.env) : t' = t := by
  cases t; cases t'; simp_all

end Torf.Write
