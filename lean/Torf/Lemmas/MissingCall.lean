/-
  Lemmas for C10: `_MissingPieces.__call__` taken apart.  `missingCall` is `missingGeom` (piece
  indexes, then `afterPiece`: affected files + `skipBy`; neither looks at the disk) followed by
  `mkItems` with the exceptions of the by-catch files; and what `afterPiece` decides for the last
  piece of a bad file (no loop state involved).
-/
import Torf.Lemmas.MissingGeom
namespace Torf.Missing
open Torf

/-- the `(skip_bytes, bycatch_files)` computed from the files affected by the last fake piece -/
def skipBy (L : Nat) (sizes : List Nat) (last : Nat) (affected : List Nat) : Nat × List Nat :=
  match affected.getLast? with
  | none => (0, [])
  | some next =>
    let nstart : Int := pos sizes next
    let nend : Int := (pos sizes next : Int) + sizeOf sizes next - 1
    let boundary : Int := (last * L + L : Nat) - 1
    if nend > boundary then ((boundary - nstart + 1).toNat, affected.dropLast)
    else (0, affected)

/-- the fake items for `count` pieces of the bad file `j` -/
def mkItems (j : Nat) (reason : ErrKind) (count : Nat) (bexc : List (Nat × ErrKind)) :
    List (Item α) :=
  (⟨none, j, (j, reason) :: (if count = 1 then bexc else [])⟩ : Item α) ::
    (List.replicate (count - 2) ⟨none, j, []⟩ ++ (if count > 1 then [⟨none, j, bexc⟩] else []))

/-- what `__call__` decides once the last fake piece `b` of file `j` is known: the bytes to skip in
    the next file and the by-catch files (`none` = ValueError); no loop state, no disk -/
def afterPiece (L : Nat) (sizes : List Nat) (b j : Nat) : Option (Nat × List Nat) :=
  match filesAtPieceIndex L sizes b with
  | none => none
  | some fs => if fs.contains j then some (skipBy L sizes b (fs.erase j)) else none

/-- the part of `_MissingPieces.__call__` that does not look at the disk: the number of fake
    pieces, the bytes to skip in the next file, the new `seen`, and the by-catch files -/
def missingGeom (L : Nat) (sizes : List Nat) (seen : List Nat) (j : Nat) :
    Option (Nat × Nat × List Nat × List Nat) :=
  let pis := pyRemoveSeen seen (pieceIndexesOfFile L sizes j)
  match pis.getLast? with
  | none => none
  | some last => (afterPiece L sizes last j).map fun r => (pis.length, r.1, seen ++ pis, r.2)

theorem missingCall_eq_geom (L : Nat) (sizes : List Nat) (disk : List (Option (List α)))
    (seen by_ : List Nat) (j : Nat) (reason : ErrKind) :
    missingCall L sizes disk seen by_ j reason =
      (missingGeom L sizes seen j).map fun g =>
        ⟨mkItems j reason g.1 (bycatchExcs sizes disk g.2.2.2), g.2.1, g.2.2.1, by_ ++ g.2.2.2⟩ := by
  unfold missingCall missingGeom afterPiece
  dsimp only
  cases (pyRemoveSeen seen (pieceIndexesOfFile L sizes j)).getLast? with
  | none => rfl
  | some last =>
    dsimp only
    cases filesAtPieceIndex L sizes last with
    | none => rfl
    | some fs =>
      dsimp only
      cases fs.contains j <;> rfl

theorem missingGeom_eq (L : Nat) (sizes : List Nat) (seen : List Nat) (j : Nat) (pis : List Nat)
    (last : Nat) (r : Nat × List Nat)
    (hpis : pyRemoveSeen seen (pieceIndexesOfFile L sizes j) = pis)
    (hlast : pis.getLast? = some last) (hr : afterPiece L sizes last j = some r) :
    missingGeom L sizes seen j = some (pis.length, r.1, seen ++ pis, r.2) := by
  unfold missingGeom
  simp only [hpis, hlast, hr]
  rfl

theorem mkItems_data (j : Nat) (reason : ErrKind) (k : Nat) (bexc : List (Nat × ErrKind)) :
    (mkItems (α := α) j reason (k + 1) bexc).map (·.data) = List.replicate (k + 1) none := by
  cases k with
  | zero => rfl
  | succ k =>
    rw [List.replicate_succ (n := k + 1), List.replicate_succ']
    simp [mkItems]

theorem mkItems_length (j : Nat) (reason : ErrKind) (k : Nat) (bexc : List (Nat × ErrKind)) :
    (mkItems (α := α) j reason (k + 1) bexc).length = k + 1 := by
  simpa using congrArg List.length (mkItems_data (α := α) j reason k bexc)

theorem mkItems_data_none (j : Nat) (reason : ErrKind) (k : Nat) (bexc : List (Nat × ErrKind))
    (it : Item α) (hit : it ∈ mkItems j reason (k + 1) bexc) : it.data = none :=
  (List.mem_replicate.mp (mkItems_data j reason k bexc ▸ List.mem_map_of_mem (f := Item.data) hit)).2

theorem mkItems_reported (j : Nat) (reason : ErrKind) (k : Nat) (bexc : List (Nat × ErrKind)) :
    reported (mkItems (α := α) j reason (k + 1) bexc) = (j, reason) :: bexc := by
  cases k <;> simp [mkItems, reported]

theorem skipBy_noreach (L : Nat) (sizes : List Nat) (last : Nat) (affected : List Nat)
    (h : ∀ next, affected.getLast? = some next → pos sizes (next + 1) ≤ last * L + L) :
    skipBy L sizes last affected = (0, affected) := by
  unfold skipBy
  split
  · rename_i hn
    rw [List.getLast?_eq_none_iff] at hn
    rw [hn]
  · rename_i next hn
    have := h next hn
    rw [pos_succ] at this
    exact if_neg (by omega)

theorem skipBy_reach (L : Nat) (sizes : List Nat) (last : Nat) (affected : List Nat) (next : Nat)
    (hn : affected.getLast? = some next) (h : last * L + L < pos sizes (next + 1)) (sk : Nat)
    (hsk : pos sizes next + sk = last * L + L) :
    skipBy L sizes last affected = (sk, affected.dropLast) := by
  unfold skipBy
  rw [pos_succ] at h
  simp only [hn]
  refine (if_pos (by omega)).trans (congrArg (·, affected.dropLast) ?_)
  omega

theorem skipBy_subset (L : Nat) (sizes : List Nat) (last : Nat) (affected : List Nat) :
    ∀ x ∈ (skipBy L sizes last affected).2, x ∈ affected := by
  unfold skipBy
  split
  · exact fun _ h => nomatch h
  · dsimp only
    split
    · exact fun _ h => List.dropLast_subset _ h
    · exact fun _ h => h

theorem not_mem_afterPiece (L : Nat) (sizes : List Nat) (b j : Nat) (r : Nat × List Nat)
    (h : afterPiece L sizes b j = some r) : j ∉ r.2 := by
  unfold afterPiece at h
  split at h
  · cases h
  · rename_i fs hfs
    split at h
    · cases h
      -- the selected files are a filter of a range, so `j` occurs among them once
      have hnd : fs.Nodup := by
        unfold filesAtPieceIndex at hfs
        dsimp only at hfs
        split at hfs <;> cases hfs
        exact List.Nodup.sublist List.filter_sublist List.nodup_range
      exact fun hj => ((hnd.mem_erase_iff).mp (skipBy_subset L sizes b _ j hj)).1 rfl
    · cases h

theorem not_mem_bycatch (L : Nat) (sizes : List Nat) (seen : List Nat) (j : Nat)
    (g : Nat × Nat × List Nat × List Nat) (h : missingGeom L sizes seen j = some g) :
    j ∉ g.2.2.2 := by
  unfold missingGeom at h
  dsimp only at h
  split at h
  · cases h
  · obtain ⟨r, hr, rfl⟩ := Option.map_eq_some_iff.mp h
    exact not_mem_afterPiece L sizes _ j r hr

/-- reading resumes at offset `sk` of file `m'`, at the end of piece `b` (or there is no file
    left and the stream ends inside piece `b`) -/
structure Resume (L : Nat) (sizes : List Nat) (b m' sk : Nat) : Prop where
  le : pos sizes m' + sk ≤ (b + 1) * L
  eq : m' < sizes.length → pos sizes m' + sk = (b + 1) * L
  inside : 0 < sk → m' < sizes.length ∧ sk < sizeOf sizes m' ∧ sk < L

/-- The files selected with the last piece `b` of the bad file `m`, apart from `m` itself, are
    files before `m` (`early`) and a block of files right after `m`.  `early` and the `c` files of
    the block that end in piece `b` become by-catch; the last file of the block is not by-catch if
    it reaches beyond the piece, and is then entered at the piece boundary.  Either way reading
    resumes in file `m + 1 + c`. -/
theorem affected_skipBy (L : Nat) (hL : 0 < L) (sizes : List Nat) (b m : Nat)
    (hm : m < sizes.length) (hb1 : b * L < pos sizes (m + 1))
    (hb2 : pos sizes (m + 1) ≤ b * L + L) :
    ∃ early c sk, afterPiece L sizes b m = some (sk, early ++ List.range' (m + 1) c) ∧
      (∀ k ∈ early, k < m ∧ atPiece L sizes b k = true) ∧ m + 1 + c ≤ sizes.length ∧
      Resume L sizes b (m + 1 + c) sk := by
  have hat : atPiece L sizes b m = true :=
    (atPiece_iff L hL sizes b m).mpr (Or.inr (Or.inl ⟨hb1, hb2⟩))
  have hmem : m ∈ (List.range sizes.length).filter (atPiece L sizes b) :=
    List.mem_filter.mpr ⟨List.mem_range.mpr hm, hat⟩
  have haff : afterPiece L sizes b m =
      some (skipBy L sizes b (((List.range sizes.length).filter (atPiece L sizes b)).erase m)) := by
    unfold afterPiece
    rw [filesAtPieceIndex_eq]
    dsimp only
    rw [if_neg fun h => List.ne_nil_of_mem hmem (List.isEmpty_iff.mp h)]
    exact if_pos (List.contains_iff_mem.mpr hmem)
  have hearly : ∀ k ∈ (List.range m).filter (atPiece L sizes b),
      k < m ∧ atPiece L sizes b k = true :=
    fun k hk => ⟨List.mem_range.mp (List.mem_filter.mp hk).1, (List.mem_filter.mp hk).2⟩
  obtain ⟨c, hcle, hdecomp, hall, hnext⟩ := affected_decomp L hL sizes b m hm hb1 hat
  generalize (List.range m).filter (atPiece L sizes b) = early at hdecomp hearly
  rw [hdecomp] at haff
  refine ⟨early, ?_⟩
  have hmul : (b + 1) * L = b * L + L := Nat.succ_mul b L
  by_cases hr : pos sizes (m + 1 + c) ≤ b * L + L
  · -- no affected file reaches beyond piece `b`
    refine ⟨c, 0, haff.trans (congrArg some ?_), hearly, hcle, hmul ▸ hr, ?_,
      fun h => absurd h (Nat.lt_irrefl 0)⟩
    · apply skipBy_noreach
      intro next hnext'
      have hlt : next < m + 1 + c := by
        rcases List.mem_append.mp (List.mem_of_getLast? hnext') with h | h
        · exact Nat.lt_of_lt_of_le (hearly next h).1
            (Nat.le_trans (Nat.le_succ m) (Nat.le_add_right _ c))
        · exact (List.mem_range'_1.mp h).2
      exact Nat.le_trans (pos_mono sizes hlt) hr
    · intro hlt
      have hna := hnext hlt
      rw [← Bool.not_eq_true, atPiece_after L hL sizes b m _ hb1
        (Nat.lt_add_right c (Nat.lt_add_one m))] at hna
      omega
  · -- the last affected file reaches beyond piece `b`: it is read from `skip` on
    obtain ⟨c0, rfl⟩ : ∃ c0, c = c0 + 1 := by
      cases c with
      | zero => exact absurd hb2 hr
      | succ c0 => exact ⟨c0, rfl⟩
    have hreach : b * L + L < pos sizes (m + 1 + c0 + 1) := Nat.lt_of_not_le hr
    have hlt : pos sizes (m + 1 + c0) < b * L + L :=
      ((atPiece_after L hL sizes b m _ hb1 (Nat.lt_add_right c0 (Nat.lt_add_one m))).mp
        (hall (m + 1 + c0) (Nat.le_add_right _ c0) (Nat.lt_add_one _))).resolve_right
        (Nat.not_le_of_lt hreach)
    obtain ⟨sk, hsk⟩ := Nat.exists_eq_add_of_le (Nat.le_of_lt hlt)
    have hp1 := pos_mono sizes (Nat.le_add_right (m + 1) c0)
    have hp2 := pos_succ sizes (m + 1 + c0)
    refine ⟨c0, sk, haff.trans (congrArg some ?_), hearly, Nat.le_of_lt hcle,
      Nat.le_of_eq (hmul ▸ hsk.symm), fun _ => hmul ▸ hsk.symm,
      fun _ => ⟨hcle, by omega, by omega⟩⟩
    rw [List.range'_1_concat, ← List.append_assoc,
      skipBy_reach L sizes b _ _ List.getLast?_concat hreach sk hsk.symm, List.dropLast_concat]

end Torf.Missing
