/-
  Torf.Lemmas.Attrs — helper lemmas for property C09 (attribute-layer invariant).

  Each setter is described once by how it ENDS — a `piece_size` assignment by `Stored` / `PlStep`, the
  content operations and the callback of the filter lists by `EndsCore` / `Ends`, an operation on a
  filter list by `EndsL`, the two bound assignments by one development over `b : Bound` — and a
  predicate on states is carried through all of them by saying what it needs of those endings:
  `Pres` (of `_set_files` and `path = None`, under a condition on the outcome), `PresOps` (of the
  other operations); `apply_pres` is then the step, `run_pres` the history.  The invariant is three
  predicates that read different fields, with an instance each: `Bounded`, `InvS` (together `InvW`)
  and `PlPresent`.  Discard (`apply_same`) goes the same way, through `Kept s s'`: `s' = s`, or the
  hashes are gone.
-/
import Torf.Spec.Attrs
import Torf.Lemmas.Fold
import Torf.Lemmas.Basics
namespace Torf.Attrs

theorem maxPieces_pos (size : Nat) : 0 < maxPieces size := by
  unfold maxPieces; split <;> (try split) <;> (try split) <;> omega

theorem pow2Search_spec (size mp : Nat) : ∀ fuel e, size ≤ 2 ^ (e + fuel) * mp →
    ∃ k, e ≤ k ∧ pow2Search size mp fuel e = 2 ^ k ∧ size ≤ 2 ^ k * mp ∧
      (e < k → ¬ size ≤ 2 ^ (k - 1) * mp) := by
  intro fuel
  induction fuel with
  | zero => intro e h; exact ⟨e, Nat.le_refl _, rfl, h, fun hk => absurd hk (Nat.lt_irrefl _)⟩
  | succ n ih =>
    intro e h
    unfold pow2Search
    split
    · rename_i hle; exact ⟨e, Nat.le_refl _, rfl, hle, fun hk => absurd hk (Nat.lt_irrefl _)⟩
    · rename_i hne
      obtain ⟨k, hk, e1, h1, h2⟩ := ih (e + 1) (by rw [show e + 1 + n = e + (n + 1) by omega]; exact h)
      refine ⟨k, by omega, e1, h1, fun _ => ?_⟩
      by_cases hk1 : e + 1 < k
      · exact h2 hk1
      · rw [show k - 1 = e by omega]; exact hne

theorem rawPieceSize_least (size : Nat) (h : ¬ 2 * size ≤ maxPieces size) :
    ∃ k, rawPieceSize size = 2 ^ k ∧ size ≤ 2 ^ k * maxPieces size ∧
      (0 < k → ¬ size ≤ 2 ^ (k - 1) * maxPieces size) := by
  unfold rawPieceSize
  simp only [h, if_false]
  -- `size` steps are enough: `size ≤ 2 ^ size`
  have hfuel : size ≤ 2 ^ (0 + size) * maxPieces size :=
    calc size ≤ 2 ^ size := Nat.le_of_lt Nat.lt_two_pow_self
      _ = 2 ^ (0 + size) * 1 := by rw [Nat.zero_add, Nat.mul_one]
      _ ≤ 2 ^ (0 + size) * maxPieces size := Nat.mul_le_mul_left _ (maxPieces_pos size)
  obtain ⟨k, _, hk⟩ := pow2Search_spec size (maxPieces size) size 0 hfuel
  exact ⟨k, hk⟩

theorem rawPieceSize_cases (size : Nat) :
    rawPieceSize size = 0 ∨ ∃ k, rawPieceSize size = 2 ^ k := by
  by_cases h : 2 * size ≤ maxPieces size
  · left; unfold rawPieceSize; simp only [h, if_true]
  · obtain ⟨k, hk, _⟩ := rawPieceSize_least size h
    exact Or.inr ⟨k, hk⟩

theorem pow_mult16 (k : Nat) (h : 16384 ≤ 2 ^ k) : Mult16 (2 ^ k) := by
  have hk : 14 ≤ k := by
    apply Nat.le_of_not_lt
    intro hlt
    have := Nat.pow_le_pow_right (n := 2) (by omega) (by omega : k ≤ 13)
    omega
  refine ⟨by omega, ?_⟩
  rw [show k = 14 + (k - 14) by omega, Nat.pow_add]
  exact Nat.mul_mod_right ..

theorem mult16_max {a b : Nat} (ha : Mult16 a) (hb : Mult16 b) : Mult16 (max a b) := by
  rw [Nat.max_def]; split <;> assumption

theorem mult16_min {a b : Nat} (ha : Mult16 a) (hb : Mult16 b) : Mult16 (min a b) := by
  rw [Nat.min_def]; split <;> assumption

theorem calc_raw_or_bound (size mn mx : Nat) :
    (calcPieceSize size mn mx = rawPieceSize size ∧ mn < rawPieceSize size) ∨
      calcPieceSize size mn mx = mn ∨ calcPieceSize size mn mx = mx := by
  unfold calcPieceSize; omega

theorem calc_shape (size mn mx : Nat) :
    (∃ k, calcPieceSize size mn mx = 2 ^ k) ∨ calcPieceSize size mn mx = mn ∨
      calcPieceSize size mn mx = mx := by
  rcases calc_raw_or_bound size mn mx with ⟨e, hlt⟩ | h
  · rcases rawPieceSize_cases size with h0 | ⟨k, hk⟩
    · omega
    · exact Or.inl ⟨k, e.trans hk⟩
  · exact Or.inr h

theorem calc_bounds (size mn mx : Nat) (h : mn ≤ mx) :
    mn ≤ calcPieceSize size mn mx ∧ calcPieceSize size mn mx ≤ mx := by
  unfold calcPieceSize; omega

theorem calc_mult16 (size mn mx : Nat) (hmn : Mult16 mn) (hmx : Mult16 mx) :
    Mult16 (calcPieceSize size mn mx) := by
  rcases calc_raw_or_bound size mn mx with ⟨e, hlt⟩ | e | e
  · -- a power of two above a multiple of 16 KiB
    rcases rawPieceSize_cases size with h0 | ⟨k, hk⟩
    · omega
    · rw [e, hk]; exact pow_mult16 k (by have := hmn.2; have := hmn.1; omega)
  · rw [e]; exact hmn
  · rw [e]; exact hmx

theorem sumSizes_pos_of_any (fs : List FileEnt) (h : fs.any (fun f => decide (0 < f.size)) = true) :
    0 < sumSizes fs := by
  induction fs with
  | nil => simp at h
  | cons a t ih =>
    simp only [List.any_cons, Bool.or_eq_true, decide_eq_true_eq] at h
    simp only [sumSizes, List.map_cons, List.sum_cons] at *
    rcases h with h | h
    · omega
    · have := ih h; omega

theorem sizeC_pos (c : Content) (h : ContentOk c) (hne : c ≠ .none) : 0 < sizeC c := by
  cases c with
  | none => exact absurd rfl hne
  | single n => exact h
  | multi fs => exact sumSizes_pos_of_any fs h

theorem any_sortFiles (fs : List FileEnt) (p : FileEnt → Bool) :
    (sortFiles fs).any p = fs.any p :=
  (List.mergeSort_perm fs lePath).any_eq

theorem place_contentOk (nm : Option String) (kept : List (Path × Nat)) (bp : Path) :
    ContentOk (place nm kept bp).1 := by
  unfold place
  split
  · exact True.intro
  · rename_i hc
    obtain ⟨f, hf, hp⟩ : ∃ f ∈ kept, 0 < f.2 := by
      simp only [Bool.or_eq_true, not_or, List.all_eq_true, beq_iff_eq, Classical.not_forall] at hc
      obtain ⟨_, f, hf, hp⟩ := hc
      exact ⟨f, hf, Nat.pos_of_ne_zero hp⟩
    have multi_ok : ContentOk (.multi (sortFiles (kept.map fun f => ⟨f.1.drop bp.length, f.2⟩))) := by
      show (sortFiles _).any _ = true
      rw [any_sortFiles]
      simp only [List.any_map, List.any_eq_true, Function.comp, decide_eq_true_eq]
      exact ⟨f, hf, hp⟩
    split
    · rw [List.mem_singleton] at hf
      subst hf
      split
      · exact hp
      · exact multi_ok
    · exact multi_ok

section readd
variable {α : Type} [DecidableEq α]

/-- **model = specification** for the re-adding loop of `__setitem__` -/
theorem readd_eq_dedupFirst (l : List α) : ML.readd l = dedupFirst l := by
  refine (firstOcc_loop (kf := dedupFirst) rfl (fun _ _ => rfl)
    (lp := fun acc l => l.foldl (fun acc x => if acc.contains x then acc else acc ++ [x]) acc) (fun _ => rfl)
    (fun acc x xs => by simp only [List.foldl_cons, List.contains_eq_mem, decide_eq_true_eq]) l []).trans ?_
  simp

theorem mem_dedupFirst (l : List α) (y : α) : y ∈ dedupFirst l ↔ y ∈ l :=
  firstOcc_mem rfl (fun _ _ => rfl) l y

theorem nodup_dedupFirst (l : List α) : (dedupFirst l).Nodup :=
  firstOcc_nodup rfl (fun _ _ => rfl) l

theorem dedupFirst_of_nodup (l : List α) (h : l.Nodup) : dedupFirst l = l :=
  firstOcc_of_nodup rfl (fun _ _ => rfl) l h

omit [DecidableEq α] in
theorem spliced_all (l vs : List α) : ML.spliced l 0 none vs = vs := by
  simp [ML.spliced]

omit [DecidableEq α] in
theorem nodup_reverse {l : List α} (h : l.Nodup) : l.reverse.Nodup := by
  unfold List.Nodup at h ⊢
  rw [List.pairwise_reverse]
  exact h.imp (fun hab => fun e => hab e.symm)

end readd

def LOk {α : Type} (valid : α → Bool) (l : List α) : Prop := l.Nodup ∧ l.all valid = true

section lists
variable {α : Type} [DecidableEq α] (valid : α → Bool)

omit [DecidableEq α] in
theorem lok_iff {l : List α} : LOk valid l ↔ l.Nodup ∧ ∀ y ∈ l, valid y = true := by
  unfold LOk; rw [List.all_eq_true]

omit [DecidableEq α] in
theorem lok_reverse {l : List α} (h : LOk valid l) : LOk valid l.reverse :=
  ⟨nodup_reverse h.1, by rw [List.all_reverse]; exact h.2⟩

omit [DecidableEq α] in
theorem lok_sublist {l l' : List α} (h : LOk valid l) (hs : l'.Sublist l) : LOk valid l' := by
  rw [lok_iff] at h ⊢
  exact ⟨List.Nodup.sublist hs h.1, fun y hy => h.2 y (hs.subset hy)⟩

omit [DecidableEq α] in
theorem lok_insert {l : List α} {v : α} (h : LOk valid l) (hv : valid v = true) (hn : v ∉ l) (p : Nat) :
    LOk valid (l.take p ++ v :: l.drop p) := by
  have hp := take_cons_drop_perm l p v
  rw [lok_iff] at h ⊢
  refine ⟨hp.nodup_iff.2 (List.nodup_cons.2 ⟨hn, h.1⟩), fun y hy => ?_⟩
  rcases List.mem_cons.1 (hp.mem_iff.1 hy) with e | hy
  · rw [e]; exact hv
  · exact h.2 y hy

theorem lok_readd {l : List α} (h : ∀ y ∈ l, valid y = true) : LOk valid (ML.readd l) := by
  rw [readd_eq_dedupFirst, lok_iff]
  exact ⟨nodup_dedupFirst l, fun y hy => h y ((mem_dedupFirst l y).1 hy)⟩

theorem lok_readd_spliced {l vs : List α} (h : LOk valid l) (hv : vs.all valid = true) (a : Nat)
    (b : Option Nat) : LOk valid (ML.readd (ML.spliced l a b vs)) := by
  apply lok_readd
  intro y hy
  rcases mem_take_append_drop hy with hy | hy
  · exact ((lok_iff valid).1 h).2 y hy
  · exact List.all_eq_true.1 hv y hy

theorem lok_readd_set {l : List α} {v : α} (h : LOk valid l) (hv : valid v = true) (j : Nat) :
    LOk valid (ML.readd (l.set j v)) := by
  apply lok_readd
  intro y hy
  rcases List.mem_or_eq_of_mem_set hy with hy | hy
  · exact ((lok_iff valid).1 h).2 y hy
  · rw [hy]; exact hv

/-- the list `insertL` writes (`appendL`: `p = l.length`): an item that is already there is skipped -/
theorem lok_insert_new {l : List α} {v : α} (h : LOk valid l) (hv : valid v = true) (p : Nat) :
    LOk valid (if l.contains v then l else l.take p ++ v :: l.drop p) := by
  split
  · exact h
  · rename_i hc
    exact lok_insert valid h hv (by simpa using hc) p

theorem lok_append_new {l : List α} {v : α} (h : LOk valid l) (hv : valid v = true) :
    LOk valid (if l.contains v then l else l ++ [v]) := by
  have := lok_insert_new valid h hv l.length
  rwa [List.take_length, List.drop_length] at this

end lists

/-- everything in `Inv` except the two clauses about the piece length -/
def Pre (s : St) : Prop :=
  s.pmin ≤ s.pmax ∧ Mult16 s.pmin ∧ Mult16 s.pmax ∧ ContentOk s.content ∧ StampOk s

theorem Inv.weak {s : St} (h : Inv s) : InvW s :=
  ⟨h.1, h.2.1, h.2.2.1, h.2.2.2.1, h.2.2.2.2.2.1, h.2.2.2.2.2.2⟩

theorem Inv.plp {s : St} (h : Inv s) : PlPresent s := h.2.2.2.2.1

theorem Inv.of_weak {s : St} (h : InvW s) (hp : PlPresent s) : Inv s :=
  ⟨h.1, h.2.1, h.2.2.1, h.2.2.2.1, hp, h.2.2.2.2.1, h.2.2.2.2.2⟩

/-- the part of the invariant about the piece length and its bounds (it reads `pmin`, `pmax`, `pl` and
    nothing else): `InvW` is this and `InvS`, `Inv` is this, `InvS` and `PlPresent` -/
def Bounded (s : St) : Prop := s.pmin ≤ s.pmax ∧ Mult16 s.pmin ∧ Mult16 s.pmax ∧ PlOk s

theorem InvW.bounded {s : St} (h : InvW s) : Bounded s := ⟨h.1, h.2.1, h.2.2.1, h.2.2.2.1⟩

theorem InvW.plOk {s : St} (h : InvW s) : PlOk s := h.2.2.2.1

theorem InvW.stamp {s : St} (h : InvW s) : InvS s := ⟨h.2.2.2.2.1, h.2.2.2.2.2⟩

theorem Inv.stamp {s : St} (h : Inv s) : InvS s := h.weak.stamp

theorem InvW.of_parts {s : St} (hb : Bounded s) (hs : InvS s) : InvW s :=
  ⟨hb.1, hb.2.1, hb.2.2.1, hb.2.2.2, hs.1, hs.2⟩

theorem plOk_of_none {s : St} (h : s.pl = none) : PlOk s := by
  unfold PlOk; rw [h]; exact True.intro

theorem PlOk.of_some {s : St} (h : PlOk s) {pl : Nat} (hp : s.pl = some pl) :
    Mult16 pl ∧ s.pmin ≤ pl ∧ pl ≤ s.pmax := by
  unfold PlOk at h; rw [hp] at h; exact h

theorem StampOk.current {s : St} (hs : StampOk s) {g : Ghost} (hg : s.pieces = some g) : Current s g := by
  unfold StampOk at hs; rw [hg] at hs; exact hs

theorem StampOk.size_pos {s : St} (hs : StampOk s) {g : Ghost} (hg : s.pieces = some g) :
    0 < size s :=
  (hs.current hg).2.2.2.2

theorem stampOk_of_none {s : St} (h : s.pieces = none) : StampOk s := by
  unfold StampOk; rw [h]; exact True.intro

theorem StampOk.pieces_none {s : St} (hs : StampOk s) (hz : size s ≤ 0) : s.pieces = none := by
  cases hg : s.pieces with
  | none => rfl
  | some g => have := hs.size_pos hg; omega

theorem divisible_iff {x : Int} : divisible x = true ↔ 0 < x ∧ x % 16384 = 0 := by
  simp only [divisible, Bool.and_eq_true, decide_eq_true_eq, beq_iff_eq]

theorem divisible_toNat {x : Int} (h : divisible x = true) : Mult16 x.toNat ∧ (x.toNat : Int) = x := by
  rw [divisible_iff] at h
  unfold Mult16; omega

theorem divisible_of_mult16 {n : Nat} (h : Mult16 n) : divisible (n : Int) = true := by
  rw [divisible_iff]; unfold Mult16 at h; omega

/-- the state written by a successful `piece_size` assignment -/
def stored (s : St) (n : Nat) : St :=
  { s with pieces := if s.pl ≠ some n then none else s.pieces, pl := some n }

theorem checkAndStore_accept {s : St} {x : Int} (hd : divisible x = true) (h1 : (s.pmin : Int) ≤ x)
    (h2 : x ≤ (s.pmax : Int)) : checkAndStore s x = (stored s x.toNat, .ok) := by
  unfold checkAndStore
  rw [if_neg (by rw [hd]; decide), if_neg (by rw [decide_eq_true h1, decide_eq_true h2]; decide)]
  rfl

theorem checkAndStore_nat {s : St} {n : Nat} (hn : Mult16 n) (h1 : s.pmin ≤ n) (h2 : n ≤ s.pmax) :
    checkAndStore s n = (stored s n, .ok) := by
  rw [checkAndStore_accept (divisible_of_mult16 hn) (by omega) (by omega), Int.toNat_natCast]

theorem checkAndStore_refuse {s : St} {x : Int}
    (h : ¬ (divisible x = true ∧ (s.pmin : Int) ≤ x ∧ x ≤ (s.pmax : Int))) :
    checkAndStore s x = (s, .err .pieceSize) := by
  unfold checkAndStore
  by_cases hd : divisible x = true
  · rw [if_neg (by rw [hd]; decide), if_pos]
    have hb : ¬ ((s.pmin : Int) ≤ x ∧ x ≤ (s.pmax : Int)) := fun hb => h ⟨hd, hb⟩
    simp only [Bool.not_eq_true', Bool.and_eq_false_iff, decide_eq_false_iff_not]
    omega
  · rw [if_pos (by simpa using hd)]

theorem checkAndStore_cases (s : St) (x : Int) :
    checkAndStore s x = (s, .err .pieceSize) ∨
    ∃ n : Nat, (n : Int) = x ∧ Mult16 n ∧ s.pmin ≤ n ∧ n ≤ s.pmax ∧
      checkAndStore s x = (stored s n, .ok) := by
  by_cases h : divisible x = true ∧ (s.pmin : Int) ≤ x ∧ x ≤ (s.pmax : Int)
  · obtain ⟨hm, hx⟩ := divisible_toNat h.1
    exact Or.inr ⟨x.toNat, hx, hm, by omega, by omega, checkAndStore_accept h.1 h.2.1 h.2.2⟩
  · exact Or.inl (checkAndStore_refuse h)

/-- what the checks of the `piece_size` setter do to the state: nothing (the value is refused), or
    a multiple of 16 KiB within the bounds is stored -/
inductive Stored (s : St) : St → Prop
  | refused : Stored s s
  | ok (n : Nat) (hn : Mult16 n) (h1 : s.pmin ≤ n) (h2 : n ≤ s.pmax) : Stored s (stored s n)

/-- what a `piece_size` assignment does to the state: `None` without content removes the piece
    length; everything else goes through the checks -/
inductive PlStep (s : St) : St → Prop
  | drop (hz : size s ≤ 0) : PlStep s { s with pl := none }
  | checked {s' : St} (h : Stored s s') : PlStep s s'

theorem checkAndStore_stored (s : St) (x : Int) : Stored s (checkAndStore s x).1 := by
  rcases checkAndStore_cases s x with e | ⟨n, _, hn, h1, h2, e⟩ <;> rw [e]
  · exact .refused
  · exact .ok n hn h1 h2

/-- a `piece_size = v` / bound assignment fails only with the setter's own `PieceSizeError`: that is
    never a failure of the recalculation -/
theorem checkAndStore_not_faulted (s : St) (x : Int) : (checkAndStore s x).2.faulted = false := by
  rcases checkAndStore_cases s x with h1 | ⟨n, _, _, _, _, h1⟩ <;> rw [h1] <;> rfl

theorem PlStep.shape {s s' : St} (h : PlStep s s') : ∃ pl pieces, s' = { s with pl := pl, pieces := pieces } := by
  cases h with
  | drop => exact ⟨none, s.pieces, rfl⟩
  | checked h =>
    cases h with
    | refused => exact ⟨s.pl, s.pieces, rfl⟩
    | ok n => exact ⟨some n, _, rfl⟩

theorem PlStep.bounds {s s' : St} (h : PlStep s s') : s'.pmin = s.pmin ∧ s'.pmax = s.pmax := by
  obtain ⟨_, _, rfl⟩ := h.shape; exact ⟨rfl, rfl⟩

/-- the way the content and `piece_size` setters treat the hashes: the state is not changed at
    all, or the hashes are dropped -/
def Kept (s s' : St) : Prop := s' = s ∨ s'.pieces = none

theorem Kept.stampOk {s s' : St} (h : Kept s s') (hs : StampOk s) : StampOk s' := by
  rcases h with e | e
  · rw [e]; exact hs
  · exact stampOk_of_none e

theorem Kept.keeps_none {s s' : St} (h : Kept s s') (hn : s.pieces = none) : s'.pieces = none := by
  rcases h with e | e
  · rw [e]; exact hn
  · exact e

theorem Stored.kept {s s' : St} (h : Stored s s') : Kept s s' := by
  cases h with
  | refused => exact Or.inl rfl
  | ok n =>
    -- the piece length was `n` already and nothing changes, or the hashes are dropped
    unfold stored
    by_cases hpl : s.pl = some n
    · left; rw [if_neg (not_not_intro hpl), ← hpl]
    · right; exact if_pos hpl

theorem PlStep.kept {s s' : St} (h : PlStep s s') (hs : StampOk s) : Kept s s' := by
  cases h with
  | drop hz => exact Or.inr (hs.pieces_none hz)
  | checked h => exact h.kept

theorem PlStep.keeps_none {s s' : St} (h : PlStep s s') (hn : s.pieces = none) : s'.pieces = none :=
  (h.kept (stampOk_of_none hn)).keeps_none hn

theorem PlStep.invS {s s' : St} (h : PlStep s s') (hi : InvS s) : InvS s' := by
  refine ⟨?_, (h.kept hi.2).stampOk hi.2⟩
  obtain ⟨_, _, rfl⟩ := h.shape
  exact hi.1

theorem PlStep.bounded {s s' : St} (h : PlStep s s') (hi : Bounded s) : Bounded s' := by
  cases h with
  | drop hz => exact ⟨hi.1, hi.2.1, hi.2.2.1, True.intro⟩
  | checked h =>
    cases h with
    | refused => exact hi
    | ok n hn h1 h2 => exact ⟨hi.1, hi.2.1, hi.2.2.1, hn, h1, h2⟩

theorem PlStep.invW {s s' : St} (h : PlStep s s') (hi : InvW s) : InvW s' :=
  .of_parts (h.bounded hi.bounded) (h.invS hi.stamp)

theorem PlStep.plp {s s' : St} (h : PlStep s s') (hi : PlPresent s) : PlPresent s' := by
  cases h with
  | drop hz => exact fun hpos => absurd hpos (Nat.not_lt.2 hz)
  | checked h =>
    cases h with
    | refused => exact hi
    | ok n => exact fun _ => rfl

theorem checkAndStore_plStep (s : St) (x : Int) : PlStep s (checkAndStore s x).1 :=
  .checked (checkAndStore_stored s x)

theorem checkAndStore_inv {s : St} (h : Inv s) (x : Int) : Inv (checkAndStore s x).1 :=
  Inv.of_weak ((checkAndStore_plStep s x).invW h.weak) ((checkAndStore_plStep s x).plp h.plp)

theorem setPieceSize_plStep (s : St) (v : Option Int) : PlStep s (setPieceSize s v).1 := by
  cases v with
  | some x => exact checkAndStore_plStep s x
  | none =>
    unfold setPieceSize; simp only
    split
    · rename_i hz; exact .drop hz
    · exact checkAndStore_plStep s _

theorem setPieceSize_none_inv {s : St} (h : Pre s) : Inv (setPieceSize s none).1 := by
  have hs := ((setPieceSize_plStep s none).kept h.2.2.2.2).stampOk h.2.2.2.2
  unfold setPieceSize at hs ⊢
  simp only at hs ⊢
  by_cases hz : size s ≤ 0
  · rw [if_pos hz] at hs ⊢
    exact ⟨h.1, h.2.1, h.2.2.1, True.intro, fun hpos => absurd hpos (Nat.not_lt.2 hz), h.2.2.2.1, hs⟩
  · -- the computed value passes both checks
    have hb := calc_bounds (size s) s.pmin s.pmax h.1
    have hm := calc_mult16 (size s) s.pmin s.pmax h.2.1 h.2.2.1
    rw [if_neg hz, checkAndStore_nat hm hb.1 hb.2] at hs ⊢
    exact ⟨h.1, h.2.1, h.2.2.1, ⟨hm, hb.1, hb.2⟩, fun _ => rfl, h.2.2.2.1, hs⟩

theorem recalc_cases (env : Env) (s : St) :
    (size s ≤ 0 ∧ recalc env s = ({ s with pl := none }, .ok)) ∨
    (0 < size s ∧ (recalc env s).1 = s ∧ (recalc env s).2.faulted = true) ∨
    (0 < size s ∧ ∃ n : Nat, Mult16 n ∧ s.pmin ≤ n ∧ n ≤ s.pmax ∧ recalc env s = (stored s n, .ok)) := by
  unfold recalc
  split
  · rename_i hz; exact Or.inl ⟨hz, rfl⟩
  · rename_i hz
    have hpos : 0 < size s := by omega
    right
    split
    · left; exact ⟨hpos, rfl, rfl⟩
    · rename_i x _
      rcases checkAndStore_cases s x with h1 | ⟨n, _, hn, ha, hb, h1⟩
      · left; rw [h1]; exact ⟨hpos, rfl, rfl⟩
      · right; rw [h1]; exact ⟨hpos, n, hn, ha, hb, rfl⟩

theorem recalc_plStep (env : Env) (s : St) : PlStep s (recalc env s).1 := by
  rcases recalc_cases env s with ⟨hz, e⟩ | ⟨_, e, _⟩ | ⟨_, n, hn, ha, hb, e⟩ <;> rw [e]
  · exact .drop hz
  · exact .checked .refused
  · exact .checked (.ok n hn ha hb)

theorem recalc_plp (env : Env) (s : St) (hnf : (recalc env s).2.faulted = false) :
    PlPresent (recalc env s).1 := by
  rcases recalc_cases env s with ⟨hz, e⟩ | ⟨_, _, hf⟩ | ⟨_, n, _, _, _, e⟩
  · rw [e]; intro hpos; change 0 < size s at hpos; omega
  · rw [hf] at hnf; exact Bool.noConfusion hnf
  · rw [e]; intro _; rfl

theorem recalc_ok_or_faulted (env : Env) (s : St) :
    (recalc env s).2 = .ok ∨ (recalc env s).2.faulted = true := by
  rcases recalc_cases env s with ⟨_, e⟩ | ⟨_, _, hf⟩ | ⟨_, n, _, _, _, e⟩
  · left; rw [e]
  · right; exact hf
  · left; rw [e]

theorem calcOf_stock {env : Env} (hr : env.rules = []) (size pmin pmax : Nat) :
    calcOf env size pmin pmax =
      if floatLimit ≤ size then .raise "OverflowError" else .value (calcPieceSize size pmin pmax : Nat) := by
  unfold calcOf; rw [hr]; rfl

/-- **bridge to the stock class**: where the class's `calculate_piece_size` is the integer
    function (no clause of an override applies, the size is below the float limit), the `None`
    route leaves exactly the state of `setPieceSize s none` -/
theorem recalc_stock (env : Env) (s : St)
    (hc : calcOf env (size s) s.pmin s.pmax = .value (calcPieceSize (size s) s.pmin s.pmax : Nat)) :
    (recalc env s).1 = (setPieceSize s none).1 ∧
    ((recalc env s).2 = .ok ↔ (setPieceSize s none).2 = .ok) := by
  unfold recalc setPieceSize
  simp only
  split
  · exact ⟨rfl, Iff.rfl⟩
  · rw [hc]
    simp only
    generalize checkAndStore s _ = r
    obtain ⟨s', res⟩ := r
    cases res <;> simp

theorem setPieceSizeE_plStep (env : Env) (s : St) (v : Option Int) :
    PlStep s (setPieceSizeE env s v).1 := by
  cases v with
  | none => exact recalc_plStep env s
  | some x => exact checkAndStore_plStep s x

theorem setPieceSizeE_invW {s : St} (h : InvW s) (env : Env) (v : Option Int) :
    InvW (setPieceSizeE env s v).1 :=
  (setPieceSizeE_plStep env s v).invW h

/-! ### the bound setters

`piece_size_min = v` and `piece_size_max = v` mirror each other: the bound is stored, then the
piece length — if there is one — is pushed through the `piece_size` setter with the value `f pl`
(`max pmin pl`, `min pmax pl`).  `clampWith f` is that tail for any `f`.

What the two have in common is not an order relation but this: the pair of bounds gets one new end,
and the piece length is pushed to the nearest value inside the new pair.  Everything is therefore
said once, about `b : Bound`, in terms of `b.put` (store the bound) and `b.push` (the value pushed); the
few facts that look at the direction are the short lemmas from `set_none` to `push_eq`, and `opOk_set`. -/

def clampWith (f : Nat → Int) (s1 : St) : St × Res :=
  match s1.pl with
  | some pl => if pl ≠ 0 then checkAndStore s1 (f pl) else (s1, .ok)
  | none => (s1, .ok)

theorem clampWith_cases (f : Nat → Int) (s1 : St) :
    ((s1.pl = none ∨ s1.pl = some 0) ∧ clampWith f s1 = (s1, .ok)) ∨
    ∃ pl, s1.pl = some pl ∧ pl ≠ 0 ∧ clampWith f s1 = checkAndStore s1 (f pl) := by
  unfold clampWith
  split
  · rename_i pl hp
    split
    · rename_i h0; exact Or.inr ⟨pl, hp, h0, rfl⟩
    · rename_i h0; exact Or.inl ⟨Or.inr (by rw [hp, Classical.not_not.1 h0]), rfl⟩
  · rename_i hp; exact Or.inl ⟨Or.inl hp, rfl⟩

theorem clampWith_stored (f : Nat → Int) (s1 : St) : Stored s1 (clampWith f s1).1 := by
  rcases clampWith_cases f s1 with ⟨_, e⟩ | ⟨pl, _, _, e⟩ <;> rw [e]
  · exact .refused
  · exact checkAndStore_stored ..

theorem clampWith_not_faulted (f : Nat → Int) (s1 : St) : (clampWith f s1).2.faulted = false := by
  rcases clampWith_cases f s1 with ⟨_, e⟩ | ⟨pl, _, _, e⟩ <;> rw [e]
  · rfl
  · exact checkAndStore_not_faulted ..

/-- between legal bounds that are not crossed, the nearest value to a multiple of 16 KiB is one
    too and passes the checks: pushing the piece length there restores `PlOk` -/
theorem clampWith_bounded {s1 : St} (hb : s1.pmin ≤ s1.pmax) (hmn : Mult16 s1.pmin) (hmx : Mult16 s1.pmax)
    (f : Nat → Int)
    (hf : ∀ pl, s1.pl = some pl → Mult16 pl ∧ f pl = ((min s1.pmax (max s1.pmin pl) : Nat) : Int)) :
    Bounded (clampWith f s1).1 := by
  rcases clampWith_cases f s1 with ⟨hp | hp, e⟩ | ⟨pl, hp, _, e⟩ <;> rw [e]
  · exact ⟨hb, hmn, hmx, plOk_of_none hp⟩
  · exact absurd (hf 0 hp).1.1 (Nat.lt_irrefl 0)
  · obtain ⟨hpl, hn⟩ := hf pl hp
    have hm := mult16_min hmx (mult16_max hmn hpl)
    have h1 : s1.pmin ≤ min s1.pmax (max s1.pmin pl) := Nat.le_min.2 ⟨hb, Nat.le_max_left ..⟩
    rw [hn, checkAndStore_nat hm h1 (Nat.min_le_left ..)]
    exact ⟨hb, hmn, hmx, hm, h1, Nat.min_le_left ..⟩

/-- between crossed bounds there is no value at all: whatever is pushed is refused, nothing happens -/
theorem clampWith_crossed (f : Nat → Int) {s1 : St} (h : ¬ s1.pmin ≤ s1.pmax) : (clampWith f s1).1 = s1 := by
  rcases clampWith_cases f s1 with ⟨_, e⟩ | ⟨pl, _, _, e⟩ <;> rw [e]
  rw [checkAndStore_refuse (fun hh => h (by omega))]

inductive Bound
  | lower
  | upper

namespace Bound

def op : Bound → Option Int → Op
  | .lower => .setMin
  | .upper => .setMax

def set : Bound → St → Option Int → St × Res
  | .lower => setMin
  | .upper => setMax

def dflt : Bound → Nat
  | .lower => defaultMin
  | .upper => defaultMax

def put : Bound → St → Nat → St
  | .lower, s, m => { s with pmin := m }
  | .upper, s, m => { s with pmax := m }

/-- what the setter pushes through the `piece_size` setter once the bound `m` is stored -/
def push : Bound → Nat → Nat → Int
  | .lower, m, pl => max (m : Int) pl
  | .upper, m, pl => min (m : Int) pl

/-- the tail of the setter: store the bound, clamp -/
def store (b : Bound) (s : St) (m : Nat) : St × Res := clampWith (b.push m) (b.put s m)

theorem set_none (b : Bound) (s : St) : b.set s none = b.store s b.dflt := by cases b <;> rfl

theorem set_some (b : Bound) (s : St) {x : Int} (hd : divisible x = true) :
    b.set s (some x) = b.store s x.toNat := by
  cases b <;> (show (if !divisible x then _ else _) = _; rw [hd]; rfl)

theorem set_bad (b : Bound) (s : St) {x : Int} (hd : ¬ divisible x = true) :
    b.set s (some x) = (s, .err .pieceSize) := by
  cases b <;> (show (if !divisible x then _ else _) = _; rw [Bool.eq_false_iff.2 hd]; rfl)

theorem dflt_ok (b : Bound) : Mult16 b.dflt := by cases b <;> decide

theorem put_put (b : Bound) (s : St) (a m : Nat) : b.put (b.put s a) m = b.put s m := by cases b <;> rfl

theorem put_frame (b : Bound) (s : St) (m : Nat) : ∃ lo hi, b.put s m = { s with pmin := lo, pmax := hi } := by
  cases b <;> exact ⟨_, _, rfl⟩

/-- `OpOk` says that the bounds are still ordered once the assigned bound is stored.  It has no clause
    for the default minimum, the smallest legal value: that lies below every legal maximum (`hmx`). -/
theorem opOk_none (b : Bound) {s : St} (hmx : Mult16 s.pmax) :
    OpOk s (b.op none) ↔ (b.put s b.dflt).pmin ≤ (b.put s b.dflt).pmax := by
  cases b
  · refine ⟨fun _ => ?_, fun _ => True.intro⟩
    show (16384 : Nat) ≤ s.pmax
    have := hmx.1; have := hmx.2; omega
  · exact Iff.rfl

theorem opOk_some (b : Bound) (s : St) {x : Int} (hd : divisible x = true) :
    OpOk s (b.op (some x)) ↔ (b.put s x.toNat).pmin ≤ (b.put s x.toNat).pmax := by
  have hx := (divisible_toNat hd).2
  cases b
  · show (divisible x = true → x ≤ (s.pmax : Int)) ↔ x.toNat ≤ s.pmax
    exact ⟨fun h => by have := h hd; omega, fun h _ => by omega⟩
  · show (divisible x = true → (s.pmin : Int) ≤ x) ↔ s.pmin ≤ x.toNat
    exact ⟨fun h => by have := h hd; omega, fun h _ => by omega⟩

theorem opOk_bad (b : Bound) (s : St) {x : Int} (hd : ¬ divisible x = true) : OpOk s (b.op (some x)) := by
  cases b <;> exact fun h => absurd h hd

theorem legal_put (b : Bound) {s : St} (h : Bounded s) {m : Nat} (hm : Mult16 m) :
    Mult16 (b.put s m).pmin ∧ Mult16 (b.put s m).pmax := by
  cases b
  · exact ⟨hm, h.2.2.1⟩
  · exact ⟨h.2.1, hm⟩

/-- with the old piece length inside the old bounds and the new bounds ordered, the value pushed is
    the nearest one inside the new bounds -/
theorem push_eq (b : Bound) {s : St} {m pl : Nat} (h1 : s.pmin ≤ pl) (h2 : pl ≤ s.pmax)
    (hf : (b.put s m).pmin ≤ (b.put s m).pmax) :
    b.push m pl = ((min (b.put s m).pmax (max (b.put s m).pmin pl) : Nat) : Int) := by
  cases b
  · have hm : m ≤ s.pmax := hf
    show max (m : Int) pl = ((min s.pmax (max m pl) : Nat) : Int)
    -- the outer `min` is resolved first: `omega` alone on `min (max …)` under the casts is slow
    rw [Nat.min_eq_right (Nat.max_le.2 ⟨hm, h2⟩)]
    omega
  · show min (m : Int) pl = ((min m (max s.pmin pl) : Nat) : Int)
    rw [Nat.max_eq_right h1]
    omega

theorem set_cases (b : Bound) (s : St) (v : Option Int) :
    b.set s v = (s, .err .pieceSize) ∨ ∃ m, b.set s v = b.store s m := by
  cases v with
  | none => exact Or.inr ⟨_, b.set_none s⟩
  | some x =>
    by_cases hd : divisible x = true
    · exact Or.inr ⟨_, b.set_some s hd⟩
    · exact Or.inl (b.set_bad s hd)

theorem set_not_faulted (b : Bound) (s : St) (v : Option Int) : (b.set s v).2.faulted = false := by
  rcases b.set_cases s v with e | ⟨m, e⟩ <;> rw [e]
  · rfl
  · exact clampWith_not_faulted ..

theorem set_pres {P : St → Prop} (hb : ∀ s lo hi, P s → P { s with pmin := lo, pmax := hi })
    (hst : ∀ s x, P s → P (checkAndStore s x).1) (b : Bound) {s : St} (h : P s) (v : Option Int) :
    P (b.set s v).1 := by
  rcases b.set_cases s v with e | ⟨m, e⟩ <;> rw [e]
  · exact h
  · obtain ⟨lo, hi, e⟩ := b.put_frame s m
    have h1 : P (b.put s m) := e ▸ hb s lo hi h
    rcases clampWith_cases (b.push m) (b.put s m) with ⟨_, e⟩ | ⟨pl, _, _, e⟩ <;> rw [store, e]
    · exact h1
    · exact hst _ _ h1

/-- `OpOk` of an assignment reads the bound the assignment does not write -/
theorem opOk_set (b : Bound) (s : St) (v v' : Option Int) :
    OpOk (b.set s v).1 (b.op v') ↔ OpOk s (b.op v') := by
  rcases b.set_cases s v with e | ⟨m, e⟩ <;> rw [e]
  obtain ⟨e1, e2⟩ := (PlStep.checked (clampWith_stored (b.push m) (b.put s m))).bounds
  cases b <;> cases v' <;> simp only [OpOk, op, store, e1, e2] <;> rfl

theorem store_bounded (b : Bound) {s : St} (h : Bounded s) {m : Nat} (hm : Mult16 m)
    (hf : (b.put s m).pmin ≤ (b.put s m).pmax) : Bounded (b.store s m).1 := by
  apply clampWith_bounded hf (b.legal_put h hm).1 (b.legal_put h hm).2
  intro pl hp
  have hpl := h.2.2.2.of_some (pl := pl) (by obtain ⟨_, _, e⟩ := b.put_frame s m; rw [e] at hp; exact hp)
  exact ⟨hpl.1, b.push_eq hpl.2.1 hpl.2.2 hf⟩

theorem set_bounded (b : Bound) {s : St} (h : Bounded s) (v : Option Int) (hok : OpOk s (b.op v)) :
    Bounded (b.set s v).1 := by
  cases v with
  | none => rw [set_none]; exact b.store_bounded h b.dflt_ok ((b.opOk_none h.2.2.1).1 hok)
  | some x =>
    by_cases hd : divisible x = true
    · rw [b.set_some s hd]; exact b.store_bounded h (divisible_toNat hd).1 ((b.opOk_some s hd).1 hok)
    · rw [b.set_bad s hd]; exact h

theorem set_invW (b : Bound) {s : St} (h : InvW s) (v : Option Int) (hok : OpOk s (b.op v)) :
    InvW (b.set s v).1 :=
  .of_parts (b.set_bounded h.bounded v hok)
    (b.set_pres (fun _ _ _ h => h) (fun s x => (checkAndStore_plStep s x).invS) h.stamp v)

theorem set_inv (b : Bound) {s : St} (h : Inv s) (v : Option Int) (hok : OpOk s (b.op v)) :
    Inv (b.set s v).1 :=
  Inv.of_weak (b.set_invW h.weak v hok)
    (b.set_pres (fun _ _ _ h => h) (fun s x => (checkAndStore_plStep s x).plp) h.plp v)

end Bound

/-- `files = …`, `filepaths = …` and `path = p` are rejected before anything was changed, or run
    `_set_files` -/
inductive EndsCore (env : Env) (s : St) : St × Res → Prop
  | rejected (e : Err) : EndsCore env s (s, .err e)
  | core (files : List (Path × Nat)) (bp : Option Path) : EndsCore env s (setFilesCore env s files bp)

/-- the forms in which a content operation (and the callback of the filter lists) ends: like
    `files = …`, with nothing to do, or as `path = None` -/
inductive Ends (env : Env) (s : St) : St × Res → Prop
  | setFiles {r : St × Res} (h : EndsCore env s r) : Ends env s r
  | noop : Ends env s (s, .ok)
  | pathNone : Ends env s ({ s with path := none, pieces := none }, .ok)

theorem setPath_core (env : Env) (s : St) (p : Path) : EndsCore env s (setPath env s (some p)) := by
  unfold setPath; simp only
  split
  · exact .core _ _
  · split
    · exact .core _ _
    · exact .rejected _

theorem setPath_ends (env : Env) (s : St) (v : Option Path) : Ends env s (setPath env s v) := by
  cases v with
  | none => exact .pathNone
  | some p => exact .setFiles (setPath_core env s p)

theorem setFilesAttr_core (env : Env) (s : St) (fs : List (Path × Nat)) :
    EndsCore env s (setFilesAttr env s fs) := by
  unfold setFilesAttr
  split
  · exact .rejected _
  · split
    · exact .core _ _
    · simp only
      split
      · exact .rejected _
      · exact .core _ _

theorem setFilepathsAttr_core (env : Env) (s : St) (ps : List Path) :
    EndsCore env s (setFilepathsAttr env s ps) := by
  unfold setFilepathsAttr
  simp only
  split
  · exact .core _ _
  · split
    · exact .rejected _
    · exact .core _ _

theorem filtersChanged_ends (env : Env) (s : St) : Ends env s (filtersChanged env s) := by
  unfold filtersChanged
  split
  · exact setPath_ends ..
  · exact .setFiles (setFilesAttr_core ..)

def isContentOp : Op → Bool
  | .setPath _ | .setFiles _ | .filesDel _ | .filesAppend _ | .filesClear
  | .setFilepaths _ | .fpDel _ | .fpAppend _ | .fpClear => true
  | _ => false

/-- the content operations that `restores` counts are those that cannot end with nothing to do or as
    `path = None` -/
theorem apply_core (env : Env) (s : St) (op : Op) (h : isContentOp op = true) (hr : restores op = true) :
    EndsCore env s (apply env s op) := by
  cases op with
  | setPath p =>
    cases p with
    | none => exact Bool.noConfusion hr
    | some p => exact setPath_core env s p
  | setFiles fs => exact setFilesAttr_core env s fs
  | filesAppend f => exact setFilesAttr_core env s _
  | filesClear => exact setFilesAttr_core env s []
  | setFilepaths ps => exact setFilepathsAttr_core env s ps
  | fpAppend p => exact setFilepathsAttr_core env s _
  | fpClear => exact setFilepathsAttr_core env s []
  | setPieceSize v => exact Bool.noConfusion h
  | _ => exact Bool.noConfusion hr

theorem apply_ends (env : Env) (s : St) (op : Op) (h : isContentOp op = true) :
    Ends env s (apply env s op) := by
  cases op with
  | setPath p => exact setPath_ends env s p
  | filesDel i =>
    simp only [apply]; split
    · exact .noop
    · exact .setFiles (setFilesAttr_core ..)
  | fpDel i =>
    simp only [apply]; split
    · exact .noop
    · exact .setFiles (setFilepathsAttr_core ..)
  | setFiles _ | filesAppend _ | filesClear | setFilepaths _ | fpAppend _ | fpClear =>
    exact .setFiles (apply_core env s _ rfl rfl)
  | _ => exact Bool.noConfusion h

/-- `_set_files` ends with the recalculation: completed, or failed inside it -/
theorem setFilesCore_ok_or_faulted (env : Env) (s : St) (files : List (Path × Nat)) (bp : Option Path) :
    (setFilesCore env s files bp).2 = .ok ∨ (setFilesCore env s files bp).2.faulted = true := by
  unfold setFilesCore; exact recalc_ok_or_faulted ..

/-- `P` is kept by `_set_files` whenever the outcome satisfies `C`, and by `path = None`.  `C .ok` is
    for operations of two stages (`EndsL.seq`): the second runs only after the first ended `.ok`,
    and the first must then have kept `P`. -/
structure Pres (env : Env) (P : St → Prop) (C : Res → Prop) : Prop where
  ok : C .ok
  core : ∀ s files bp, P s → C (setFilesCore env s files bp).2 → P (setFilesCore env s files bp).1
  pathNone : ∀ s, P s → P { s with path := none, pieces := none }

theorem Ends.pres {env : Env} {P : St → Prop} {C : Res → Prop} (hp : Pres env P C) {s : St}
    {r : St × Res} (he : Ends env s r) (h : P s) (hc : C r.2) : P r.1 := by
  cases he with
  | setFiles hs =>
    cases hs with
    | rejected e => exact h
    | core files bp => exact hp.core s files bp h hc
  | noop => exact h
  | pathNone => exact hp.pathNone s h

/-- how an operation on the filter list that `get` / `put` select ends: rejected / nothing to do (state
    untouched), a list `l` written — a well-formed one if the list was well formed — and the callback
    run, or two such stages in a row of which the first completed -/
inductive EndsL (env : Env) {α : Type} (valid : α → Bool) (get : St → List α) (put : St → List α → St) :
    St → St × Res → Prop
  | rejected (s : St) (e : Err) : EndsL env valid get put s (s, .err e)
  | noop (s : St) : EndsL env valid get put s (s, .ok)
  | changed (s : St) (l : List α) (hl : LOk valid (get s) → LOk valid l) :
    EndsL env valid get put s (filtersChanged env (put s l))
  | seq (s : St) (r1 r : St × Res) (h1 : EndsL env valid get put s r1) (hok : r1.2 = .ok)
    (h2 : EndsL env valid get put r1.1 r) : EndsL env valid get put s r

section endsL
variable {env : Env} {α : Type} {valid : α → Bool} {get : St → List α} {put : St → List α → St}

theorem EndsL.andThen {s : St} {r1 r2 : St × Res} (h1 : EndsL env valid get put s r1)
    (h2 : EndsL env valid get put r1.1 r2) : EndsL env valid get put s (if r1.2 = .ok then r2 else r1) := by
  split
  · rename_i hok; exact .seq s r1 r2 h1 hok h2
  · exact h1

theorem EndsL.stages {P : St → Prop} {C : Res → Prop} (hok : C .ok)
    (hch : ∀ s l, (LOk valid (get s) → LOk valid l) → P s → C (filtersChanged env (put s l)).2 →
      P (filtersChanged env (put s l)).1)
    {s : St} {r : St × Res} (he : EndsL env valid get put s r) : P s → C r.2 → P r.1 := by
  induction he with
  | rejected s e => intro h _; exact h
  | noop s => intro h _; exact h
  | changed s l hl => exact hch s l hl
  | seq s r1 r _ hok1 _ ih1 ih2 => intro h hc; exact ih2 (ih1 h (hok1 ▸ hok)) hc

theorem EndsL.pres {P : St → Prop} {C : Res → Prop} (hp : Pres env P C)
    (hput : ∀ s l, (LOk valid (get s) → LOk valid l) → P s → P (put s l))
    {s : St} {r : St × Res} (he : EndsL env valid get put s r) : P s → C r.2 → P r.1 :=
  he.stages hp.ok fun s l hl h hc => (filtersChanged_ends env (put s l)).pres hp (hput s l hl h) hc

end endsL

section filterList
variable {α : Type} [DecidableEq α]
variable (env : Env) (valid : α → Bool) (get : St → List α) (put : St → List α → St)

theorem setSliceL_endsL (s : St) (a : Nat) (b : Option Nat) (vs : List α) :
    EndsL env valid get put s (setSliceL env valid get put s a b vs) := by
  unfold setSliceL; split
  · exact .rejected _ _
  · rename_i hv
    exact .changed _ _ fun h => lok_readd_spliced valid h (by simpa using hv) a b

theorem appendL_endsL (s : St) (v : α) :
    EndsL env valid get put s (appendL env valid get put s v) := by
  unfold appendL; split
  · exact .rejected _ _
  · rename_i hv
    exact .changed _ _ fun h => lok_append_new valid h (by simpa using hv)

theorem extendL_cons (s : St) (v : α) (vs : List α) :
    extendL env valid get put s (v :: vs) =
      if (appendL env valid get put s v).2 = .ok
      then extendL env valid get put (appendL env valid get put s v).1 vs
      else appendL env valid get put s v := by
  rw [extendL]
  generalize appendL env valid get put s v = r
  obtain ⟨s', res⟩ := r
  cases res <;> simp

theorem extendL_endsL (vs : List α) :
    ∀ s : St, EndsL env valid get put s (extendL env valid get put s vs) := by
  induction vs with
  | nil => intro s; exact .noop _
  | cons v vs ih =>
    intro s
    rw [extendL_cons]
    exact (appendL_endsL env valid get put s v).andThen (ih _)

theorem iaddAttr_eq (s : St) (vs : List α) :
    applyL env valid get put s (.iaddAttr vs) =
      if (extendL env valid get put s vs).2 = .ok
      then setSliceL env valid get put (extendL env valid get put s vs).1 0 none
             (get (extendL env valid get put s vs).1)
      else extendL env valid get put s vs := by
  rw [applyL]
  generalize extendL env valid get put s vs = r
  obtain ⟨s', res⟩ := r
  cases res <;> simp

theorem applyL_endsL (s : St) (o : LOp α) :
    EndsL env valid get put s (applyL env valid get put s o) := by
  cases o with
  | setSlice a b vs => exact setSliceL_endsL env valid get put s a b vs
  | setIndex i v =>
    simp only [applyL, setIndexL]; split
    · exact .rejected _ _
    · rename_i hv
      split
      · exact .rejected _ _
      · exact .changed _ _ fun h => lok_readd_set valid h (by simpa using hv) _
  | append v => exact appendL_endsL env valid get put s v
  | extend vs => exact extendL_endsL env valid get put vs s
  | del i =>
    simp only [applyL]; split
    · exact .noop _
    · exact .changed _ _ fun h => lok_sublist valid h (List.eraseIdx_sublist _ _)
  | clear => exact .changed _ _ fun _ => ⟨List.nodup_nil, rfl⟩
  | insert i v =>
    simp only [applyL, insertL]; split
    · exact .rejected _ _
    · rename_i hv
      exact .changed _ _ fun h => lok_insert_new valid h (by simpa using hv) _
  | pop i =>
    simp only [applyL, popL]; split
    · exact .rejected _ _
    · exact .changed _ _ fun h => lok_sublist valid h (List.eraseIdx_sublist _ _)
  | remove v =>
    simp only [applyL, removeL]; split
    · exact .changed _ _ fun h => lok_sublist valid h List.erase_sublist
    · exact .rejected _ _
  | delSlice a b => exact .changed _ _ fun h => lok_sublist valid h (take_append_drop_sublist _ (Nat.le_max_left ..))
  | reverse => exact setSliceL_endsL env valid get put s 0 none _
  | assignSelf => exact setSliceL_endsL env valid get put s 0 none _
  | iaddAttr vs =>
    rw [iaddAttr_eq]
    exact (extendL_endsL env valid get put vs s).andThen (setSliceL_endsL env valid get put _ 0 none _)

end filterList

/-- what else a predicate must survive to be kept by every operation other than the two bound
    assignments -/
structure PresOps (env : Env) (P : St → Prop) (C : Res → Prop) : Prop extends Pres env P C where
  putG : ∀ s inc l, P s → P (putGlobs s inc l)
  putR : ∀ s inc l, P s → P (putRxs s inc l)
  name : ∀ s n, P s → P (setName s n)
  store : ∀ s x, P s → P (checkAndStore s x).1
  recalc : ∀ s, P s → C (recalc env s).2 → P (recalc env s).1
  gen : ∀ s, P s → P (generate env s).1
  comment : ∀ s c, P s → P { s with comment := c }

theorem apply_pres {env : Env} {P : St → Prop} {C : Res → Prop} (hp : PresOps env P C) {s : St}
    (h : P s) (op : Op) (hc : C (apply env s op).2)
    (hb : ∀ (b : Bound) v, op = b.op v → P (b.set s v).1) : P (apply env s op).1 := by
  cases op with
  | glob inc o => exact (applyL_endsL env _ _ _ s o).pres hp.toPres (fun s l _ h => hp.putG s inc l h) h hc
  | rx inc o => exact (applyL_endsL env _ _ _ s o).pres hp.toPres (fun s l _ h => hp.putR s inc l h) h hc
  | setName n => exact hp.name s n h
  | setPieceSize v =>
    cases v with
    | none => exact hp.recalc s h hc
    | some x => exact hp.store s x h
  | setMin v => exact hb .lower v rfl
  | setMax v => exact hb .upper v rfl
  | generate => exact hp.gen s h
  | setComment c => exact hp.comment s c h
  | _ => exact (apply_ends env s _ rfl).pres hp.toPres h hc

theorem apply_pres_blind {env : Env} {P : St → Prop} {C : Res → Prop} (hp : PresOps env P C)
    (hb : ∀ s lo hi, P s → P { s with pmin := lo, pmax := hi }) {s : St} (h : P s) (op : Op)
    (hc : C (apply env s op).2) : P (apply env s op).1 :=
  apply_pres hp h op hc fun b v _ => b.set_pres hb hp.store h v

/-- What the instances have in common.  `hb` is a record update so that, for a predicate that does not
    mention the name, the comment or a filter list, `fun … h => h` proves it. -/
theorem PresOps.of_blind {env : Env} {P : St → Prop} {C : Res → Prop}
    (hb : ∀ s n c eg ig er ir, P s →
      P { s with name := n, comment := c, exGlobs := eg, inGlobs := ig, exRegexs := er, inRegexs := ir })
    (hp : Pres env P C) (hpl : ∀ s s', PlStep s s' → P s → P s') (gen : ∀ s, P s → P (generate env s).1) :
    PresOps env P C where
  toPres := hp
  putG := fun s inc l h => by cases inc <;> exact hb s _ _ _ _ _ _ h
  putR := fun s inc l h => by cases inc <;> exact hb s _ _ _ _ _ _ h
  name := fun s n h => by unfold setName; split <;> exact hb s _ _ _ _ _ _ h
  store := fun s x h => hpl _ _ (checkAndStore_plStep s x) h
  recalc := fun s h _ => hpl _ _ (recalc_plStep env s) h
  gen := gen
  comment := fun s c h => hb s _ _ _ _ _ _ h

theorem filepathsOf_none {s : St} (h : s.content = .none) : filepathsOf s = [] := by
  unfold filepathsOf; split
  · rfl
  · rw [h]

theorem size_pos_of_diskSize {env : Env} {s : St} (hc : ContentOk s.content) {d : Nat}
    (hd : diskSize env s = some d) (h1 : ¬ d < 1) : 0 < size s := by
  apply sizeC_pos s.content hc
  intro hcn
  have : diskSize env s = some 0 := by
    unfold diskSize; rw [filepathsOf_none hcn]; rfl
  rw [this] at hd
  injection hd with e
  omega

theorem generate_frame (env : Env) (s : St) : ∃ pieces, (generate env s).1 = { s with pieces := pieces } := by
  unfold generate
  split
  · exact ⟨_, rfl⟩
  · split
    · exact ⟨_, rfl⟩
    · split
      · exact ⟨_, rfl⟩
      · split <;> exact ⟨_, rfl⟩

theorem generate_stampOk {s : St} (hc : ContentOk s.content) (hs : StampOk s) (env : Env) :
    StampOk (generate env s).1 := by
  unfold generate
  split
  · exact hs
  · rename_i p hp
    split
    · exact hs
    · rename_i d hd
      split
      · exact hs
      · rename_i hd1
        split
        · exact hs
        · rename_i pl hpl
          exact ⟨hp, rfl, hpl, rfl, size_pos_of_diskSize hc hd hd1⟩

theorem generate_invS {s : St} (h : InvS s) (env : Env) : InvS (generate env s).1 := by
  refine ⟨?_, generate_stampOk h.1 h.2 env⟩
  obtain ⟨_, e⟩ := generate_frame env s
  rw [e]; exact h.1

theorem setName_inv {s : St} (h : Inv s) (v : Option String) : Inv (setName s v) := by
  unfold setName; split <;> exact h

/-- `_set_files` starts from the new file list without hashes: whatever the recalculation does,
    no stale hashes can be left -/
theorem setFilesCore_invS (env : Env) (s : St) (files : List (Path × Nat)) (bp : Option Path) :
    InvS (setFilesCore env s files bp).1 :=
  (recalc_plStep ..).invS ⟨place_contentOk _ _ _, True.intro⟩

theorem setFilesCore_plp (env : Env) (s : St) (files : List (Path × Nat)) (bp : Option Path)
    (hnf : (setFilesCore env s files bp).2.faulted = false) :
    PlPresent (setFilesCore env s files bp).1 :=
  recalc_plp _ _ hnf

theorem presOps_invS (env : Env) : PresOps env InvS (fun _ => True) :=
  .of_blind (fun _ _ _ _ _ _ _ h => h)
    ⟨True.intro, fun s files bp _ _ => setFilesCore_invS env s files bp, fun _ h => ⟨h.1, True.intro⟩⟩
    (fun _ _ hs => hs.invS) (fun _ h => generate_invS h env)

theorem presOps_bounded (env : Env) : PresOps env Bounded (fun _ => True) :=
  .of_blind (fun _ _ _ _ _ _ _ h => h)
    ⟨True.intro,
     -- `_set_files` leaves the bounds and the piece length to the recalculation
     fun s _ _ h _ => (recalc_plStep ..).bounded
       (show Bounded { s with content := _, name := _, pieces := none, path := _ } from h),
     fun _ h => h⟩
    (fun _ _ hs => hs.bounded) (fun s h => by obtain ⟨_, e⟩ := generate_frame env s; rw [e]; exact h)

theorem presOps_plp (env : Env) : PresOps env PlPresent (fun r => r.faulted = false) :=
  .of_blind (fun _ _ _ _ _ _ _ h => h)
    ⟨rfl, fun s files bp _ hnf => setFilesCore_plp env s files bp hnf, fun _ h => h⟩
    (fun _ _ hs => hs.plp) (fun s h => by obtain ⟨_, e⟩ := generate_frame env s; rw [e]; exact h)

theorem apply_invS {s : St} (h : InvS s) (env : Env) (op : Op) : InvS (apply env s op).1 :=
  apply_pres_blind (presOps_invS env) (fun _ _ _ h => h) h op True.intro

theorem apply_bounded {s : St} (h : Bounded s) (env : Env) (op : Op) (hok : OpOk s op) :
    Bounded (apply env s op).1 :=
  apply_pres (presOps_bounded env) h op True.intro fun b v e => b.set_bounded h v (e ▸ hok)

theorem apply_invW {s : St} (h : InvW s) (env : Env) (op : Op) (hok : OpOk s op) :
    InvW (apply env s op).1 :=
  .of_parts (apply_bounded h.bounded env op hok) (apply_invS h.stamp env op)

theorem apply_plp {s : St} (h : PlPresent s) (env : Env) (op : Op)
    (hnf : (apply env s op).2.faulted = false) : PlPresent (apply env s op).1 :=
  apply_pres_blind (presOps_plp env) (fun _ _ _ h => h) h op hnf

theorem apply_inv {s : St} (h : Inv s) (env : Env) (op : Op) (hok : StepOk env s op) :
    Inv (apply env s op).1 :=
  Inv.of_weak (apply_invW h.weak env op hok.1) (apply_plp h.plp env op hok.2)

theorem EndsCore.restores {env : Env} {s : St} {r : St × Res} (he : EndsCore env s r)
    (hok : r.2 = .ok) : PlPresent r.1 := by
  cases he with
  | rejected e => exact absurd hok (by simp)
  | core files bp => apply setFilesCore_plp; rw [hok]; rfl

theorem apply_restores (env : Env) (s : St) (op : Op) (hr : restores op = true)
    (hok : (apply env s op).2 = .ok) : PlPresent (apply env s op).1 := by
  cases op with
  | setPieceSize v =>
    cases v with
    | none => apply recalc_plp; simp only [apply, setPieceSizeE] at hok; rw [hok]; rfl
    | some x =>
      simp only [apply, setPieceSizeE] at hok ⊢
      rcases checkAndStore_cases s x with h1 | ⟨n, _, _, _, _, h1⟩
      · rw [h1] at hok; exact absurd hok (by simp)
      · rw [h1]; intro _; rfl
  | glob _ _ | rx _ _ | setName _ | setMin _ | setMax _ | generate | setComment _ =>
    exact Bool.noConfusion hr
  | _ => exact (apply_core env s _ rfl hr).restores hok

def PathEx (env : Env) (s : St) : Prop := ∀ p, s.path = some p → env.exists p = true

theorem PathEx.of_path_eq {env : Env} {s s' : St} (h : PathEx env s) (e : s'.path = s.path) :
    PathEx env s' :=
  fun p hp => h p (e ▸ hp)

theorem PlStep.path {s s' : St} (h : PlStep s s') : s'.path = s.path := by
  obtain ⟨_, _, rfl⟩ := h.shape; rfl

theorem setFilesCore_pathEx (env : Env) (s : St) (files : List (Path × Nat)) (bp : Option Path) :
    PathEx env (setFilesCore env s files bp).1 := by
  intro p hp
  unfold setFilesCore at hp
  simp only [(recalc_plStep ..).path] at hp
  split at hp
  · rename_i hc
    simp only [Bool.and_eq_true] at hc
    cases bp with
    | none => simp at hp
    | some q =>
      simp only [Option.some.injEq] at hp
      subst hp
      simpa using hc.2
  · simp at hp

theorem presOps_pathEx (env : Env) : PresOps env (PathEx env) (fun _ => True) :=
  .of_blind (fun _ _ _ _ _ _ _ h => h)
    ⟨True.intro, fun s files bp _ _ => setFilesCore_pathEx env s files bp, fun _ _ _ hp => nomatch hp⟩
    (fun _ _ hs h => h.of_path_eq hs.path)
    (fun s h => by obtain ⟨_, e⟩ := generate_frame env s; rw [e]; exact h)

theorem apply_pathEx {env : Env} {s : St} (h : PathEx env s) (op : Op) :
    PathEx env (apply env s op).1 :=
  apply_pres_blind (presOps_pathEx env) (fun _ _ _ h => h) h op True.intro

/-- nothing the piece hashes depend on (and no filter list) differs between `s` and `s'` -/
def Same (s s' : St) : Prop :=
  s'.pieces = s.pieces ∧ s'.path = s.path ∧ s'.content = s.content ∧ s'.pl = s.pl ∧
  s'.exGlobs = s.exGlobs ∧ s'.inGlobs = s.inGlobs ∧ s'.exRegexs = s.exRegexs ∧
  s'.inRegexs = s.inRegexs

theorem Same.refl (s : St) : Same s s := ⟨rfl, rfl, rfl, rfl, rfl, rfl, rfl, rfl⟩

theorem Kept.same {s s' : St} (h : Kept s s') {g : Ghost} (hg : s'.pieces = some g) : Same s s' := by
  rcases h with e | e
  · rw [e]; exact Same.refl s
  · rw [e] at hg; exact nomatch hg

theorem setFilesCore_none (env : Env) (s : St) (files : List (Path × Nat)) (bp : Option Path) :
    (setFilesCore env s files bp).1.pieces = none :=
  (recalc_plStep ..).keeps_none rfl

theorem Ends.kept {env : Env} {s : St} {r : St × Res} (he : Ends env s r) : Kept s r.1 :=
  he.pres (P := Kept s) (C := fun _ => True)
    ⟨True.intro, fun _ _ _ _ _ => Or.inr (setFilesCore_none ..), fun _ _ => Or.inr rfl⟩ (Or.inl rfl) True.intro

theorem setPieceSize_none (s : St) (v : Option Int) (h : s.pieces = none) :
    (setPieceSize s v).1.pieces = none :=
  (setPieceSize_plStep s v).keeps_none h

theorem setPieceSize_same {s : St} (h : Inv s) (v : Option Int) (g : Ghost)
    (hg : (setPieceSize s v).1.pieces = some g) : Same s (setPieceSize s v).1 :=
  ((setPieceSize_plStep s v).kept h.stamp.2).same hg

theorem setPieceSize_path (s : St) (v : Option Int) : (setPieceSize s v).1.path = s.path :=
  (setPieceSize_plStep s v).path

/-- a bound assignment stores a bound, which `Same` does not read, and then only runs the checks of
    the `piece_size` setter -/
theorem Bound.set_same (b : Bound) {s : St} (v : Option Int) (g : Ghost) :
    (b.set s v).1.pieces = some g → Same s (b.set s v).1 :=
  b.set_pres (P := fun a => a.pieces = some g → Same s a) (fun _ _ _ h => h)
    (fun a x h hg => by
      rcases (checkAndStore_stored a x).kept with e | e <;> rw [e] at hg
      · rw [e]; exact h hg
      · exact nomatch hg)
    (fun _ => Same.refl s) v

/-- The callback re-runs a content setter, which drops the hashes unless it is refused.  `path = p` is
    not refused: `p` still exists (`hex`).  `files = files` may be, hence `hst`: without a content path
    there are no hashes (the stamp names the path). -/
theorem filtersChanged_none (env : Env) (s : St) (hex : PathEx env s)
    (hst : s.path = none → s.pieces = none) : (filtersChanged env s).1.pieces = none := by
  unfold filtersChanged
  split
  · rename_i p hp
    have he := hex p hp
    unfold setPath
    simp only
    unfold Env.exists at he
    simp only [Bool.or_eq_true] at he
    split
    · exact setFilesCore_none ..
    · rename_i h1
      split
      · exact setFilesCore_none ..
      · rename_i h2
        rcases he with he | he
        · exact absurd he h1
        · exact absurd he h2
  · rename_i hp
    exact (Ends.setFiles (setFilesAttr_core env s _)).kept.keeps_none (hst hp)

/-- `put` writes one filter list and nothing else that matters here -/
structure PutOk (env : Env) {α : Type} (put : St → List α → St) : Prop where
  inv : ∀ s l, Inv s → Inv (put s l)
  invS : ∀ s l, InvS s → InvS (put s l)
  pathEx : ∀ s l, PathEx env s → PathEx env (put s l)
  path : ∀ s l, (put s l).path = s.path
  pieces : ∀ s l, (put s l).pieces = s.pieces

theorem putGlobs_ok (env : Env) (inc : Bool) : PutOk env (putGlobs · inc) where
  inv := fun _ _ h => by cases inc <;> exact h
  invS := fun _ _ h => by cases inc <;> exact h
  pathEx := fun _ _ h => by cases inc <;> exact h
  path := fun _ _ => by cases inc <;> rfl
  pieces := fun _ _ => by cases inc <;> rfl

theorem putRxs_ok (env : Env) (inc : Bool) : PutOk env (putRxs · inc) where
  inv := fun _ _ h => by cases inc <;> exact h
  invS := fun _ _ h => by cases inc <;> exact h
  pathEx := fun _ _ h => by cases inc <;> exact h
  path := fun _ _ => by cases inc <;> rfl
  pieces := fun _ _ => by cases inc <;> rfl

theorem put_none (env : Env) {α : Type} (put : St → List α → St) {s : St} (hp : PutOk env put)
    (h : InvS s) (hex : PathEx env s) (l : List α) :
    (filtersChanged env (put s l)).1.pieces = none := by
  apply filtersChanged_none
  · exact hp.pathEx s l hex
  · intro hq
    rw [hp.path] at hq; rw [hp.pieces]
    -- hashes are stamped with the content path they were computed at
    cases hq' : s.pieces with
    | none => rfl
    | some g => rw [(h.2.current hq').1] at hq; exact nomatch hq

theorem EndsL.kept {env : Env} {α : Type} {valid : α → Bool} {get : St → List α} {put : St → List α → St}
    (hp : PutOk env put) {s : St} {r : St × Res} (he : EndsL env valid get put s r) (h : InvS s)
    (hex : PathEx env s) : Kept s r.1 :=
  -- carried from stage to stage: `InvS` and `PathEx` (so that the next callback drops the hashes
  -- too), and `Kept s`
  (he.stages (P := fun a => (InvS a ∧ PathEx env a) ∧ Kept s a) (C := fun _ => True) True.intro
    (fun a l _ h _ =>
      ⟨⟨(filtersChanged_ends env _).pres (presOps_invS env).toPres (hp.invS a l h.1.1) True.intro,
        (filtersChanged_ends env _).pres (presOps_pathEx env).toPres (hp.pathEx a l h.1.2) True.intro⟩,
       Or.inr (put_none env put hp h.1.1 h.1.2 l)⟩)
    ⟨⟨h, hex⟩, Or.inl rfl⟩ True.intro).2

theorem apply_same {s : St} (h : InvS s) (env : Env) (hex : PathEx env s)
    (op : Op) (hop : op ≠ .generate) (g : Ghost) (hg : (apply env s op).1.pieces = some g) :
    Same s (apply env s op).1 := by
  cases op with
  | glob inc o => exact ((applyL_endsL env _ _ _ s o).kept (putGlobs_ok env inc) h hex).same hg
  | rx inc o => exact ((applyL_endsL env _ _ _ s o).kept (putRxs_ok env inc) h hex).same hg
  | setName n =>
    simp only [apply, setName]; split <;> exact Same.refl s
  | setPieceSize v => exact ((setPieceSizeE_plStep env s v).kept h.2).same hg
  | setMin v => exact Bound.lower.set_same v g hg
  | setMax v => exact Bound.upper.set_same v g hg
  | generate => exact absurd rfl hop
  | setComment c => exact Same.refl s
  | _ => exact (apply_ends env s _ rfl).kept.same hg

namespace Bound

/-- an accepted assignment overwrites the bound without reading it -/
theorem set_overwrites (b : Bound) (s : St) (a : Nat) (v : Option Int) (hl : legalBound v = true) :
    (b.set (b.put s a) v).1 = (b.set s v).1 := by
  cases v with
  | none => rw [set_none, set_none, store, store, put_put]
  | some x => rw [b.set_some _ hl, b.set_some _ hl, store, store, put_put]

/-- a bound across the other bound: the clamp is refused (or there is nothing to clamp), only the bound
    is stored -/
theorem set_crossing (b : Bound) {s : St} (hmx : Mult16 s.pmax) {v : Option Int} (hc : ¬ OpOk s (b.op v)) :
    ∃ m, (b.set s v).1 = b.put s m := by
  cases v with
  | none => rw [set_none]; exact ⟨_, clampWith_crossed _ fun h => hc ((b.opOk_none hmx).2 h)⟩
  | some x =>
    by_cases hd : divisible x = true
    · rw [b.set_some s hd]; exact ⟨_, clampWith_crossed _ fun h => hc ((b.opOk_some s hd).2 h)⟩
    · exact absurd (b.opOk_bad s hd) hc

/-- two assignments of the same bound in a row (narrows D09b): if the second does not cross the other
    bound (which neither of them changes), the invariant holds afterwards — whether or not the first
    one crossed it -/
theorem set_twice_inv (b : Bound) {s : St} (h : Inv s) (v v' : Option Int) (hl : legalBound v' = true)
    (hok : OpOk s (b.op v')) : Inv (b.set (b.set s v).1 v').1 := by
  by_cases hc : OpOk s (b.op v)
  · exact b.set_inv (b.set_inv h v hc) v' ((b.opOk_set s v v').2 hok)
  · obtain ⟨m, e⟩ := b.set_crossing h.2.2.1 hc
    rw [e, b.set_overwrites _ _ _ hl]
    exact b.set_inv h v' hok

end Bound

theorem setMax_none_pmax (s : St) : (setMax s none).1.pmax = defaultMax :=
  (PlStep.checked (clampWith_stored _ { s with pmax := defaultMax })).bounds.2

theorem apply_corrected_inv {s : St} (h : Inv s) (env : Env) (op op' : Op)
    (hs : sameBound op op' = true) (hok : OpOk s op') :
    Inv (apply env (apply env s op).1 op').1 := by
  cases op with
  | setMin v =>
    cases op' with
    | setMin v' => exact Bound.lower.set_twice_inv h v v' hs hok
    | _ => exact Bool.noConfusion hs
  | setMax v =>
    cases op' with
    | setMax v' => exact Bound.upper.set_twice_inv h v v' hs hok
    | _ => exact Bool.noConfusion hs
  | _ => exact Bool.noConfusion hs

theorem allOkC_inv (env : Env) : ∀ (ops : List Op) (s : St), Inv s → AllOkC env s ops → Inv (run env s ops)
  | [], _, h, _ => h
  | [op], _, h, hok => apply_inv h env op hok
  | op :: op' :: ops, s, h, hok => by
    unfold AllOkC at hok
    rcases hok with ⟨h1, h2⟩ | ⟨h1, h2, h3⟩
    · exact allOkC_inv env (op' :: ops) _ (apply_inv h env op h1) h2
    · exact allOkC_inv env ops _ (apply_corrected_inv h env op op' h1 h2) h3

theorem allOk_allOkC (env : Env) : ∀ (ops : List Op) (s : St), AllOk env s ops → AllOkC env s ops
  | [], _, _ => True.intro
  | [op], _, h => h.1
  | op :: op' :: ops, s, h => by
    unfold AllOkC
    exact Or.inl ⟨h.1, allOk_allOkC env (op' :: ops) _ h.2⟩

def Filt (s s' : St) : Prop :=
  s'.exGlobs = s.exGlobs ∧ s'.inGlobs = s.inGlobs ∧ s'.exRegexs = s.exRegexs ∧
  s'.inRegexs = s.inRegexs

theorem Filt.refl (s : St) : Filt s s := ⟨rfl, rfl, rfl, rfl⟩

theorem Filt.trans {a b c : St} (h1 : Filt a b) (h2 : Filt b c) : Filt a c :=
  ⟨h2.1.trans h1.1, h2.2.1.trans h1.2.1, h2.2.2.1.trans h1.2.2.1, h2.2.2.2.trans h1.2.2.2⟩

theorem PlStep.filt {s s' : St} (h : PlStep s s') : Filt s s' := by
  obtain ⟨_, _, rfl⟩ := h.shape; exact Filt.refl s

theorem setPieceSize_filt (s : St) (v : Option Int) : Filt s (setPieceSize s v).1 :=
  (setPieceSize_plStep s v).filt

theorem setFilesCore_filt (env : Env) (s : St) (files : List (Path × Nat)) (bp : Option Path) :
    Filt s (setFilesCore env s files bp).1 :=
  Filt.trans (b := { s with content := _, name := _, pieces := none, path := _ }) (Filt.refl s)
    (recalc_plStep _ _).filt

/-- whatever reads the filter lists only survives the content setters -/
theorem pres_of_filt (env : Env) {P : St → Prop} (hP : ∀ s s', Filt s s' → P s → P s') :
    Pres env P (fun _ => True) where
  ok := True.intro
  core := fun _ _ _ h _ => hP _ _ (setFilesCore_filt ..) h
  pathNone := fun s h => hP s { s with path := none, pieces := none } (Filt.refl s) h

theorem pres_filt (env : Env) (s0 : St) : Pres env (Filt s0) (fun _ => True) :=
  pres_of_filt env fun _ _ hf h => h.trans hf

theorem filtersChanged_filt (env : Env) (s : St) : Filt s (filtersChanged env s).1 :=
  (filtersChanged_ends env s).pres (pres_filt env s) (Filt.refl s) True.intro

theorem apply_filt (env : Env) (s : St) (op : Op) (hg : ∀ inc o, op ≠ .glob inc o)
    (hr : ∀ inc o, op ≠ .rx inc o) : Filt s (apply env s op).1 := by
  have hb (b : Bound) (v : Option Int) : Filt s (b.set s v).1 :=
    b.set_pres (P := Filt s) (fun _ _ _ h => h) (fun _ x h => h.trans (checkAndStore_plStep _ x).filt)
      (Filt.refl s) v
  cases op with
  | glob inc o => exact absurd rfl (hg inc o)
  | rx inc o => exact absurd rfl (hr inc o)
  | setName n => simp only [apply, setName]; split <;> exact Filt.refl s
  | setPieceSize v => exact (setPieceSizeE_plStep env s v).filt
  | setMin v => exact hb .lower v
  | setMax v => exact hb .upper v
  | generate => obtain ⟨_, e⟩ := generate_frame env s; simp only [apply]; rw [e]; exact Filt.refl s
  | setComment c => exact Filt.refl s
  | _ => exact (apply_ends env s _ rfl).pres (pres_filt env s) (Filt.refl s) True.intro

theorem FiltersOk.globs {s : St} (h : FiltersOk s) (inc : Bool) : LOk (fun _ => true) (getGlobs s inc) := by
  cases inc
  · exact ⟨h.1, List.all_eq_true.2 fun _ _ => rfl⟩
  · exact ⟨h.2.1, List.all_eq_true.2 fun _ _ => rfl⟩

theorem FiltersOk.rxs {s : St} (h : FiltersOk s) (inc : Bool) : LOk Rx.valid (getRxs s inc) := by
  cases inc
  · exact ⟨h.2.2.1, h.2.2.2.2.1⟩
  · exact ⟨h.2.2.2.1, h.2.2.2.2.2⟩

/-- `get`/`put` select one of the four filter lists -/
structure LensOk {α : Type} (get : St → List α) (put : St → List α → St) : Prop where
  get_put : ∀ s l, get (put s l) = l
  put_get : ∀ s, put s (get s) = s
  get_filt : ∀ s s', Filt s s' → get s' = get s

theorem globs_lens (inc : Bool) : LensOk (getGlobs · inc) (putGlobs · inc) where
  get_put := fun s l => by cases inc <;> rfl
  put_get := fun s => by cases inc <;> rfl
  get_filt := fun s s' h => by unfold getGlobs; rw [h.1, h.2.1]

theorem rxs_lens (inc : Bool) : LensOk (getRxs · inc) (putRxs · inc) where
  get_put := fun s l => by cases inc <;> rfl
  put_get := fun s => by cases inc <;> rfl
  get_filt := fun s s' h => by unfold getRxs; rw [h.2.2.1, h.2.2.2]

theorem get_changed (env : Env) {α : Type} (get : St → List α) (put : St → List α → St)
    (hl : LensOk get put) (s : St) (l : List α) : get (filtersChanged env (put s l)).1 = l := by
  rw [hl.get_filt _ _ (filtersChanged_filt env (put s l)), hl.get_put]

section
variable (env : Env) {α : Type} [DecidableEq α] (valid : α → Bool) (get : St → List α)
  (put : St → List α → St)

theorem setSliceL_accept (s : St) (a : Nat) (b : Option Nat) {vs : List α} (h : vs.all valid = true) :
    setSliceL env valid get put s a b vs =
      filtersChanged env (put s (dedupFirst (ML.spliced (get s) a b vs))) := by
  unfold setSliceL; rw [h, readd_eq_dedupFirst]; rfl

theorem setIndexL_accept (s : St) {i : Int} {j : Nat} {v : α} (h : valid v = true)
    (hi : ML.pyIndex (get s).length i = some j) :
    setIndexL env valid get put s i v = filtersChanged env (put s (dedupFirst ((get s).set j v))) := by
  unfold setIndexL; rw [h, hi, ← readd_eq_dedupFirst]; rfl

theorem setSliceL_all_lok (s : St) {vs : List α} (h : LOk valid vs) :
    setSliceL env valid get put s 0 none vs = filtersChanged env (put s vs) := by
  rw [setSliceL_accept env valid get put s 0 none h.2, spliced_all, dedupFirst_of_nodup _ h.1]

theorem setSliceL_stores (hl : LensOk get put) (s : St) (a : Nat) (b : Option Nat) {vs : List α}
    (h : vs.all valid = true) :
    setSliceL env valid get put s a b vs =
        filtersChanged env (put s (dedupFirst (ML.spliced (get s) a b vs))) ∧
      get (setSliceL env valid get put s a b vs).1 = dedupFirst (ML.spliced (get s) a b vs) := by
  rw [setSliceL_accept env valid get put s a b h]
  exact ⟨rfl, get_changed env get put hl s _⟩

theorem setIndexL_stores (hl : LensOk get put) (s : St) {i : Int} {j : Nat} {v : α} (h : valid v = true)
    (hi : ML.pyIndex (get s).length i = some j) :
    get (setIndexL env valid get put s i v).1 = dedupFirst ((get s).set j v) := by
  rw [setIndexL_accept env valid get put s h hi, get_changed env get put hl]

theorem setSliceL_self (hl : LensOk get put) {s : St} (h : LOk valid (get s)) :
    setSliceL env valid get put s 0 none (get s) = filtersChanged env s := by
  rw [setSliceL_all_lok env valid get put s h, hl.put_get]

theorem iaddAttr_eq_changed (hl : LensOk get put) (s : St) (vs : List α)
    (h : LOk valid (get (extendL env valid get put s vs).1)) :
    applyL env valid get put s (.iaddAttr vs) =
      if (extendL env valid get put s vs).2 = .ok
      then filtersChanged env (extendL env valid get put s vs).1
      else extendL env valid get put s vs := by
  rw [iaddAttr_eq, setSliceL_self env valid get put hl h]

end

theorem filtersOk_of_filt {s s' : St} (h : Filt s s') (hf : FiltersOk s) : FiltersOk s' := by
  unfold FiltersOk at hf ⊢
  rw [h.1, h.2.1, h.2.2.1, h.2.2.2]; exact hf

theorem filtersOk_putGlobs {s : St} (h : FiltersOk s) (inc : Bool) {l : List Glob} (hl : l.Nodup) :
    FiltersOk (putGlobs s inc l) := by
  cases inc
  · exact ⟨hl, h.2⟩
  · exact ⟨h.1, hl, h.2.2⟩

theorem filtersOk_putRxs {s : St} (h : FiltersOk s) (inc : Bool) {l : List Rx} (hl : LOk Rx.valid l) :
    FiltersOk (putRxs s inc l) := by
  cases inc
  · exact ⟨h.1, h.2.1, hl.1, h.2.2.2.1, hl.2, h.2.2.2.2.2⟩
  · exact ⟨h.1, h.2.1, h.2.2.1, hl.1, h.2.2.2.2.1, hl.2⟩

/-- an edit writes a well-formed list into a well-formed list's place, everything else leaves the lists
    alone -/
theorem apply_filtersOk {s : St} (h : FiltersOk s) (env : Env) (op : Op) :
    FiltersOk (apply env s op).1 := by
  have hp : Pres env FiltersOk (fun _ => True) := pres_of_filt env fun _ _ => filtersOk_of_filt
  cases op with
  | glob inc o =>
    exact (applyL_endsL env _ _ _ s o).pres hp
      (fun a l hl ha => filtersOk_putGlobs ha inc (hl (ha.globs inc)).1) h True.intro
  | rx inc o =>
    exact (applyL_endsL env _ _ _ s o).pres hp
      (fun a l hl ha => filtersOk_putRxs ha inc (hl (ha.rxs inc))) h True.intro
  | _ => exact filtersOk_of_filt (apply_filt env s _ (by intros; simp) (by intros; simp)) h

/-- what every step keeps under a hypothesis `H` on the step, a history keeps under a hypothesis
    `All` that provides `H` step by step (`AllOk`, `AllOpOk`, or nothing at all) -/
theorem run_pres {env : Env} {P : St → Prop} {H : St → Op → Prop} {All : St → List Op → Prop}
    (hall : ∀ s op ops, All s (op :: ops) → H s op ∧ All (apply env s op).1 ops)
    (hstep : ∀ s op, P s → H s op → P (apply env s op).1) :
    ∀ (ops : List Op) (s : St), P s → All s ops → P (run env s ops)
  | [], _, h, _ => h
  | op :: ops, s, h, ha =>
    run_pres hall hstep ops _ (hstep s op h (hall s op ops ha).1) (hall s op ops ha).2

theorem run_inv {env : Env} {P : St → Prop} (hstep : ∀ s op, P s → P (apply env s op).1)
    (ops : List Op) (s : St) (h : P s) : P (run env s ops) :=
  run_pres (H := fun _ _ => True) (All := fun _ _ => True) (fun _ _ _ _ => ⟨True.intro, True.intro⟩)
    (fun s op h _ => hstep s op h) ops s h True.intro

theorem run2_pres {env : Env} {P : St2 → Prop} {H : St2 → Op2 → Prop} {All : St2 → List Op2 → Prop}
    (hall : ∀ w op ops, All w (op :: ops) → H w op ∧ All (apply2 env w op).1 ops)
    (hstep : ∀ w op, P w → H w op → P (apply2 env w op).1) :
    ∀ (ops : List Op2) (w : St2), P w → All w ops → P (run2 env w ops)
  | [], _, h, _ => h
  | op :: ops, w, h, ha =>
    run2_pres hall hstep ops _ (hstep w op h (hall w op ops ha).1) (hall w op ops ha).2

end Torf.Attrs
