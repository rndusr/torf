/-
  Torf.Lemmas.PipelineFair — termination under a fair scheduler: there is no infinite execution
  in which every thread that stays enabled is scheduled again and again (weak fairness, "justice").
  The pipeline is an instance of `Justice.no_fair_run`: a thread's step is determined by the state
  (`step_unique`); progress steps are bounded by the measure (PipelineMeasure); by deadlock freedom
  some thread, scheduled alone, reaches a progress step — at once, or, the janitor, after the idle
  steps of its polling round (PipelineLive); and idle steps of the other threads leave it so: those
  of main, the reader and the hashers change nothing, those of the janitor keep the core state, on
  which alone the steps of the others depend (PipelineCore).
-/
import Torf.Lemmas.Justice
import Torf.Lemmas.PipelineCore
import Torf.Lemmas.PipelineLive
namespace Torf.Pipeline

/-- an infinite execution: states and the labels between them -/
structure Exec (cfg : Cfg) where
  st : Nat → State
  lab : Nat → Label
  start : st 0 = init cfg
  next : ∀ n, step cfg (st n) (lab n) = some (st (n + 1))

/-- thread `t` can take a step in `s` -/
def enabled (cfg : Cfg) (s : State) (t : Tid) : Prop := ∃ b s', step cfg s ⟨t, b⟩ = some s'

/-- weak fairness: no thread stays enabled forever without being scheduled -/
def Exec.Fair {cfg : Cfg} (e : Exec cfg) : Prop :=
  ∀ (t : Tid) (n : Nat), ∃ m, n ≤ m ∧ ((e.lab m).tid = t ∨ ¬ enabled cfg (e.st m) t)

namespace Exec
variable {cfg : Cfg} (e : Exec cfg)

theorem reachable (n : Nat) : Reachable cfg (e.st n) := by
  induction n with
  | zero => rw [e.start]; exact Reachable.init cfg
  | succ n ih => exact ih.step (e.next n)

end Exec

/-- an idle step of main, the reader or a hasher changes nothing: a step that lowers the measure
    is a progress step -/
theorem idle_noop {cfg : Cfg} {s s' : State} {l : Label} (hrf : cfg.refuse = []) (h : Inv cfg s)
    (hl : l.tid ≠ .janitor) (hs : step cfg s l = some s') (hidle : isProgress s s' = false) :
    s' = s :=
  (mu_step hrf h hs).elim (fun hlt => by rw [isProgress_of_mu_lt hlt] at hidle; cases hidle) (·.2 hl)

theorem no_step_of_terminal {cfg : Cfg} {s : State} (h : Inv cfg s) (ht : terminal s = true)
    (l : Label) : step cfg s l = none := by
  cases hs : step cfg s l with
  | none => rfl
  | some s' =>
    rcases (StepG.of_step h.a hs).alive with h1 | h1
    · rw [ht] at h1; cases h1
    · rw [h.threads_done ht] at h1; cases h1

open Justice

def threadStep (cfg : Cfg) (s : State) (t : Tid) (s' : State) : Prop := ∃ b, step cfg s ⟨t, b⟩ = some s'

theorem reaches_of_janitor {cfg : Cfg} :
    ∀ {k : Nat} {s : State}, janitorReachesProgress cfg s k = true →
      Reaches (threadStep cfg) isProgress .janitor k s
  | 0, _, h => by simp [janitorReachesProgress] at h
  | _ + 1, _, h =>
    have ⟨s', hs, hp⟩ := janitorReachesProgress_succ.1 h
    ⟨s', ⟨false, hs⟩, hp.imp id reaches_of_janitor⟩

theorem reaches_of_canProgress {cfg : Cfg} {s : State} (h : canProgress cfg s = true) :
    ∃ t k, Reaches (threadStep cfg) isProgress t k s := by
  rcases canProgress_cases h with ⟨⟨t, b⟩, s', hs, hp⟩ | hj
  · exact ⟨t, 1, s', ⟨b, hs⟩, .inl hp⟩
  · exact ⟨.janitor, _, reaches_of_janitor hj⟩

theorem reaches_of_core_eq {cfg : Cfg} {t : Tid} (ht : t ≠ .janitor) :
    ∀ {k : Nat} {s s₂ : State}, core s = core s₂ → Reaches (threadStep cfg) isProgress t k s →
      Reaches (threadStep cfg) isProgress t k s₂
  | 0, _, _, _, h => h
  | _ + 1, s, s₂, hc, ⟨s', ⟨b, hs⟩, hp⟩ =>
    have ⟨t', ht', hc'⟩ := step_of_core_eq (l := ⟨t, b⟩) ht hc hs
    ⟨t', ⟨b, ht'⟩, hp.imp (fun h => by rwa [isProgress, ← hc, hc']) (reaches_of_core_eq ht hc'.symm)⟩

theorem Exec.not_fair {cfg : Cfg} (e : Exec cfg) (hwf : wf cfg = true) (hrf : cfg.refuse = [])
    (hfair : e.Fair) : False := by
  have inv := fun n => Inv.of_reachable hrf (e.reachable n)
  refine no_fair_run (R := threadStep cfg) (P := isProgress) (st := e.st) (th := fun n => (e.lab n).tid)
    (μ := mu cfg) ?fair ?det (fun n => mu_progress hrf (inv n) (e.next n)) ?live ?stable
  case fair =>
    exact fun t n => (hfair t n).imp fun _ =>
      And.imp_right (Or.imp_right (mt fun ⟨s', b, hs⟩ => ⟨b, s', hs⟩))
  case det => exact fun n _ ⟨b, hs⟩ => step_unique (l₁ := ⟨_, b⟩) (l₂ := e.lab n) rfl hs (e.next n)
  case live =>
    intro n
    cases ht : terminal (e.st n) with
    | true => have := e.next n; rw [no_step_of_terminal (inv n) ht] at this; cases this
    | false => exact reaches_of_canProgress ((inv n).deadlock_free hwf hrf ht)
  case stable =>
    intro n t k hidle hl h
    by_cases hj : (e.lab n).tid = .janitor
    · exact reaches_of_core_eq (fun ht => hl (hj.trans ht.symm)) (core_eq_of_idle hidle) h
    · rwa [idle_noop hrf (inv n) hj (e.next n) hidle]

end Torf.Pipeline
