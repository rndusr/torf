/-
  Checks of `validate()` in sequence that all raise MetainfoError are one check of the conjunction of what they test:
  the form in which `validate()` of a metainfo with known fields is read off (`C08_single_numbers`, `C08_multi_numbers`).
-/
import Torf.Model.Validate
namespace Torf.Validate
open Torf Torf.Export

def need (c : Prop) [Decidable c] : Except ErrKind Unit := if c then .ok () else .error .metainfo

variable (c d : Prop) [Decidable c] [Decidable d]

theorem checkVal_eq_need (r : Rule) (v : PyVal) : checkVal r v = need (passes r v = true) :=
  rfl

theorem need_then (y : Except ErrKind Unit) : ((need c).bind fun _ => y) = if c then y else .error .metainfo := by
  unfold need
  split <;> rfl

theorem raise_eq_need (y : Except ErrKind Unit) :
    (if c then .error .metainfo else y) = (need (¬ c)).bind fun _ => y := by
  rw [need_then, ite_not]

theorem need_bind : ((need c).bind fun _ => need d) = need (c ∧ d) := by
  rw [need_then]
  unfold need
  by_cases hc : c <;> simp only [hc, true_and, false_and, if_true, if_false]

theorem need_bind_ok : ((need c).bind fun _ => .ok ()) = need c :=
  need_then c _

theorem need_congr {c d : Prop} [Decidable c] [Decidable d] (h : c ↔ d) : need c = need d :=
  ite_congr (propext h) (fun _ => rfl) (fun _ => rfl)

end Torf.Validate
