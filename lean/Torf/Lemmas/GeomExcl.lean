/-
  `get_piece_indexes_of_file(file, exclusive=True)`: what the two conditional `remove`s leave of
  the file's pieces, and why only the first and the last piece of a file can be shared.
-/
import Torf.Lemmas.GeomIndex
namespace Torf.GeomLemmas
open Torf Torf.Geometry

/-- `if x in idxs and c: idxs.remove(x)` on an ascending list -/
theorem remove_if_mem (c : Bool) (x : Int) (l : List Int) (h : l.Pairwise (· < ·)) :
    (if l.contains x && c then listRemove l x else (pure l : Res (List Int))) =
      .ok (l.filter fun y => !(c && y == x)) := by
  have nd : l.Nodup := h.imp (by intro a b hab; omega)
  by_cases hx : x ∈ l ∧ c = true
  · obtain ⟨hx, rfl⟩ := hx
    simp only [listRemove, List.contains_eq_mem, hx, decide_true, Bool.and_true, if_true,
      nd.erase_eq_filter, Bool.true_and]
    rfl
  · have : l.filter (fun y => !(c && y == x)) = l := by
      rw [List.filter_eq_self]
      intro a ha
      cases c
      · rfl
      · simpa using fun h : a = x => hx ⟨h ▸ ha, rfl⟩
    rw [this, if_neg (by simpa using hx)]
    rfl

/-- the exclusive branch of the model, given the outcome `c1`, `c2` of the two comparisons with
    `[file]`, in closed form -/
theorem exclusive_closed (idxs : List Int) (first last : Int) (c1 c2 : Bool)
    (hs : idxs.Pairwise (· < ·)) (hfirst : first ∈ idxs) :
    (do
      let idxs ← if c1 then listRemove idxs first else (pure idxs : Res (List Int))
      if idxs.contains last && c2 then listRemove idxs last else pure idxs)
    = .ok ((idxs.filter fun y => !(c1 && y == first)).filter fun y => !(c2 && y == last)) := by
  have h1 := remove_if_mem c1 first idxs hs
  simp only [List.contains_eq_mem, hfirst, decide_true, Bool.true_and] at h1
  have h2 := remove_if_mem c2 last _ (hs.filter fun y => !(c1 && y == first))
  cases c1
  · rw [← h2, ← Except.ok.inj h1]
    rfl
  · rw [if_pos rfl] at h1
    rw [← h2, if_pos rfl, h1]
    rfl

theorem filesAt_eq_singleton (sizes : List Nat) (L : Nat) (x : Int) (j : Nat) (hj : j < sizes.length)
    (hin : GeomSpec.fileInPiece sizes L x j = true) :
    GeomSpec.filesAtByteRange sizes (x * (L : Int)) ((x + 1) * (L : Int) - 1) = [j] ↔
      ∀ k, k < sizes.length → k = j ∨ GeomSpec.fileInPiece sizes L x k = false := by
  constructor
  · intro h k hk
    cases hin' : GeomSpec.fileInPiece sizes L x k
    · exact Or.inr rfl
    · have := (mem_filesAtByteRange sizes _ _ k).mpr ⟨hk, hin'⟩
      rw [h] at this
      exact Or.inl (by simpa using this)
  · intro h
    apply eq_of_sorted_of_mem_iff (· < ·) (by intro x y h1 h2; omega)
    · exact filesAtByteRange_sorted sizes _ _
    · simp
    · intro k
      rw [mem_filesAtByteRange, List.mem_singleton]
      constructor
      · rintro ⟨hk, hin'⟩
        exact (h k hk).resolve_right (by rw [GeomSpec.fileInPiece, hin']; simp)
      · rintro rfl
        exact ⟨hj, hin⟩

theorem inner_piece (sizes : List Nat) (L j k : Nat) (x : Int) (hL : 0 < L)
    (h1 : floorDiv (GeomSpec.pos sizes j : Int) L < x)
    (h2 : x < floorDiv ((GeomSpec.pos sizes j : Int) + (GeomSpec.size sizes j : Int) - 1) L)
    (hin : GeomSpec.fileInPiece sizes L x k = true) : k = j := by
  have hL' : (0 : Int) < (L : Int) := by omega
  have hm1 := (Int.ediv_lt_iff_lt_mul hL').mp h1
  have hm2 := (Int.le_ediv_iff_mul_le hL').mp (show x + 1 ≤ _ from h2)
  rw [GeomSpec.fileInPiece, fileInRange_iff] at hin
  false_or_by_contra
  rename_i hkj
  rcases Nat.lt_or_gt_of_ne hkj with hlt | hgt
  · have := files_disjoint sizes k j hlt
    omega
  · have := files_disjoint sizes j k hgt
    omega

end Torf.GeomLemmas
