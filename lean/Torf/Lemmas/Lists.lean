/-
  Helper lemmas for C16, tier level and whole-state invariant.  `TiersOK` does not depend on the
  order of the tiers (`TiersOK_perm`) and peels off one tier at a time (`TiersOK_cons`: the tier is
  non-empty and `UOK` relative to the URLs of the others); every lemma about a position in the
  middle of the tiers is these two plus `List.perm_middle`.
  The `_ok` lemmas of the operations conclude `∃ T', w = wOf T' ∧ (TiersOK T → TiersOK T')`: that
  the callback is handed what `_trackers_changed` reads from SOME tiers needs no assumption and is
  all that keeps the metainfo and a held object in sync (`heldOp_mirrors`); that good tiers stay
  good is the second half, which the invariant `Inv` needs.  Through a fresh getter call on a state
  that mirrors good tiers an operation is the operation on a held object (`trackersOp_eq_heldOp`), so
  `trackersOp_inv` is `heldOp_mirrors`.
  An operation other than extend / += is all or nothing (`tiersOp_atomic`); for a held object this is
  `heldOp_cases`, and `heldStep` — `replace` / `append` / `clear` with the order of effects inside
  them — is `heldOp` on those three operations (`heldStep_eq`).
  `Inv` says that the fields are what the write-backs produce for good lists; the getters then
  rebuild exactly those lists (`rawTiers_eq`, `tiersAddAll_id`, `getSeeds_writeSeeds`), which gives
  `Spec.holds` (`Inv_holds`).
-/
import Torf.Lemmas.ListsUrl
import Torf.Spec.Lists
namespace Torf.Lists

variable {isUrl : String → Bool}

/-- a `Trackers` object / stored tiers: no empty tier, no URL twice, all URLs good -/
def TiersOK (isUrl : String → Bool) (T : Tiers) : Prop :=
  (∀ t ∈ T, t ≠ []) ∧ T.flatten.Nodup ∧ ∀ u ∈ T.flatten, Good isUrl u

theorem flatten_sublist {α} {A B : List (List α)} (h : A.Sublist B) :
    A.flatten.Sublist B.flatten := by
  induction h with
  | slnil => simp
  | cons a _ ih =>
    simp only [List.flatten_cons]
    exact ih.trans (List.sublist_append_right _ _)
  | cons_cons a _ ih =>
    simp only [List.flatten_cons]
    exact List.Sublist.append (List.Sublist.refl _) ih

theorem TiersOK_nil : TiersOK isUrl [] := by simp [TiersOK]

theorem TiersOK_sublist {T T' : Tiers} (h : TiersOK isUrl T) (hs : T'.Sublist T) :
    TiersOK isUrl T' :=
  ⟨fun t ht => h.1 t (hs.subset ht), (flatten_sublist hs).nodup h.2.1,
   fun u hu => h.2.2 u ((flatten_sublist hs).subset hu)⟩

theorem TiersOK_perm {T T' : Tiers} (h : TiersOK isUrl T) (hp : T'.Perm T) : TiersOK isUrl T' :=
  ⟨fun t ht => h.1 t (hp.subset ht), hp.flatten.nodup_iff.2 h.2.1,
   fun u hu => h.2.2 u (hp.flatten.subset hu)⟩

theorem TiersOK_reverse {T : Tiers} (hT : TiersOK isUrl T) : TiersOK isUrl T.reverse :=
  TiersOK_perm hT (List.reverse_perm T)

theorem TiersOK_cons {t : Tier} {T : Tiers} :
    TiersOK isUrl (t :: T) ↔ t ≠ [] ∧ UOK isUrl T.flatten t ∧ TiersOK isUrl T := by
  simp only [TiersOK, UOK, List.flatten_cons, List.nodup_append, List.forall_mem_cons,
    List.mem_append]
  constructor
  · rintro ⟨⟨h1, h2⟩, ⟨h3, h4, h5⟩, h6⟩
    exact ⟨h1, ⟨h3, fun u hu => h6 u (.inl hu), fun u hu hm => h5 u hu u hm rfl⟩,
      h2, h4, fun u hu => h6 u (.inr hu)⟩
  · rintro ⟨h1, ⟨h3, h7, h8⟩, h2, h4, h9⟩
    exact ⟨⟨h1, h2⟩, ⟨h3, h4, fun a ha b hb e => h8 a ha (e ▸ hb)⟩,
      fun u hu => hu.elim (h7 u) (h9 u)⟩

theorem TiersOK_splice {T : Tiers} {lo hi : Nat} {tier : Tier} (h : TiersOK isUrl T)
    (hle : lo ≤ hi) (hne : tier ≠ [])
    (hk : UOK isUrl (splice T lo hi []).flatten tier) : TiersOK isUrl (splice T lo hi [tier]) :=
  TiersOK_perm (TiersOK_cons.2 ⟨hne, hk, TiersOK_sublist h (splice_nil_sublist T hle)⟩)
    (by simp [splice])

theorem tier_UOK_others {T : Tiers} {k : Nat} {tier : Tier} (h : TiersOK isUrl T)
    (hk : T[k]? = some tier) : UOK isUrl (splice T k (k + 1) []).flatten tier := by
  obtain ⟨hlt, rfl⟩ := List.getElem?_eq_some_iff.1 hk
  have hp : (T[k] :: splice T k (k + 1) []).Perm T := by
    have := (List.perm_middle (a := T[k]) (l₁ := T.take k) (l₂ := T.drop (k + 1))).symm
    simpa [splice] using this
  exact (TiersOK_cons.1 (TiersOK_perm h hp)).2.1

theorem removeEmpty_splice {T : Tiers} {k : Nat} (h : ∀ t ∈ T, t ≠ []) :
    removeEmpty (splice T k (k + 1) [[]]) = splice T k (k + 1) [] := by
  unfold removeEmpty splice
  simp only [List.append_assoc, List.singleton_append, List.nil_append]
  rw [List.eraseP_append_right]
  · simp
  · intro b hb
    simpa using h b (List.mem_of_mem_take hb)

/-- `_tier_changed` after a tier was edited into `tier'` -/
theorem afterTier_ok {T : Tiers} {k : Nat} {tier' : Tier} (h : TiersOK isUrl T)
    (hk : UOK isUrl (splice T k (k + 1) []).flatten tier') : TiersOK isUrl (afterTier T k tier') := by
  unfold afterTier
  by_cases he : tier' = []
  · subst he
    rw [if_pos rfl, removeEmpty_splice h.1]
    exact TiersOK_sublist h (splice_nil_sublist T (Nat.le_succ k))
  · rw [if_neg he]
    exact TiersOK_splice h (Nat.le_succ k) he hk

theorem not_any_setEq_of_fresh {T : Tiers} {tier : Tier} (hne : tier ≠ [])
    (hf : ∀ u ∈ tier, u ∉ T.flatten) : T.any (setEq tier) = false := by
  rw [List.any_eq_false]
  intro t ht hs
  obtain ⟨u, hu⟩ := List.exists_mem_of_ne_nil tier hne
  unfold setEq at hs
  simp only [Bool.and_eq_true, List.all_eq_true, decide_eq_true_eq] at hs
  exact hf u hu (List.mem_flatten.2 ⟨t, ht, hs.1 u hu⟩)

/-- `Trackers.insert`: the tier `URLs(v, _get_known_urls = every stored URL)` is `readd` against every
    stored URL, so it shares no URL with a stored tier and the test `tier not in self._tiers` never
    decides anything: the tier is inserted unless it is empty -/
theorem tiersInsert_spec (T : Tiers) (i : Int) (v : TierVal) :
    tiersInsert isUrl T i v =
      if (tierValUrls v).all (accepts isUrl) = true then
        .ok (let tier := readd T.flatten [] ((tierValUrls v).map spaceToPlus)
             if tier = [] then T else splice T (clampIdx T.length i) (clampIdx T.length i) [tier])
      else .error .url := by
  unfold tiersInsert
  rw [mkURLs_eq, urlsReplace_spec]
  by_cases h : (tierValUrls v).all (accepts isUrl) = true <;>
    simp only [h, if_true, if_false, Bool.false_eq_true]
  have hf := (readd_ok (UOK_nil T.flatten) (good_map_spaceToPlus (List.all_eq_true.1 h))).2.2
  by_cases hne : readd T.flatten [] ((tierValUrls v).map spaceToPlus) = []
  · simp [hne]
  · simp [hne, not_any_setEq_of_fresh hne hf]

theorem tiersInsert_ok {T T' : Tiers} {i : Int} {v : TierVal}
    (hT : TiersOK isUrl T) (hr : tiersInsert isUrl T i v = .ok T') : TiersOK isUrl T' := by
  obtain ⟨hv, rfl⟩ := ite_ok_iff.1 (tiersInsert_spec T i v ▸ hr)
  dsimp only
  split
  · exact hT
  · refine TiersOK_splice hT (Nat.le_refl _) ‹_› ?_
    rw [splice_same_nil]
    exact readd_ok (UOK_nil _) (good_map_spaceToPlus (List.all_eq_true.1 hv))

theorem tiersInsert_validates {T : Tiers} {i : Int} {v : TierVal} :
    Validates isUrl (tierValUrls v) (tiersInsert isUrl T i v) :=
  tiersInsert_spec T i v ▸ validates_ite _ _

theorem tiersAddAll_ok {T T' : Tiers} {vs : List TierVal}
    (hT : TiersOK isUrl T) (hr : tiersAddAll isUrl T vs = .ok T') : TiersOK isUrl T' := by
  induction vs generalizing T with
  | nil => cases hr; exact hT
  | cons v vs ih =>
    unfold tiersAddAll at hr
    split at hr
    · cases hr
    · exact ih (tiersInsert_ok hT ‹_›) hr

theorem tiersAddAll_validates {T : Tiers} {vs : List TierVal} :
    Validates isUrl (vs.flatMap tierValUrls) (tiersAddAll isUrl T vs) := by
  induction vs generalizing T with
  | nil => exact (if_pos rfl).mpr ⟨T, rfl⟩
  | cons v vs ih =>
    unfold Validates at ih ⊢
    rw [tiersAddAll, tiersInsert_spec, List.flatMap_cons, List.all_append]
    cases (tierValUrls v).all (accepts isUrl)
    · exact (if_neg Bool.false_ne_true).mpr rfl
    · simp only [Bool.true_and, if_true]
      exact ih

theorem tiersAddAll_error {T : Tiers} {vs : List TierVal} {e : Err}
    (hr : tiersAddAll isUrl T vs = .error e) : e = .url :=
  tiersAddAll_validates.error hr

theorem tiersAddAll_ok_iff {T : Tiers} {vs : List TierVal} :
    (∃ T', tiersAddAll isUrl T vs = .ok T') ↔
      ∀ u ∈ vs.flatMap tierValUrls, accepts isUrl u = true :=
  tiersAddAll_validates.ok_iff

theorem flatMap_tierValUrls_list (ts : Tiers) :
    (ts.map TierVal.list).flatMap tierValUrls = ts.flatten := by
  induction ts with
  | nil => rfl
  | cons t ts ih => simp only [List.map_cons, List.flatMap_cons, List.flatten_cons, ih, tierValUrls]

theorem tiersInsert_fresh {acc : Tiers} {t : Tier} (h : TiersOK isUrl (acc ++ [t])) :
    tiersInsert isUrl acc acc.length (.list t) = .ok (acc ++ [t]) := by
  obtain ⟨hne, hu, _⟩ := TiersOK_cons.1 (TiersOK_perm h (List.perm_append_singleton t acc).symm)
  unfold tiersInsert
  rw [mkURLs_list_id hu]
  simp [hne, not_any_setEq_of_fresh hne hu.2.2, clampIdx_length, splice]

/-- re-reading stored good tiers is the identity (`Trackers(tiers)` in the getter) -/
theorem tiersAddAll_id {acc T : Tiers} (h : TiersOK isUrl (acc ++ T)) :
    tiersAddAll isUrl acc (T.map .list) = .ok (acc ++ T) := by
  induction T generalizing acc with
  | nil => simp [tiersAddAll]
  | cons t T ih =>
    have h' : TiersOK isUrl ((acc ++ [t]) ++ T) := by simpa using h
    rw [List.map_cons, tiersAddAll,
      tiersInsert_fresh (TiersOK_sublist h' (List.sublist_append_left _ _))]
    simpa using ih h'

theorem tiersExtendLoop_ok {T T' : Tiers} {last last' : Option Tiers}
    {vs : List TierVal} {out : Outcome} (hT : TiersOK isUrl T)
    (hl : ∀ l, last = some l → TiersOK isUrl l)
    (hr : tiersExtendLoop isUrl T last vs = (T', last', out)) :
    ∀ l, last' = some l → TiersOK isUrl l := by
  induction vs generalizing T last with
  | nil => cases hr; exact hl
  | cons v vs ih =>
    unfold tiersExtendLoop at hr
    split at hr
    · cases hr; exact hl
    · have h1 := tiersInsert_ok hT ‹_›
      exact ih h1 (fun l hl' => by cases hl'; exact h1) hr

/-- stated for `last.map wOf = some w`, the form in which the `extend` branch and both `+=` branches
    of `tiersOp` present the last callback argument -/
theorem tiersExtendLoop_written {T T1 : Tiers} {last : Option Tiers} {vs : List TierVal}
    {out : Outcome} {w : Written} (he : tiersExtendLoop isUrl T none vs = (T1, last, out))
    (hw : last.map wOf = some w) : ∃ T', w = wOf T' ∧ (TiersOK isUrl T → TiersOK isUrl T') := by
  obtain ⟨l, rfl, rfl⟩ := Option.map_eq_some_iff.1 hw
  exact ⟨l, rfl, fun hT => tiersExtendLoop_ok hT (fun _ h => by cases h) he l rfl⟩

theorem mkTrackers_ok {v : TrackersVal} {T : Tiers}
    (hr : mkTrackers isUrl v = .ok T) : TiersOK isUrl T := by
  cases v <;> simp only [mkTrackers] at hr
  case none => cases hr; exact TiersOK_nil
  case str | list => exact tiersAddAll_ok TiersOK_nil hr
  case other => cases hr

theorem tiersSetItemT_ok {T T' : Tiers} {i : Int} {v : TierVal}
    (hT : TiersOK isUrl T) (hr : tiersSetItemT isUrl T i v = .ok T') : TiersOK isUrl T' := by
  unfold tiersSetItemT at hr
  split at hr
  · cases hr
  · rename_i tier hm
    split at hr
    · rename_i hc
      split at hr <;> cases hr
      rename_i k _
      refine TiersOK_splice hT (Nat.le_succ k) hc.1 (UOK_known_subset (mkURLs_ok hm) ?_)
      exact fun u hu => (flatten_sublist (splice_nil_sublist T (Nat.le_succ k))).subset hu
    · cases hr; exact hT

theorem tiersSetItem_ok {T : Tiers} {i : Int} {v : TierVal} {w : Written} {out : Outcome}
    (hr : tiersSetItem isUrl T i v = (some w, out)) :
    ∃ T', w = wOf T' ∧ (TiersOK isUrl T → TiersOK isUrl T') := by
  unfold tiersSetItem at hr
  split at hr <;> cases hr
  exact ⟨_, rfl, fun hT => tiersSetItemT_ok hT ‹_›⟩

/-- assigning a tier value whose URLs are all stored already (in any tier) assigns nothing:
    every URL is filtered as known, the new tier is empty, `len(tier) > 0` fails -/
theorem tiersSetItemT_stored {T : Tiers} {i : Int} {x : Tier} (hT : TiersOK isUrl T)
    (hm : ∀ c ∈ x, c ∈ T.flatten) : tiersSetItemT isUrl T i (.list x) = .ok T := by
  have hr : urlsReplace isUrl T.flatten x = .ok [] := by
    refine urlsReplace_ok_iff.2 ⟨fun c hc => accepts_of_good (hT.2.2 c (hm c hc)), ?_⟩
    rw [map_spaceToPlus_of_good fun c hc => hT.2.2 c (hm c hc)]
    exact (readd_all_known hm).symm
  simp [tiersSetItemT, mkURLs, hr]

theorem tierOp_ok {T : Tiers} {ti : Int} {op : UOp} {w : Written} {out : Outcome}
    (hr : tierOp isUrl T ti op = (some w, out)) :
    ∃ T', w = wOf T' ∧ (TiersOK isUrl T → TiersOK isUrl T') := by
  unfold tierOp at hr
  split at hr
  · cases hr
  · rename_i k _
    split at hr
    · cases hr
    · rename_i tier hk
      have hu := fun hT => tier_UOK_others (isUrl := isUrl) hT hk
      dsimp only at hr
      split at hr
      · -- `+=`: `extend`, then the tier is assigned to its own position
        split at hr
        · rename_i last e he
          obtain ⟨t', rfl, rfl⟩ := Option.map_eq_some_iff.1 (congrArg Prod.fst hr)
          exact ⟨_, rfl, fun hT =>
            afterTier_ok hT (extendLoop_ok (hu hT) he)⟩
        · obtain ⟨T', rfl, h⟩ := tiersSetItem_ok hr
          exact ⟨T', rfl, fun hT => h (afterTier_ok hT (extendLoop_ok (hu hT) ‹_›))⟩
      · rcases ho : urlsOp isUrl (splice T k (k + 1) []).flatten tier op with ⟨last, out'⟩
        rw [ho] at hr
        obtain ⟨t', rfl, rfl⟩ := Option.map_eq_some_iff.1 (congrArg Prod.fst hr)
        exact ⟨_, rfl, fun hT => afterTier_ok hT (urlsOp_ok (hu hT) ho)⟩

/-- the excluded operation is the slice assignment `trackers[a:b] = …` (open finding D16b): it hands
    the callback `wOfEntries` of entries among which raw URL strings stand as tiers -/
theorem tiersOp_ok {T : Tiers} {op : TOp} {w : Written} {out : Outcome}
    (hop : (Op.trackers op).affected = false) (hr : tiersOp isUrl T op = (some w, out)) :
    ∃ T', w = wOf T' ∧ (TiersOK isUrl T → TiersOK isUrl T') := by
  have hdel : TiersOK isUrl T → ∀ lo hi, lo ≤ hi → TiersOK isUrl (splice T lo hi []) :=
    fun hT lo hi hle => TiersOK_sublist hT (splice_nil_sublist T hle)
  cases op <;> dsimp only [tiersOp] at hr
  case set => cases hr
  case insert | append =>
    split at hr <;> cases hr
    exact ⟨_, rfl, fun hT => tiersInsert_ok hT ‹_›⟩
  case extend vs =>
    rcases he : tiersExtendLoop isUrl T none vs with ⟨T1, last, out'⟩
    rw [he] at hr
    exact tiersExtendLoop_written he (congrArg Prod.fst hr)
  case iadd vs =>
    -- `extend`, then `torrent.trackers = <the extended object>`
    split at hr
    · exact tiersExtendLoop_written ‹_› (congrArg Prod.fst hr)
    · split at hr
      · exact tiersExtendLoop_written ‹_› (congrArg Prod.fst hr)
      · cases hr; exact ⟨_, rfl, fun _ => tiersAddAll_ok TiersOK_nil ‹_›⟩
  case delete | pop | remove =>
    split at hr <;> cases hr
    exact ⟨_, rfl, fun hT => hdel hT _ _ (Nat.le_succ _)⟩
  case delSlice a b => cases hr; exact ⟨_, rfl, fun hT => hdel hT _ _ (sliceRange_le _ a b)⟩
  case clear => cases hr; exact ⟨[], rfl, fun _ => TiersOK_nil⟩
  case replace =>
    split at hr
    · cases hr
    · split at hr <;> cases hr
      exact ⟨_, rfl, fun _ => tiersAddAll_ok TiersOK_nil ‹_›⟩
  case setItem => exact tiersSetItem_ok hr
  case reverse => cases hr; exact ⟨T.reverse, rfl, TiersOK_reverse⟩
  case setSlice => cases hop
  case tier => exact tierOp_ok hr

def TOp.atomic : TOp → Bool
  | .extend _ => false | .iadd _ => false | .tier _ op => op.atomic | _ => true

theorem tierOp_atomic {T : Tiers} {ti : Int} {op : UOp} (ha : op.atomic = true) :
    AllOrNothing (tierOp isUrl T ti op) := by
  unfold tierOp
  split
  · exact .error _
  · split
    · exact .error _
    · split
      · cases ha
      · exact (urlsOp_atomic ha).map _

theorem tiersOp_atomic {T : Tiers} {op : TOp} (ha : op.atomic = true) (hset : ∀ v, op ≠ .set v) :
    AllOrNothing (tiersOp isUrl T op) := by
  cases op <;> dsimp only [tiersOp, tiersSetItem, tiersSetSlice]
  case set v => exact absurd rfl (hset v)
  case extend | iadd => cases ha
  case tier => exact tierOp_atomic ha
  all_goals repeat' split
  all_goals constructor

theorem heldOp_cases {s : MI} {T : Tiers} {op : TOp} (ha : op.atomic = true) (hset : ∀ v, op ≠ .set v)
    (hop : (Op.trackers op).affected = false) :
    (∃ e, heldOp isUrl s T op = (s, T, .error e)) ∨
    ∃ T', heldOp isUrl s T op = (writeTrackers s (wOf T'), T', .ok) ∧
      (TiersOK isUrl T → TiersOK isUrl T') := by
  unfold heldOp
  have h := tiersOp_atomic (isUrl := isUrl) (T := T) ha hset
  generalize ho : tiersOp isUrl T op = res at h ⊢
  cases h
  · exact .inl ⟨_, rfl⟩
  · obtain ⟨T', rfl, hT'⟩ := tiersOp_ok hop ho
    exact .inr ⟨T', rfl, hT'⟩

theorem heldOp_mirrors {s : MI} {T : Tiers} {op : TOp} (hm : Mirrors s T)
    (hop : (Op.trackers op).affected = false) :
    Mirrors (heldOp isUrl s T op).1 (heldOp isUrl s T op).2.1 ∧
      (TiersOK isUrl T → TiersOK isUrl (heldOp isUrl s T op).2.1) := by
  unfold heldOp
  rcases ho : tiersOp isUrl T op with ⟨_ | w, out⟩
  · exact ⟨hm, id⟩
  · obtain ⟨T', rfl, hT'⟩ := tiersOp_ok hop ho
    exact ⟨⟨rfl, rfl⟩, hT'⟩

theorem heldOp_seeds (s : MI) (T : Tiers) (op : TOp) :
    (heldOp isUrl s T op).1.urlList = s.urlList ∧ (heldOp isUrl s T op).1.httpseeds = s.httpseeds := by
  unfold heldOp
  split <;> exact ⟨rfl, rfl⟩

theorem heldOps_mirrors {s : MI} {T : Tiers} {ops : List TOp} (hm : Mirrors s T)
    (hops : ∀ op ∈ ops, (Op.trackers op).affected = false) :
    Mirrors (heldOps isUrl s T ops).1 (heldOps isUrl s T ops).2 ∧
      (TiersOK isUrl T → TiersOK isUrl (heldOps isUrl s T ops).2) := by
  induction ops generalizing s T with
  | nil => exact ⟨hm, id⟩
  | cons op ops ih =>
    obtain ⟨h1, h2⟩ := heldOp_mirrors (isUrl := isUrl) hm (hops op (by simp))
    obtain ⟨h3, h4⟩ := ih h1 fun o ho => hops o (by simp [ho])
    exact ⟨h3, fun hT => h4 (h2 hT)⟩

theorem heldReplaceLoop_of_addAll {T T' : Tiers} {vs : List TierVal}
    (h : tiersAddAll isUrl T vs = .ok T') : heldReplaceLoop isUrl T vs = (T', .ok) := by
  induction vs generalizing T with
  | nil => cases h; rfl
  | cons v vs ih =>
    unfold tiersAddAll at h
    unfold heldReplaceLoop
    split at h
    · cases h
    · exact ih h

/-- the second pass of `Trackers.replace` runs over the tiers of the validated `Trackers(tiers)` object
    and rebuilds exactly those -/
theorem heldReplaceLoop_rebuild {vs : List TierVal} {T1 : Tiers}
    (h1 : tiersAddAll isUrl [] vs = .ok T1) : heldReplaceLoop isUrl [] (T1.map .list) = (T1, .ok) :=
  heldReplaceLoop_of_addAll (tiersAddAll_id (acc := []) (tiersAddAll_ok TiersOK_nil h1))

def HOp.toTOp : HOp → TOp
  | .replace vs => .replace vs
  | .append v => .append v
  | .clear => .clear

theorem HOp.toTOp_plain (op : HOp) :
    op.toTOp.atomic = true ∧ (∀ v, op.toTOp ≠ .set v) ∧ (Op.trackers op.toTOp).affected = false := by
  cases op <;> exact ⟨rfl, fun _ h => TOp.noConfusion h, rfl⟩

/-- `heldStep` with its order of effects (validate, clear, re-append, callback if set) is `heldOp` on
    its three operations; that `replace` cannot stop half-way is `heldReplaceLoop_rebuild` -/
theorem heldStep_eq (s : MI) (h : HeldTr) (op : HOp) :
    heldStep isUrl s h op =
      (if h.cb then (heldOp isUrl s h.tiers op.toTOp).1 else s,
       { h with tiers := (heldOp isUrl s h.tiers op.toTOp).2.1 },
       (heldOp isUrl s h.tiers op.toTOp).2.2) := by
  cases op with
  | replace vs =>
    simp only [heldStep, heldReplace, HOp.toTOp, heldOp, tiersOp]
    cases h1 : tiersAddAll isUrl [] vs with
    | error e => simp only [ite_self]
    | ok T1 =>
      simp only [heldReplaceLoop_rebuild h1,
        tiersAddAll_id (acc := []) (tiersAddAll_ok TiersOK_nil h1), List.nil_append]
      rfl
  | append v =>
    simp only [heldStep, heldAppend, HOp.toTOp, heldOp, tiersOp]
    cases tiersInsert isUrl h.tiers h.tiers.length v with
    | error e => simp only [ite_self]
    | ok T' => rfl
  | clear => rfl

theorem heldRun_eq (s : MI) (h : HeldTr) (ops : List HOp) (hcb : h.cb = true) :
    heldRun isUrl s h ops =
      ((heldOps isUrl s h.tiers (ops.map HOp.toTOp)).1,
       { h with tiers := (heldOps isUrl s h.tiers (ops.map HOp.toTOp)).2 }) := by
  induction ops generalizing s h with
  | nil => rfl
  | cons op ops ih =>
    simp only [heldRun, List.map_cons, heldOps, heldStep_eq, if_pos hcb]
    exact ih _ _ hcb

/-- a stored seed field: what `_webseeds_changed` writes for a good list -/
def SeedsField (isUrl : String → Bool) (f : Option (List String)) : Prop :=
  ∃ W, UOK isUrl [] W ∧ f = writeSeeds W

theorem getSeeds_writeSeeds {W : List String} (h : UOK isUrl [] W) :
    getSeeds isUrl (writeSeeds W) = .ok W := by
  unfold getSeeds writeSeeds
  by_cases he : W = []
  · subst he; rfl
  · simp only [he, if_false, Option.getD_some]; exact urlsReplace_id h

theorem SeedsField_none : SeedsField isUrl none := ⟨[], UOK_nil _, rfl⟩

theorem lastSeeds_ok {stored last : Option (List String)} (hs : SeedsField isUrl stored)
    (hl : ∀ l, last = some l → UOK isUrl [] l) : SeedsField isUrl (lastSeeds stored last) := by
  cases last with
  | none => exact hs
  | some l => exact ⟨l, hl l rfl, rfl⟩

/-- every in-place edit except `+=` (which re-assigns the attribute afterwards): getter, the
    operation on the list, write-back of what the last callback call saw -/
theorem seedsOp_generic {stored : Option (List String)} {op : UOp} (hop : ∀ us, op ≠ .iadd us) :
    seedsOp isUrl stored (.edit op) =
      match getSeeds isUrl stored with
      | .error e => (stored, .error e)
      | .ok items =>
        match urlsOp isUrl [] items op with
        | (last, out) => (lastSeeds stored last, out) := by
  unfold seedsOp
  split
  · rename_i h; cases h
  · rename_i h; cases h; exact absurd rfl (hop _)
  · rename_i h; cases h; rfl

theorem seedsOp_ok {stored f : Option (List String)} {op : SOp}
    {out : Outcome} (hs : SeedsField isUrl stored)
    (hr : seedsOp isUrl stored op = (f, out)) : SeedsField isUrl f := by
  cases op with
  | set v =>
    simp only [seedsOp] at hr
    split at hr <;> cases hr
    · exact hs
    · rename_i items hm
      refine ⟨items, ?_, rfl⟩
      cases v <;> simp only [mkSeeds] at hm
      case other => cases hm
      all_goals exact urlsReplace_ok hm
  | edit uop =>
    obtain ⟨W, hW, rfl⟩ := hs
    have hs : SeedsField isUrl (writeSeeds W) := ⟨W, hW, rfl⟩
    by_cases hi : ∃ us, uop = .iadd us
    · -- `extend`, then `torrent.webseeds = <the extended object>`
      obtain ⟨us, rfl⟩ := hi
      simp only [seedsOp, getSeeds_writeSeeds hW] at hr
      rcases he : extendLoop isUrl [] W none us with ⟨last, o⟩
      rw [he] at hr
      have hx : ∀ l, last = some l → UOK isUrl [] l := by rintro l rfl; exact extendLoop_ok hW he
      cases o <;> simp only at hr
      case error => cases hr; exact lastSeeds_ok hs hx
      case ok =>
        split at hr <;> cases hr
        · exact lastSeeds_ok hs hx
        · exact ⟨_, urlsReplace_ok ‹_›, rfl⟩
    · rw [seedsOp_generic fun us h => hi ⟨us, h⟩, getSeeds_writeSeeds hW] at hr
      cases hr
      exact lastSeeds_ok hs fun l hl => urlsOp_ok hW (Prod.ext hl rfl)

theorem seedsOp_reverse {W : List String} (hW : UOK isUrl [] W) :
    seedsOp isUrl (writeSeeds W) (.edit .reverse) = (writeSeeds W.reverse, .ok) := by
  simp only [seedsOp, getSeeds_writeSeeds hW, urlsOp_reverse hW, lastSeeds]

/-- announce / announce-list are what `_trackers_changed` writes for good tiers -/
def TrackersFields (isUrl : String → Bool) (s : MI) : Prop :=
  ∃ T, TiersOK isUrl T ∧ s.announce = T.head?.bind List.head? ∧
    s.announceList = if T.flatten.length ≤ 1 then none else some T

/-- the inductive invariant of C16 -/
def Inv (isUrl : String → Bool) (s : MI) : Prop :=
  TrackersFields isUrl s ∧ SeedsField isUrl s.urlList ∧ SeedsField isUrl s.httpseeds

theorem Inv_init : Inv isUrl MI.init :=
  ⟨⟨[], TiersOK_nil, rfl, rfl⟩, SeedsField_none, SeedsField_none⟩

/-- the getter's reconstruction (`announce` put in front unless it is listed) undoes the write-back:
    `announce-list` is dropped only for `[]` and `[[u]]` -/
theorem rawTiers_eq {s : MI} {T : Tiers} (hT : TiersOK isUrl T) (hm : Mirrors s T) :
    rawTiers s = T := by
  obtain ⟨ha, hl⟩ := hm
  unfold wOf at ha hl
  unfold rawTiers
  rw [ha, hl]
  match T, hT with
  | [], _ => rfl
  | [] :: _, hT => exact absurd rfl (hT.1 [] (by simp))
  | (u :: t') :: T', hT =>
    by_cases hlen : ((u :: t') :: T').flatten.length ≤ 1
    · have hlen' := hlen
      simp only [List.flatten_cons, List.length_append, List.length_cons] at hlen'
      obtain rfl : t' = [] := List.eq_nil_of_length_eq_zero (by omega)
      obtain rfl : T' = [] := by
        cases T' with
        | nil => rfl
        | cons t2 T'' =>
          have := List.length_pos_iff.2 (hT.1 t2 (by simp))
          simp only [List.flatten_cons, List.length_append] at hlen'
          omega
      simp
    · rw [if_neg hlen]
      simp only [List.head?_cons, Option.bind_some, Option.getD_some]
      rw [if_pos (by simp)]

theorem getTrackers_eq {s : MI} {T : Tiers} (hT : TiersOK isUrl T) (hm : Mirrors s T) :
    getTrackers isUrl s = .ok T := by
  unfold getTrackers
  rw [rawTiers_eq hT hm]
  exact tiersAddAll_id (acc := []) hT

theorem trackersOp_generic {s : MI} {op : TOp} (hop : ∀ v, op ≠ .set v) :
    trackersOp isUrl s op =
      match getTrackers isUrl s with
      | .error e => (s, .error e)
      | .ok T => match tiersOp isUrl T op with
        | (last, out) => (applyWritten s last, out) := by
  unfold trackersOp
  split
  · exact absurd rfl (hop _)
  · rfl

theorem trackersOp_eq_heldOp {s : MI} {T : Tiers} {op : TOp} (hT : TiersOK isUrl T)
    (hm : Mirrors s T) (hset : ∀ v, op ≠ .set v) :
    trackersOp isUrl s op = ((heldOp isUrl s T op).1, (heldOp isUrl s T op).2.2) := by
  rw [trackersOp_generic hset, getTrackers_eq hT hm]
  unfold heldOp
  dsimp only
  rcases tiersOp isUrl T op with ⟨_ | w, out⟩ <;> rfl

theorem trackersOp_inv {s : MI} {op : TOp}
    (hs : TrackersFields isUrl s) (hop : (Op.trackers op).affected = false) :
    TrackersFields isUrl (trackersOp isUrl s op).1 ∧
    (trackersOp isUrl s op).1.urlList = s.urlList ∧
    (trackersOp isUrl s op).1.httpseeds = s.httpseeds := by
  by_cases hset : ∃ v, op = .set v
  · obtain ⟨v, rfl⟩ := hset
    simp only [trackersOp]
    split
    · exact ⟨hs, rfl, rfl⟩
    · exact ⟨⟨_, mkTrackers_ok ‹_›, rfl, rfl⟩, rfl, rfl⟩
  · obtain ⟨T, hT, hm⟩ := hs
    rw [trackersOp_eq_heldOp hT hm fun v hv => hset ⟨v, hv⟩]
    obtain ⟨h1, h2⟩ := heldOp_mirrors (isUrl := isUrl) hm hop
    exact ⟨⟨_, h2 hT, h1⟩, heldOp_seeds s T op⟩

theorem step_inv {s : MI} {op : Op} (hs : Inv isUrl s)
    (hop : op.affected = false) : Inv isUrl (step isUrl s op).1 := by
  obtain ⟨ht, hw, hh⟩ := hs
  cases op with
  | trackers t =>
    obtain ⟨h1, h2, h3⟩ := trackersOp_inv ht hop
    exact ⟨h1, h2 ▸ hw, h3 ▸ hh⟩
  | webseeds o => exact ⟨ht, seedsOp_ok hw rfl, hh⟩
  | httpseeds o => exact ⟨ht, hw, seedsOp_ok hh rfl⟩

theorem run_inv {s : MI} {ops : List Op} (hs : Inv isUrl s)
    (hop : ∀ op ∈ ops, op.affected = false) : Inv isUrl (run isUrl s ops) := by
  induction ops generalizing s with
  | nil => exact hs
  | cons op ops ih =>
    have hop' := List.forall_mem_cons.1 hop
    exact ih (step_inv hs hop'.1) hop'.2

theorem Inv_holds {s : MI} (hs : Inv isUrl s) :
    Spec.holds isUrl s (readBack isUrl s) = true := by
  obtain ⟨⟨T, hT, ha, hl⟩, ⟨W, hW, hw⟩, ⟨H, hH, hh⟩⟩ := hs
  have h1 := getTrackers_eq hT ⟨ha, hl⟩
  simp only [readBack, h1, hw, hh, getSeeds_writeSeeds hW, getSeeds_writeSeeds hH, Spec.holds,
    Spec.holdsRb, Bool.and_eq_true, decide_eq_true_eq, List.all_eq_true, List.mem_append]
  refine ⟨⟨⟨⟨⟨⟨⟨⟨?_, ?_⟩, ?_⟩, ?_⟩, hT.2.1⟩, hW.1⟩, hH.1⟩, ?_⟩, ?_⟩
  · rw [ha]; cases T <;> rfl
  · rw [hl]
    split <;> split <;> first | rfl | (exfalso; omega)
  · rfl
  · rfl
  · intro t ht
    cases t with
    | nil => exact absurd rfl (hT.1 [] ht)
    | cons _ _ => rfl
  · intro u hu
    rcases hu with (hu | hu) | hu
    · exact (hT.2.2 u hu).1
    · exact (hW.2.1 u hu).1
    · exact (hH.2.1 u hu).1

end Torf.Lists
