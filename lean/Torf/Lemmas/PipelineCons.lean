/-
  Torf.Lemmas.PipelineCons — the conservation invariant of the pipeline (clause (i) of the
  invariant sketched in DESIGN.md, Appendix A): the pieces in flight are a permutation of the
  pieces pushed so far; consequences: the collector's duplicate assertion never fires, the stored
  digests are the seen data pieces.
  Holds for every configuration (any N, cap, fault plan, callback).  With it, every enabled step
  of the transition function is a step of the relations of PipelineStep (`StepG.of_step`).
  What a step of main does to a clause is stated once per clause (`MainStepG.frame`, `.coll`,
  `.pre` / `.rfresh`, `.fresh`, `.noInt`); `InvA.main`, and `InvL.main` and `InvG.main` downstream,
  assemble them.
-/
import Torf.Lemmas.PipelineStep
namespace Torf.Pipeline

/-- the exception main is carrying through its join phase / has raised -/
def mainExc : MPc → Option Exc
  | .joinReaderChk e | .joinReader e | .joinHasherChk _ _ e | .joinHasher _ _ e
  | .joinJanitorChk e | .joinJanitor e => e
  | .finished (.raised x) => some x
  | _ => none

def internalExc : Option Exc → Prop
  | some .assertion => True
  | some .index => True
  | _ => False

/-- hashers with a number ≥ this bound have not been started yet -/
def startBound : MPc → Option Nat
  | .startReaderChk | .startReader => some 0
  | .startHasherChk i | .startHasher i => some i
  | _ => none

@[simp] theorem startBound_joinTarget (s : State) (idx : Nat) (e : Option Exc) :
    startBound (joinTarget s idx e) = none := by unfold joinTarget; split <;> rfl

@[simp] theorem mainExc_joinTarget (s : State) (idx : Nat) (e : Option Exc) :
    mainExc (joinTarget s idx e) = e := by unfold joinTarget; split <;> rfl

theorem mainExc_finished (s : State) (e : Option Exc) : mainExc (.finished (resultOf s e)) = e := by
  cases e <;> rfl

structure InvA (cfg : Cfg) (s : State) : Prop where
  perm : (inFlight s).Perm (List.range (inFlight s).length)
  putting : ∀ k, s.rpc = .putting k → (inFlight s).length = k ∧ k < cfg.items.length
  early : s.rpc = .notStarted ∨ s.rpc = .refused ∨ s.rpc = .begin_ → inFlight s = []
  bound : (inFlight s).length ≤ cfg.items.length
  noInt : ¬ internalExc (mainExc s.main)
  coll : s.collected = s.seen.filter (isHashed cfg)
  rfresh : s.main = .startReaderChk ∨ s.main = .startReader → s.rpc = .notStarted
  fresh : ∀ b, startBound s.main = some b → ∀ j p, b ≤ j → s.hs[j]? = some p → p = .notStarted
  full : (s.rpc = .closing ∨ s.rpc = .done) → s.stop = false → s.rexc = false →
    (inFlight s).length = cfg.items.length

theorem inFlight_def (s : State) :
    inFlight s = s.seen ++ s.hq.filterMap id ++ s.hs.filterMap hk ++ s.pq.filterMap id := by
  rw [inFlight, held_eq]

theorem InvA.init (cfg : Cfg) : InvA cfg (init cfg) := by
  have h : inFlight (Pipeline.init cfg) = [] := by
    rw [inFlight_def]
    simp [Pipeline.init, hk]
  refine ⟨by rw [h]; simp, by simp [Pipeline.init], fun _ => h, by rw [h]; simp,
    by simp [Pipeline.init, mainExc, internalExc], by simp [Pipeline.init], by simp [Pipeline.init],
    fun _ _ _ _ _ => init_hs, by simp [Pipeline.init]⟩

/-- What the invariant reads.  The conservation clauses (`perm`, `putting`, `early`, `bound`, `full`)
    read the pieces in flight only up to a permutation, the reader's program counter (`hr`: untouched,
    or the reader is being started) and the two flags only as "still `false`" (`hst`, `hx`: a step
    may raise a flag, not clear it); the other four clauses are supplied for `s'`. -/
theorem InvA.congr {cfg : Cfg} {s s' : State} (h : InvA cfg s)
    (hp : (inFlight s').Perm (inFlight s))
    (hr : s'.rpc = s.rpc ∨ (s.rpc = .notStarted ∧ (s'.rpc = .begin_ ∨ s'.rpc = .refused)))
    (hn : ¬ internalExc (mainExc s'.main))
    (hc : s'.collected = s'.seen.filter (isHashed cfg))
    (hrf : s'.main = .startReaderChk ∨ s'.main = .startReader → s'.rpc = .notStarted)
    (hf : ∀ b, startBound s'.main = some b → ∀ j p, b ≤ j → s'.hs[j]? = some p → p = .notStarted)
    (hst : s'.stop = false → s.stop = false) (hx : s'.rexc = false → s.rexc = false) :
    InvA cfg s' := by
  have hl := hp.length_eq
  refine ⟨hl ▸ hp.trans h.perm, ?_, ?_, hl ▸ h.bound, hn, hc, hrf, hf, ?_⟩
  · intro k hk
    rcases hr with hr | ⟨-, hr | hr⟩
    · rw [hl]; exact h.putting k (hr ▸ hk)
    all_goals rw [hr] at hk; cases hk
  · intro he
    -- nothing is in flight before the reader's first step
    have : inFlight s = [] := by
      rcases hr with hr | ⟨hr, -⟩
      · exact h.early (hr ▸ he)
      · exact h.early (.inl hr)
    exact (this ▸ hp).eq_nil
  · intro h1 h2 h3
    rcases hr with hr | ⟨-, hr | hr⟩
    · rw [hl]; exact h.full (hr ▸ h1) (hst h2) (hx h3)
    all_goals rw [hr] at h1; rcases h1 with h1 | h1 <;> cases h1

theorem InvA.nodup {cfg : Cfg} {s : State} (h : InvA cfg s) : (inFlight s).Nodup :=
  (h.perm.nodup_iff).2 List.nodup_range

theorem InvA.lt {cfg : Cfg} {s : State} (h : InvA cfg s) {k : Nat} (hk : k ∈ inFlight s) :
    k < cfg.items.length := by
  have := (h.perm.mem_iff).1 hk
  have := h.bound
  simp at *
  omega

theorem inFlight_perm {s s' : State} (hsn : s'.seen = s.seen)
    (h : (s'.hq.filterMap id ++ (s'.hs.filterMap hk ++ s'.pq.filterMap id)).Perm
      (s.hq.filterMap id ++ (s.hs.filterMap hk ++ s.pq.filterMap id))) :
    (inFlight s').Perm (inFlight s) := by
  simpa only [inFlight_def, hsn, List.append_assoc] using h.append_left s.seen

theorem collected_append (cfg : Cfg) (seen : List Nat) (k : Nat) :
    (if isHashed cfg k then seen.filter (isHashed cfg) ++ [k] else seen.filter (isHashed cfg)) =
      (seen ++ [k]).filter (isHashed cfg) := by
  by_cases hk : isHashed cfg k <;> simp [hk]

theorem InvA.collect {cfg : Cfg} {s s' : State} {k : Nat} {rest : List (Option Nat)} (h : InvA cfg s)
    (hq : s.hq = some k :: rest) (hq' : s'.hq = rest) (hseen : s'.seen = s.seen ++ [k])
    (hcoll : s'.collected = if isHashed cfg k then s.collected ++ [k] else s.collected)
    (hhs : s'.hs = s.hs) (hpq : s'.pq = s.pq) (hr : s'.rpc = s.rpc)
    (hm : startBound s'.main = none) (hn : ¬ internalExc (mainExc s'.main))
    (hst : s'.stop = false → s.stop = false) (hrx : s'.rexc = s.rexc) : InvA cfg s' := by
  refine h.congr ?_ (.inl hr) hn ?_ ?_ ?_ hst (hrx ▸ id)
  · simp [inFlight_def, hq, hq', hseen, hhs, hpq]
  · rw [hcoll, hseen, h.coll]; exact collected_append cfg _ k
  · intro hm'
    rcases hm' with hm' | hm' <;> simp [hm', startBound] at hm
  · intro b hb; simp [hm] at hb

/-- a piece in the hash queue is in flight once, so the collector has not seen it -/
theorem not_seen_of_nodup {s : State} {k : Nat} {rest : List (Option Nat)} (h : (inFlight s).Nodup)
    (hq : s.hq = some k :: rest) : k ∉ s.seen := by
  rw [inFlight_def, hq] at h
  simp only [List.filterMap_cons, id, List.append_assoc] at h
  intro hk
  have := (List.nodup_append.1 h).2.2 k hk k (by simp)
  simp at this

theorem InvA.not_seen {cfg : Cfg} {s : State} {k : Nat} {rest : List (Option Nat)} (h : InvA cfg s)
    (hq : s.hq = some k :: rest) : k ∉ s.seen :=
  not_seen_of_nodup h.nodup hq

theorem MainStepG.of_step {cfg : Cfg} {s s' : State} (hA : InvA cfg s)
    (hs : stepMain cfg s = some s') : MainStepG cfg s s' :=
  .of_not_seen hA.not_seen hs

theorem MainStep.of_step {cfg : Cfg} {s s' : State} (hrf : cfg.refuse = []) (hA : InvA cfg s)
    (hs : stepMain cfg s = some s') : MainStep cfg s s' :=
  (MainStepG.of_step hA hs).toMainStep hrf

theorem StepG.of_step {cfg : Cfg} {s s' : State} {l : Label} (hA : InvA cfg s)
    (hs : step cfg s l = some s') : StepG cfg s s' := by
  cases LStep.of_step hs with
  | main h => exact .main (.of_step hA h)
  | reader h => exact .reader (.of_step h)
  | hasher i _ h => exact .hasher i (.of_step h)
  | janitor _ h => exact .janitor (.of_step h)

theorem Step.of_step {cfg : Cfg} {s s' : State} {l : Label} (hrf : cfg.refuse = []) (hA : InvA cfg s)
    (hs : step cfg s l = some s') : Step cfg s s' :=
  match StepG.of_step hA hs with
  | .main h => .main (h.toMainStep hrf)
  | .reader h => .reader h
  | .hasher i h => .hasher i h
  | .janitor h => .janitor h

theorem InvA.unstarted {cfg : Cfg} {s : State} {i : Nat} {p : HPc} (h : InvA cfg s)
    (hm : s.main = .startHasher i) (hp : s.hs[i]? = some p) : p = .notStarted :=
  h.fresh i (by rw [hm]; rfl) i p (Nat.le_refl _) hp

/-- a hasher main is about to start holds nothing, so writing its entry moves no piece -/
theorem InvA.inFlight_start {cfg : Cfg} {s : State} {i : Nat} {q : HPc} {m : MPc} (h : InvA cfg s)
    (hm : s.main = .startHasher i) (hq : hk q = none) :
    (inFlight { s with hs := s.hs.set i q, main := m }).Perm (inFlight s) :=
  inFlight_perm rfl <| .append_left _ <| .append_right _ <| held_set_nn _ _ _ hq fun p hp => by
    rw [h.unstarted hm hp]; rfl

/-- main takes pieces from the hash queue into `seen`; a hasher it starts held nothing -/
theorem MainStepG.inFlight_perm {cfg : Cfg} {s s' : State} (hA : InvA cfg s) (h : MainStepG cfg s s') :
    (inFlight s').Perm (inFlight s) := by
  cases h with
  | ok h' =>
    cases h' with
    | startHasherNext i hm | startHasherLast i hm => exact hA.inFlight_start hm rfl
    | collectClosed rest hm hq | collectRaise k rest hm hq | collectPass k rest hm hq
    | collectCancel k rest hm hq | collectCbRaise k rest hm hq =>
      exact .of_eq (by simp [inFlight_def, hq])
    | _ => exact .refl _
  | refVital hm | refHasherNext i hm | refHasherLast i hm => exact hA.inFlight_start hm rfl
  | _ => exact .refl _

/-- Of the reader's variables main writes the program counter, when it starts the reader; it may
    raise the stop flag. -/
theorem MainStepG.frame {cfg : Cfg} {s s' : State}
    (hrf : s.main = .startReaderChk ∨ s.main = .startReader → s.rpc = .notStarted)
    (h : MainStepG cfg s s') :
    s'.rexc = s.rexc ∧ s'.pq = s.pq ∧
      (s'.rpc = s.rpc ∨ (s.rpc = .notStarted ∧ (s'.rpc = .begin_ ∨ s'.rpc = .refused))) ∧
      (s'.stop = false → s.stop = false) := by
  cases h with
  | ok h' =>
    cases h' with
    | startReader hm => exact ⟨rfl, rfl, .inr ⟨hrf (.inr hm), .inl rfl⟩, id⟩
    | collectRaise | collectCancel | collectCbRaise => exact ⟨rfl, rfl, .inl rfl, nofun⟩
    | _ => exact ⟨rfl, rfl, .inl rfl, id⟩
  | refReader hm => exact ⟨rfl, rfl, .inr ⟨hrf (.inr hm), .inr rfl⟩, id⟩
  | _ => exact ⟨rfl, rfl, .inl rfl, id⟩

/-- the collector stores the digest of every data piece it counts -/
theorem MainStepG.coll {cfg : Cfg} {s s' : State} (hs : MainStepG cfg s s')
    (h : s.collected = s.seen.filter (isHashed cfg)) :
    s'.collected = s'.seen.filter (isHashed cfg) := by
  cases hs with
  | ok h' =>
    cases h' with
    | collectRaise k | collectPass k | collectCancel k | collectCbRaise k =>
      exact h ▸ collected_append cfg _ k
    | _ => exact h
  | _ => exact h

/-- main never goes back to the program points before the reader's start; between them it writes
    nothing but its program counter -/
theorem MainStepG.pre {cfg : Cfg} {s s' : State} (hs : MainStepG cfg s s')
    (hp : s'.main = .startReaderChk ∨ s'.main = .startReader) :
    (s.main = .startReaderChk ∨ s.main = .startReader) ∧ s'.rpc = s.rpc := by
  cases hs with
  | ok h' =>
    cases h' with
    | startReaderChk hm => exact ⟨.inl hm, rfl⟩
    | collectPass k rest hm | collectCancel k rest hm => simp [hm] at hp
    | joinReaderSkip | joinReaderDone | joinHasherSkip | joinHasherDone => simp at hp
    | _ => exact nomatch hp
  | _ => exact nomatch hp

theorem MainStepG.rfresh {cfg : Cfg} {s s' : State} (hs : MainStepG cfg s s')
    (h : s.main = .startReaderChk ∨ s.main = .startReader → s.rpc = .notStarted) :
    s'.main = .startReaderChk ∨ s'.main = .startReader → s'.rpc = .notStarted :=
  fun hp => (hs.pre hp).2 ▸ h (hs.pre hp).1

/-- the hashers main has not reached yet are still `notStarted` -/
theorem MainStepG.fresh {cfg : Cfg} {s s' : State} (hs : MainStepG cfg s s')
    (h : ∀ b, startBound s.main = some b → ∀ j p, b ≤ j → s.hs[j]? = some p → p = .notStarted) :
    ∀ b, startBound s'.main = some b → ∀ j p, b ≤ j → s'.hs[j]? = some p → p = .notStarted := by
  -- main has dealt with hasher `i` and goes on to hasher `i + 1`
  have next : ∀ {i : Nat} {q : HPc}, s.main = .startHasher i → ∀ b, some (i + 1) = some b →
      ∀ j p, b ≤ j → (s.hs.set i q)[j]? = some p → p = .notStarted := fun hm b hb j p hbj hj => by
    cases hb
    rw [List.getElem?_set_ne (by omega)] at hj
    exact h _ (by rw [hm]; rfl) j p (by omega) hj
  cases hs with
  | ok h' =>
    cases h' with
    | startReaderChk hm | startReader hm | startHasherChk i hm => rw [hm] at h; exact h
    | startHasherNext i hm => exact next hm
    | collectPass | collectCancel => exact h
    | joinReaderSkip | joinReaderDone | joinHasherSkip | joinHasherDone => simp
    | _ => exact nofun
  | refHasherNext i hm => exact next hm
  | _ => exact nofun

/-- main carries the exception of an item, of the callback, of the reader or of a refused start -/
theorem MainStepG.noInt {cfg : Cfg} {s s' : State} (hs : MainStepG cfg s s')
    (h : ¬ internalExc (mainExc s.main)) : ¬ internalExc (mainExc s'.main) := by
  cases hs with
  | ok h' =>
    cases h' with
    | joinReaderSkip e hm | joinReaderDone e hm =>
      -- the reader's exception may replace the one main carries
      rw [hm] at h
      rw [mainExc_joinTarget]
      split
      · exact nofun
      · exact h
    | joinHasherSkip hh idx e hm | joinHasherDone hh idx e hm => rw [hm] at h; rwa [mainExc_joinTarget]
    | joinJanitorSkip e hm | joinJanitorDone e hm => rw [hm] at h; rwa [mainExc_finished]
    | joinReaderChkRun e hm | joinHasherChkRun hh idx e hm | joinJanitorChkRun e hm =>
      rw [hm] at h; exact h
    | collectPass | collectCancel => exact h
    | _ => exact nofun
  | _ => exact nofun

theorem InvA.main {cfg : Cfg} {s s' : State} (h : InvA cfg s) (hs : stepMain cfg s = some s') :
    InvA cfg s' :=
  have hst := MainStepG.of_step h hs
  have ⟨hx, _, hr, hstop⟩ := hst.frame h.rfresh
  h.congr (hst.inFlight_perm h) hr (hst.noInt h.noInt) (hst.coll h.coll) (hst.rfresh h.rfresh)
    (hst.fresh h.fresh) hstop (hx ▸ id)

/-- the reader steps, so it has been started: main is past the reader's start -/
theorem ReaderStep.rfresh {cfg : Cfg} {s s' : State} (hs : ReaderStep cfg s s')
    (h : s.main = .startReaderChk ∨ s.main = .startReader → s.rpc = .notStarted) :
    s'.main = .startReaderChk ∨ s'.main = .startReader → s'.rpc = .notStarted := fun hp => by
  have := hs.ctl.1.was
  rw [h (hs.frame.1 ▸ hp)] at this
  cases this

theorem InvA.readerNext {cfg : Cfg} {t t' : State} {k : Nat} (hn : ReaderNext cfg t k t')
    (hperm : (inFlight t).Perm (List.range (inFlight t).length))
    (hlen : (inFlight t).length = k) (hb : k ≤ cfg.items.length)
    (hne : ¬ internalExc (mainExc t.main)) (hc : t.collected = t.seen.filter (isHashed cfg))
    (hrf : t'.main = .startReaderChk ∨ t'.main = .startReader → t'.rpc = .notStarted)
    (hf : ∀ b, startBound t.main = some b → ∀ j p, b ≤ j → t.hs[j]? = some p → p = .notStarted) :
    InvA cfg t' := by
  have hbound : (inFlight t).length ≤ cfg.items.length := hlen ▸ hb
  cases hn with
  | fault h1 => exact ⟨hperm, nofun, nofun, hbound, hne, hc, hrf, hf, fun _ _ h3 => by cases h3⟩
  | eof h1 h2 =>
    exact ⟨hperm, nofun, nofun, hbound, hne, hc, hrf, hf, fun _ _ _ => Nat.le_antisymm hbound (hlen ▸ h2)⟩
  | stopped h1 h2 h3 =>
    exact ⟨hperm, nofun, nofun, hbound, hne, hc, hrf, hf, fun _ h4 _ => by rw [h3] at h4; cases h4⟩
  | next h1 h2 h3 =>
    exact ⟨hperm, fun k' hk' => by cases hk'; exact ⟨hlen, h2⟩, nofun, hbound, hne, hc, hrf, hf,
      fun h4 => by rcases h4 with h4 | h4 <;> cases h4⟩

theorem InvA.reader {cfg : Cfg} {s s' : State} (h : InvA cfg s) (hs : stepReader cfg s = some s') :
    InvA cfg s' := by
  have hst := ReaderStep.of_step hs
  have hrf := hst.rfresh h.rfresh
  cases hst with
  | begin hr t hn =>
    have he := h.early (.inr (.inr hr))
    exact InvA.readerNext hn (by simp [he]) (by simp [he]) (Nat.zero_le _) h.noInt h.coll hrf h.fresh
  | put k hr hc t hn =>
    obtain ⟨hlen, hlt⟩ := h.putting k hr
    have hi : inFlight { s with pq := s.pq ++ [some k] } = inFlight s ++ [k] := by
      simp [inFlight_def]
    refine InvA.readerNext hn ?_ (by rw [hi]; simp [hlen]) hlt h.noInt h.coll hrf h.fresh
    rw [hi, List.length_append, List.length_singleton, List.range_succ, hlen]
    exact (hlen ▸ h.perm).append_right _
  | close hr hc =>
    have hi : inFlight { s with pq := s.pq ++ [none], rpc := .done } = inFlight s := by
      simp [inFlight_def]
    exact ⟨hi ▸ h.perm, nofun, nofun, hi ▸ h.bound, h.noInt, h.coll, hrf, h.fresh,
      fun _ h2 h3 => hi ▸ h.full (.inl hr) h2 h3⟩

/-- a started hasher has a number below main's start bound -/
theorem InvA.fresh_set {cfg : Cfg} {s : State} {i : Nat} {p q : HPc} (h : InvA cfg s)
    (hi : s.hs[i]? = some p) (hp : p ≠ .notStarted) :
    ∀ b, startBound s.main = some b → ∀ j r, b ≤ j → (s.hs.set i q)[j]? = some r → r = .notStarted := by
  intro b hb j r hbj hj
  have := h.fresh b hb
  rw [List.getElem?_set] at hj
  split at hj
  · subst_vars; exact absurd (this _ _ hbj hi) hp
  · exact this _ _ hbj hj

/-- a hasher moves a piece from the piece queue into its hands and from there into the hash queue -/
theorem HasherStep.inFlight_perm {cfg : Cfg} {s s' : State} {i : Nat} (h : HasherStep cfg s i s') :
    (inFlight s').Perm (inFlight s) := by
  -- between two program points without a piece
  have mv : ∀ {p q : HPc}, s.hs[i]? = some p → hk p = none → hk q = none →
      ((s.hs.set i q).filterMap hk).Perm (s.hs.filterMap hk) := fun hi hp hq =>
    held_set_nn _ _ _ hq fun p' hp' => by rw [hi] at hp'; cases hp'; exact hp
  cases h with
  | idle => exact .refl _
  | begin hi | quit hi | setEv hi =>
    exact Pipeline.inFlight_perm rfl (.append_left _ (.append_right _ (mv hi rfl rfl)))
  | takeClosed rest hi hpq =>
    refine Pipeline.inFlight_perm rfl (.append_left _ ?_)
    simpa [hpq] using (mv hi rfl rfl).append_right (List.filterMap id rest)
  | requeue hi =>
    refine Pipeline.inFlight_perm rfl (.append_left _ ?_)
    simpa using (mv hi rfl rfl).append_right (List.filterMap id s.pq)
  | take k rest hi hpq =>
    refine Pipeline.inFlight_perm rfl ?_
    have := (held_set_take s.hs i k _ hi rfl).append_right (List.filterMap id rest)
    simpa [hpq] using this.append_left (s.hq.filterMap id)
  | deliver k hi =>
    refine Pipeline.inFlight_perm rfl ?_
    have := (held_set_give s.hs i k .getting hi rfl).append_right (List.filterMap id s.pq)
    refine .trans ?_ (this.append_left (s.hq.filterMap id))
    simp only [List.filterMap_append, List.filterMap_cons, id, List.filterMap_nil, List.append_assoc,
      List.singleton_append]
    exact .append_left _ List.perm_middle.symm

/-- the janitor only appends the end marker, which is no piece -/
theorem JanitorStep.inFlight_eq {s s' : State} (h : JanitorStep s s') : inFlight s' = inFlight s := by
  cases h with
  | close => simp [inFlight_def]
  | _ => rfl

theorem InvA.worker {cfg : Cfg} {s s' : State} (h : InvA cfg s) (f : WorkerFrame s s')
    (hp : (inFlight s').Perm (inFlight s))
    (hf : ∀ b, startBound s.main = some b → ∀ j p, b ≤ j → s'.hs[j]? = some p → p = .notStarted) :
    InvA cfg s' :=
  h.congr hp (.inl f.rpc) (f.main ▸ h.noInt) (by rw [f.collected, f.seen]; exact h.coll)
    (f.main ▸ f.rpc ▸ h.rfresh) (f.main ▸ hf) (f.stop ▸ id) (f.rexc ▸ id)

theorem InvA.hasher {cfg : Cfg} {s s' : State} {i : Nat} {b : Bool} (h : InvA cfg s)
    (hs : stepHasher cfg s i b = some s') : InvA cfg s' := by
  have hst := HasherStep.of_step hs
  obtain ⟨⟨p, q, hi, hmv, hh⟩, -⟩ := hst.ctl
  -- a running hasher has been started
  have hp : p ≠ .notStarted := fun e => by have := hmv.was; rw [e] at this; cases this
  exact h.worker hst.frame hst.inFlight_perm (hh ▸ h.fresh_set hi hp)

theorem InvA.janitor {cfg : Cfg} {s s' : State} {b : Bool} (h : InvA cfg s)
    (hs : stepJanitor cfg s b = some s') : InvA cfg s' :=
  have hst := JanitorStep.of_step hs
  h.worker hst.frame (.of_eq hst.inFlight_eq) (hst.ctl.2.2 ▸ h.fresh)

theorem InvA.step {cfg : Cfg} {s s' : State} {l : Label} (h : InvA cfg s)
    (hs : step cfg s l = some s') : InvA cfg s' := by
  cases LStep.of_step hs with
  | main h' => exact h.main h'
  | reader h' => exact h.reader h'
  | hasher _ _ h' => exact h.hasher h'
  | janitor _ h' => exact h.janitor h'

theorem InvA.of_reachable {cfg : Cfg} {s : State} (h : Reachable cfg s) : InvA cfg s :=
  Reachable.induction (P := InvA cfg) (InvA.init cfg) (fun _ _ _ _ hp hs => hp.step hs) h

theorem run_inductionG {cfg : Cfg} {P : State → Prop}
    (hstep : ∀ s s', InvA cfg s → P s → StepG cfg s s' → P s') {ls : List Label} {s s' : State}
    (hr : Reachable cfg s) (hp : P s) (hrun : run cfg s ls = some s') : P s' :=
  run_induction
    (fun _ _ _ hre hp hs => hstep _ _ (.of_reachable hre) hp (.of_step (.of_reachable hre) hs))
    ls s s' hr hp hrun

theorem Reachable.inductionG {cfg : Cfg} {P : State → Prop} (h0 : P (Pipeline.init cfg))
    (hstep : ∀ s s', InvA cfg s → P s → StepG cfg s s' → P s') {s : State} (h : Reachable cfg s) :
    P s :=
  have ⟨_, hls⟩ := h
  run_inductionG hstep (.init cfg) h0 hls

theorem InvA.conserved {cfg : Cfg} {s : State} (h : InvA cfg s) : Conserved s = true := by
  unfold Conserved
  rw [mergeSort_eq_of_perm_sorted h.perm List.pairwise_le_range]
  simp

theorem InvA.noInternalError {cfg : Cfg} {s : State} (h : InvA cfg s) : noInternalError s = true := by
  have := h.noInt
  unfold Pipeline.noInternalError
  split <;> simp_all [mainExc, internalExc]

end Torf.Pipeline
