/-
  Lemmas about `str.strip()` (Torf/Model/PyStrip.lean): decomposition, no white space left at either
  end, fixed points, linear number of loop iterations.  The left scan is `List.dropWhile isPySpace`, and the
  iterations of its loop count what `List.takeWhile` takes.
-/
import Torf.Model.PyStrip
namespace Torf.Untrusted

theorem lstrip_eq : ∀ s : List Char, lstrip s = s.dropWhile isPySpace
  | [] => rfl
  | c :: cs => by
    rw [lstrip, List.dropWhile_cons]
    split
    · exact lstrip_eq cs
    · rfl

theorem lstripSteps_eq : ∀ s : List Char, lstripSteps s = (s.takeWhile isPySpace).length + 1
  | [] => rfl
  | c :: cs => by
    rw [lstripSteps, List.takeWhile_cons]
    split
    · rw [lstripSteps_eq cs, List.length_cons]; omega
    · rfl

theorem lstrip_decomp (s : List Char) : ∃ w, (∀ c ∈ w, isPySpace c = true) ∧ s = w ++ lstrip s :=
  ⟨s.takeWhile isPySpace, List.all_eq_true.mp List.all_takeWhile, by rw [lstrip_eq, List.takeWhile_append_dropWhile]⟩

theorem lstrip_head (s : List Char) (c : Char) (h : (lstrip s).head? = some c) : isPySpace c = false := by
  have := List.head?_dropWhile_not isPySpace s
  rwa [← lstrip_eq, h] at this

theorem lstrip_fixed (s : List Char) (h : ∀ c, s.head? = some c → isPySpace c = false) : lstrip s = s := by
  cases s with
  | nil => rfl
  | cons d ds =>
    have := h d rfl
    simp [lstrip, this]

theorem lstrip_length_le : ∀ (s : List Char), (lstrip s).length ≤ s.length := fun s =>
  lstrip_eq s ▸ (List.dropWhile_suffix isPySpace).length_le

/-- the loop runs once per removed character, plus the test that ends it -/
theorem lstripSteps_add (s : List Char) : lstripSteps s + (lstrip s).length = s.length + 1 := by
  have := congrArg List.length (List.takeWhile_append_dropWhile (p := isPySpace) (l := s))
  rw [List.length_append] at this
  rw [lstripSteps_eq, lstrip_eq]; omega

theorem stripSteps_le (s : List Char) : stripSteps s ≤ s.length + 2 := by
  unfold stripSteps
  have h1 := lstripSteps_add s
  have h2 := lstripSteps_add (lstrip s).reverse
  simp only [List.length_reverse] at h2
  omega

theorem lstrip_getLast (s : List Char) (c : Char) (h : (lstrip s).getLast? = some c) : s.getLast? = some c := by
  rw [← List.takeWhile_append_dropWhile (p := isPySpace) (l := s), List.getLast?_append, ← lstrip_eq, h]
  rfl

end Torf.Untrusted
