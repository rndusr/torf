/-
  Helper lemmas for C14: the equations of the two patterns and of the setters (each pattern is a test of the
  whole text; a setter is "if accepted then store else refuse and keep", whatever the continuation), the URL
  fields, the object with adopted metadata.  The conversion of an accepted hash: Torf.Lemmas.MagnetDigits.
-/
import Torf.Lemmas.MagnetDigits
import Torf.Lemmas.Fold
namespace Torf.Magnet

/-- `if l: x = l` leaves `x = l` either way when `x` starts empty -/
theorem ite_isEmpty_self {α : Type} (l : List α) : (if l.isEmpty then [] else l) = l := by
  cases l <;> rfl

/-- `str.replace(a, b)` for single characters, on text without `a` -/
theorem replaceChar_of_not_mem {a b : Char} {s : Str} (h : a ∉ s) :
    s.map (fun c => if c = a then b else c) = s :=
  map_eq_self fun c hc => if_neg fun e : c = a => h (e ▸ hc)

theorem not_mem_replaceChar {a b : Char} (hab : b ≠ a) (s : Str) :
    a ∉ s.map (fun c => if c = a then b else c) := by
  intro hm
  obtain ⟨c, _, hc⟩ := List.mem_map.mp hm
  by_cases hca : c = a
  · rw [if_pos hca] at hc; exact hab hc
  · rw [if_neg hca] at hc; exact hca hc

theorem repeatExact_eq (p : Char → Bool) (n : Nat) (cs : Str) :
    repeatExact p n cs =
      if n ≤ cs.length ∧ (cs.take n).all p = true then some (cs.drop n) else none := by
  induction n generalizing cs with
  | zero => simp [repeatExact]
  | succ n ih =>
    cases cs with
    | nil => simp [repeatExact]
    | cons c cs =>
      simp only [repeatExact, ih cs]
      by_cases hc : p c = true <;> simp [hc]

theorem altEnd_eq (p : Char → Bool) (n : Nat) (cs : Str) :
    altEnd p n cs = if decide (cs.length = n) && cs.all p then some cs else none := by
  unfold altEnd
  rw [repeatExact_eq]
  by_cases hl : cs.length = n
  · subst hl
    rw [List.take_length, List.drop_length, decide_eq_true rfl, Bool.true_and]
    by_cases hp : cs.all p = true
    · rw [if_pos ⟨Nat.le_refl _, hp⟩, if_pos hp]; rfl
    · rw [if_neg fun h => hp h.2, if_neg hp]
  · rw [decide_eq_false hl, Bool.false_and, if_neg Bool.false_ne_true]
    by_cases h : n ≤ cs.length ∧ (cs.take n).all p = true
    · have : (cs.drop n).isEmpty = false := by
        rw [List.isEmpty_eq_false_iff, Ne, List.drop_eq_nil_iff]; omega
      rw [if_pos h]; simp only [this]; rfl
    · rw [if_neg h]

theorem litI_eq (ps cs : Str) :
    litI ps cs =
      if (cs.take ps.length).map asciiLower = ps then some (cs.drop ps.length) else none := by
  induction ps generalizing cs with
  | nil => simp [litI]
  | cons p ps ih =>
    cases cs with
    | nil => simp [litI]
    | cons c cs =>
      simp only [litI, reLit, ih cs]
      by_cases hc : asciiLower c = p <;> simp [hc]

theorem hashGroupEnd_eq (cs : Str) : hashGroupEnd cs = if validHash cs then some cs else none := by
  unfold hashGroupEnd
  rw [altEnd_eq, altEnd_eq]
  -- folds the two tests back into `Hex40` / `B32x32`, which `cases` can abstract
  show (match (if Hex40 cs = true then some cs else none) with
    | some g => some g
    | none => if B32x32 cs = true then some cs else none) = if (Hex40 cs || B32x32 cs) = true then _ else _
  cases Hex40 cs <;> cases B32x32 cs <;> rfl

/-- `_INFOHASH_REGEX` is the group with nothing in front of it (the model's `infohashRe v` is `hashGroupEnd v`), hence
    the right-hand side of `hashGroupEnd_eq`; `_XT_REGEX` is the group behind the prefix.  All else cites the patterns. -/
theorem infohashRe_eq (v : Str) : infohashRe v = if validHash v then some v else none :=
  hashGroupEnd_eq v

theorem xtRe_eq (v : Str) :
    xtRe v = if hasUrn v && validHash (v.drop 9) then some (v.drop 9) else none := by
  unfold xtRe hasUrn
  rw [litI_eq, urnPrefix_length]
  by_cases h : (v.take 9).map asciiLower = urnPrefix
  · rw [if_pos h, beq_iff_eq.2 h, Bool.true_and]; exact hashGroupEnd_eq _
  · rw [if_neg h, beq_eq_false_iff_ne.2 h]; rfl

theorem infohashRe_isSome (v : Str) : (infohashRe v).isSome = validHash v := by
  rw [infohashRe_eq]; cases validHash v <;> rfl

theorem infohashRe_eq_some (v g : Str) (h : infohashRe v = some g) : g = v := by
  rw [infohashRe_eq] at h
  split at h <;> cases h; rfl

/-- Both setters, on the bare hash (`setXt`, `setInfohash`) and on the object with metadata (`setXtM`,
    `setInfohashM`), are the same two `match`es with another continuation `k` and another way `fail` to refuse. -/
theorem infohashRe_match {β : Type} (k : Str → β) (fail : β) (v : Str) :
    (match infohashRe v with | some _ => k v | none => fail) = if infohashAccepts v then k v else fail := by
  rw [infohashRe_eq, infohashAccepts]
  cases validHash v <;> rfl

theorem xtRe_match {β : Type} (k : Str → β) (fail : β) (v : Str) :
    (match infohashRe v with
      | some _ => k v
      | none => match xtRe v with | some g => k g | none => fail) =
    if xtAccepts v then k (xtStored v) else fail := by
  rw [infohashRe_eq, xtRe_eq, xtAccepts, xtStored]
  cases validHash v <;> cases (hasUrn v && validHash (v.drop 9)) <;> rfl

theorem setInfohash_eq (st : HState) (v : Str) :
    setInfohash st v = if infohashAccepts v then (none, some v) else (some .magnet, st) :=
  infohashRe_match (fun g => (none, some g)) _ v

theorem setXt_eq (st : HState) (v : Str) :
    setXt st v = if xtAccepts v then (none, some (xtStored v)) else (some .magnet, st) :=
  xtRe_match (fun g => (none, some g)) _ v

/-- the prefix alone fails both character classes: `u` is no hex digit, `:` no base32 character -/
theorem validHash_urn (v : Str) : validHash (urnPrefix ++ v) = false := by
  simp only [validHash, Hex40, B32x32, List.all_append, show urnPrefix.all isHexAscii = false by decide,
    show urnPrefix.all isB32Ascii = false by decide, Bool.false_and, Bool.and_false, Bool.or_false]

theorem setXt_urn (st : HState) (v : Str) :
    setXt st (urnPrefix ++ v) = if validHash v then (none, some v) else (some .magnet, st) := by
  have ht : (urnPrefix ++ v).take 9 = urnPrefix := List.take_left' rfl
  have hd : (urnPrefix ++ v).drop 9 = v := List.drop_left' rfl
  -- the bare-hash alternative fails on the prefix (`validHash_urn`), so the `urn:btih:` one decides
  rw [setXt_eq, xtAccepts, xtStored, validHash_urn, hasUrn, ht, hd]
  rfl

theorem xtStored_valid (v : Str) (h : xtAccepts v = true) : validHash (xtStored v) = true := by
  unfold xtAccepts at h
  unfold xtStored
  cases hv : validHash v with
  | true => simpa using hv
  | false =>
    rw [hv, Bool.false_or, Bool.and_eq_true] at h
    simpa using h.2

theorem specAssign_valid (op : HashOp) (s : Str) (h : specAssign op = some s) : validHash s = true := by
  cases op with
  | xt v =>
    simp only [specAssign] at h
    split at h <;> cases h
    exact xtStored_valid v ‹_›
  | infohash v =>
    simp only [specAssign] at h
    split at h <;> cases h
    assumption

theorem stepHash_eq (st : HState) (op : HashOp) :
    stepHash st op =
      match specAssign op with
      | some s => (none, some s)
      | none => (some .magnet, st) := by
  cases op with
  | xt v => simp only [stepHash, setXt_eq, specAssign]; split <;> rfl
  | infohash v => simp only [stepHash, setInfohash_eq, specAssign]; split <;> rfl

theorem plusForSpace_noSpace (u : Str) (h : ' ' ∉ u) : plusForSpace u = u :=
  replaceChar_of_not_mem h

theorem not_mem_plusForSpace (s : Str) : ' ' ∉ plusForSpace s :=
  not_mem_replaceChar (by decide) s

theorem plusForSpace_idem (s : Str) : plusForSpace (plusForSpace s) = plusForSpace s :=
  plusForSpace_noSpace _ (not_mem_plusForSpace s)

theorem mkUrl_eq (isUrl : Str → Bool) (v : Str) :
    mkUrl isUrl v = if urlAccepts isUrl v then .ok (plusForSpace v) else .error .url := by
  unfold mkUrl urlAccepts
  cases isUrl v <;> cases isUrl (plusForSpace v) <;> rfl

theorem mapM_mkUrl (isUrl : Str → Bool) (vs : List Str) :
    vs.mapM (mkUrl isUrl) =
      if vs.all (urlAccepts isUrl) then .ok (vs.map plusForSpace) else .error .url := by
  induction vs with
  | nil => rfl
  | cons v t ih =>
    rw [List.mapM_cons, ih, mkUrl_eq]
    by_cases h1 : urlAccepts isUrl v = true
    · by_cases h2 : t.all (urlAccepts isUrl) = true
      · simp [h1, h2]; rfl
      · simp [h1, h2]; rfl
    · simp [h1]; rfl

/-- a coerced item passes the second coercion (inside `insert`) unchanged -/
theorem mkUrl_coerced (isUrl : Str → Bool) (v : Str) (h : urlAccepts isUrl v = true) :
    mkUrl isUrl (plusForSpace v) = .ok (plusForSpace v) := by
  simp only [urlAccepts, Bool.and_eq_true] at h
  simp [mkUrl_eq, urlAccepts, plusForSpace_idem, h.2]

theorem insertAll_stable (isUrl : Str → Bool) (acc us : List Str)
    (h : ∀ u ∈ us, mkUrl isUrl u = .ok u) :
    insertAll isUrl acc us = (none, dedup acc us) := by
  induction us generalizing acc with
  | nil => rfl
  | cons u t ih =>
    have h1 := h u (by simp)
    have ht := fun x hx => h x (List.mem_cons_of_mem _ hx)
    simp only [insertAll, h1, dedup]
    by_cases hm : u ∈ acc
    · simp only [hm, if_true]; exact ih acc ht
    · simp only [hm, if_false]; exact ih _ ht

theorem mem_filter_ne {u x : Str} {l : List Str} : x ∈ l.filter (· ≠ u) ↔ x ∈ l ∧ x ≠ u := by
  simp [List.mem_filter]

/-- the accumulating loop of `extend` keeps every item at its first occurrence -/
theorem dedup_eq_keepFirst (acc us : List Str) :
    dedup acc us = acc ++ (keepFirst us).filter (fun u => decide (u ∉ acc)) :=
  firstOcc_loop (kf := keepFirst) rfl (fun _ _ => rfl) (lp := dedup) (fun _ => rfl)
    (fun acc u us => by rw [dedup]; split <;> rfl) us acc

theorem dedup_nil (us : List Str) : dedup [] us = keepFirst us := by
  rw [dedup_eq_keepFirst]; simp

theorem keepFirst_nodup (us : List Str) : (keepFirst us).Nodup :=
  firstOcc_nodup rfl (fun _ _ => rfl) us

theorem mem_keepFirst (us : List Str) (x : Str) : x ∈ keepFirst us ↔ x ∈ us :=
  firstOcc_mem rfl (fun _ _ => rfl) us x

theorem dedup_spec (acc us : List Str) (ha : acc.Nodup) :
    (dedup acc us).Nodup ∧ (∀ u, u ∈ dedup acc us ↔ u ∈ acc ∨ u ∈ us) := by
  rw [dedup_eq_keepFirst]
  constructor
  · rw [List.nodup_append]
    refine ⟨ha, (keepFirst_nodup us).filter _, ?_⟩
    intro a ha' b hb e
    rw [List.mem_filter, decide_eq_true_eq] at hb
    exact hb.2 (e ▸ ha')
  · intro u
    rw [List.mem_append, List.mem_filter, mem_keepFirst, decide_eq_true_eq]
    by_cases hu : u ∈ acc <;> simp [hu]

theorem keepFirst_of_nodup (us : List Str) (h : us.Nodup) : keepFirst us = us :=
  firstOcc_of_nodup rfl (fun _ _ => rfl) us h

theorem coerced_valid {isUrl : Str → Bool} {v : Str} (h : urlAccepts isUrl v = true) :
    isUrl (plusForSpace v) = true ∧ ' ' ∉ plusForSpace v :=
  ⟨(Bool.and_eq_true_iff.1 h).2, not_mem_plusForSpace v⟩

theorem stored_valid {isUrl : Str → Bool} {vs : List Str} (h : vs.all (urlAccepts isUrl) = true) :
    ∀ u ∈ keepFirst (vs.map plusForSpace), isUrl u = true ∧ ' ' ∉ u := by
  intro u hu
  obtain ⟨w, hw, rfl⟩ := List.mem_map.1 ((mem_keepFirst _ _).1 hu)
  exact coerced_valid (List.all_eq_true.1 h w hw)

/-- `MonitoredList.replace`: all or nothing; what is stored are the coerced items, each once -/
theorem setUrls_eq (isUrl : Str → Bool) (st vs : List Str) :
    setUrls isUrl st vs =
      if vs.all (urlAccepts isUrl) then (none, keepFirst (vs.map plusForSpace)) else (some .url, st) := by
  unfold setUrls
  rw [mapM_mkUrl]
  by_cases h : vs.all (urlAccepts isUrl) = true
  · simp only [h, if_true]
    rw [insertAll_stable isUrl [] _ (List.forall_mem_map.2 fun w hw =>
      mkUrl_coerced isUrl w (List.all_eq_true.mp h w hw)), dedup_nil]
  · simp [h]

theorem setUrl_eq (isUrl : Str → Bool) (st : Option Str) (v : Str) :
    setUrl isUrl st (some v) =
      if urlAccepts isUrl v then (none, some (plusForSpace v)) else (some .url, st) := by
  simp only [setUrl, mkUrl_eq]
  by_cases hv : urlAccepts isUrl v = true <;> simp [hv]

theorem setInfohashAttr_eq (m : MState) (s : Str) :
    setInfohashAttr m s = { hash := some s, info := if m.hash = some s then m.info else none } := by
  by_cases h : m.hash = some s <;> simp [setInfohashAttr, h]

theorem stepM_spec (m : MState) (op : HashOp) : stepM m op = specAssignM m op := by
  cases op with
  | xt v =>
    refine (xtRe_match (fun g => (none, setInfohashAttr m g)) _ v).trans ?_
    simp only [specAssignM, specAssign, setInfohashAttr_eq]
    split <;> rfl
  | infohash v =>
    refine (infohashRe_match (fun g => (none, setInfohashAttr m g)) _ v).trans ?_
    simp only [specAssignM, specAssign, setInfohashAttr_eq]
    split <;> rfl

/-- what one assignment can do to the object: nothing (it is rejected, or assigns the string already held),
    or it stores a valid hash and no metadata is left -/
theorem stepM_cases (m : MState) (op : HashOp) :
    (stepM m op).2 = m ∨ ∃ s, validHash s = true ∧ (stepM m op).2 = { hash := some s, info := none } := by
  rw [stepM_spec, specAssignM]
  cases hs : specAssign op with
  | none => exact .inl rfl
  | some s =>
    dsimp only
    by_cases e : m.hash = some s
    · exact .inl (by rw [if_pos e, ← e])
    · exact .inr ⟨s, specAssign_valid op s hs, by rw [if_neg e]⟩

/-- ties the setters on the object with metadata to `setXt` / `setInfohash`, of which the acceptance theorems speak -/
theorem stepM_eq (st : MState) (op : HashOp) :
    stepM st op = ((stepHash st.hash op).1,
      { hash := (stepHash st.hash op).2,
        info := if (stepHash st.hash op).1 = none ∧ (stepHash st.hash op).2 ≠ st.hash then none else st.info }) := by
  simp only [stepM_spec, stepHash_eq, specAssignM]
  cases specAssign op with
  | none => simp
  | some s => by_cases h : st.hash = some s <;> simp [h, eq_comm]

theorem convertM_eq {st : MState} {s : Str} (hs : st.hash = some s) (hv : validHash s = true)
    (hi : ∀ a, st.info = some a → a = hexLower40 (hashVal s)) :
    convertM st = .converted (.ok (hexLower40 (hashVal s))) st.info.isSome := by
  unfold convertM
  cases hinfo : st.info with
  | none => simp only [hs, infohashAsBase16_valid s hv]; rfl
  | some a => rw [hi a hinfo]; rfl

theorem StateOk.info_eq {st : MState} (hst : StateOk st) {s : Str} (hh : st.hash = some s) :
    ∀ a, st.info = some a → a = hexLower40 (hashVal s) := by
  intro a ha
  obtain ⟨s', hs', rfl⟩ := hst.2 a ha
  rw [hh] at hs'; cases hs'; rfl

/-- The model asks `own ≠ h` as `_set_info_from_torrent` does, the specification (`specFetch`, `specArrived`) `h ≠ own`.
    For `setInfoFrom` the comparison is turned round here, once: the users of this equation never see `own = h`.
    (`getInfo` has the same test and comes here through `getInfo_cons`.) -/
theorem setInfoFrom_ok {s own : Str} (hown : infohashAsBase16 s = .ok own) (info : Option Str) (h : Str)
    (ne : Bool) :
    setInfoFrom true s info (.torrent h ne) =
      if h = own then .ok (if ne then some h else info) else .error .metainfo := by
  simp only [setInfoFrom, hown, if_true, ne_eq, ite_not, eq_comm (a := h)]

/-- What one source does to `get_info`, whatever `validate` and the hash: `getInfo` is the loop over
    `setInfoFrom` on an object that holds nothing. -/
theorem getInfo_cons (validate : Bool) (ih : Str) (sv : Served) (rest : List Served) (k : Nat) :
    getInfo validate ih (sv :: rest) k =
      match setInfoFrom validate ih none sv with
      | .error e => .raised e (k + 1)
      | .ok (some h) => .adopted h (k + 1)
      | .ok none => getInfo validate ih rest (k + 1) := by
  cases sv with
  | connError | unreadable => rfl
  | torrent h ne =>
    simp only [getInfo, setInfoFrom]
    cases validate with
    | false => cases ne <;> rfl
    | true =>
      cases infohashAsBase16 ih with
      | error e => rfl
      | ok own => by_cases e : own = h <;> cases ne <;> simp [e]

theorem fetchLoop_spec {s own : Str} (hown : infohashAsBase16 s = .ok own) {info : Option Str}
    (hinfo : ∀ a, info = some a → a = own) (srcs : List Served) (k : Nat) :
    fetchLoop true s info srcs k =
      ((specFetch own info.isSome srcs k).1,
       (if (specFetch own info.isSome srcs k).2.1 then some own else none),
       (specFetch own info.isSome srcs k).2.2) := by
  have hi : info = none ∨ info = some own := by
    cases info with
    | none => exact .inl rfl
    | some a => exact .inr (by rw [hinfo a rfl])
  clear hinfo
  induction srcs generalizing info k with
  | nil => rcases hi with rfl | rfl <;> rfl
  | cons x rest ih =>
    -- the loop goes on only while nothing is held
    have ih := @ih none (k + 1) (.inl rfl)
    cases x with
    | connError | unreadable => rcases hi with rfl | rfl <;> simp [fetchLoop, setInfoFrom, specFetch, ih]
    | torrent h ne =>
      rw [fetchLoop, setInfoFrom_ok hown, specFetch]
      by_cases e : h = own
      · subst e; cases ne <;> rcases hi with rfl | rfl <;> simp [ih]
      · rcases hi with rfl | rfl <;> simp [e]

end Torf.Magnet
