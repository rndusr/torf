/-
  Lemmas for `C02_any_schedule`: the invariant of the sequential fold of `Verify.verifySeq`
  (`SeqInv`) and what the item kinds of a verification run mean for `badItems` / `hashedItems`.
-/
import Torf.Spec.VerifySchedule
import Torf.Spec.Pipeline
import Torf.Lemmas.VerifyCb
namespace Torf.C02
open Torf Torf.Missing Torf.Verify Torf.Pipeline

variable {α δ : Type} [DecidableEq δ]

/-- state of the sequential fold after the items `pre` -/
structure SeqInv (H : List α → δ) (L : Nat) (sizes : List Nat) (stored : List δ) (hasCb : Bool)
    (pre : List (Item α)) (acc : Acc δ) : Prop where
  raised_none : acc.raised = none ↔ (hasCb = true ∨ ∀ k, k < pre.length → isBad H stored pre k = false)
  collected : acc.raised = none →
    acc.collected = (List.range pre.length).filterMap (digestAt H pre)
  raised_some : ∀ e, acc.raised = some e → ∃ k, k < pre.length ∧ isBad H stored pre k = true ∧
    (∀ j, j < k → isBad H stored pre j = false) ∧ itemErr L sizes pre k = some e

omit [DecidableEq δ] in
theorem filterMap_digestAt (H : List α → δ) (items : List (Item α)) :
    (List.range items.length).filterMap (digestAt H items) = items.flatMap (itemHashes H) := by
  rw [hashes_eq_filterMap, ← filterMap_range_bind items]
  congr 1; funext k
  unfold digestAt; cases items[k]? <;> rfl

omit [DecidableEq δ] in
theorem findSome_zipIdx {β γ : Type} (f : β × Nat → Option γ) (l : List β) (k : Nat) :
    match (l.zipIdx k).findSome? f with
    | none => ∀ i x, l[i]? = some x → f (x, k + i) = none
    | some e => ∃ i x, l[i]? = some x ∧ f (x, k + i) = some e ∧
        ∀ j y, j < i → l[j]? = some y → f (y, k + j) = none := by
  have hget : ∀ i x, l[i]? = some x → (l.zipIdx k)[i]? = some (x, k + i) := fun i x h => by
    rw [List.getElem?_zipIdx, h]; rfl
  cases h : (l.zipIdx k).findSome? f with
  | none =>
    exact fun i x hx => List.findSome?_eq_none_iff.mp h _ (List.mem_of_getElem? (hget i x hx))
  | some e =>
    -- core's decomposition `l₁ ++ a :: l₂` at the hit; its position is `l₁.length`
    obtain ⟨l₁, a, l₂, hl, ha, hpre⟩ := List.findSome?_eq_some_iff.mp h
    have hi : (l.zipIdx k)[l₁.length]? = some a := by rw [hl]; simp
    rw [List.getElem?_zipIdx] at hi
    obtain ⟨x, hx, rfl⟩ := Option.map_eq_some_iff.mp hi
    refine ⟨l₁.length, x, hx, ha, fun j y hj hy => hpre _ ?_⟩
    have := hget j y hy
    rw [hl, List.getElem?_append_left hj] at this
    exact List.mem_of_getElem? this

theorem itemExc_vs_bad (H : List α → δ) (L : Nat) (sizes : List Nat) (stored : List δ)
    (items : List (Item α)) (i : Nat) (hi : i < items.length) (hs : i < stored.length) :
    match itemExc H L sizes stored (items[i], i) with
    | none => isBad H stored items i = false
    | some e => isBad H stored items i = true ∧ itemErr L sizes items i = some e := by
  have hc := kindOf_cases H stored (items[i], i)
  unfold itemExc isBad itemErr
  simp only [List.getElem?_eq_getElem hi]
  -- `isBad` is a test of the kind; `itemErr` looks at the item's exceptions, which the kind fixes
  cases hk : kindOf H stored (items[i], i) <;> rw [hk] at hc <;> simp only at hc
  case data => simp
  case mismatch =>
    obtain ⟨d, he, _, _⟩ := hc
    simp [he, List.getElem?_eq_getElem hs]
  case nodata => simp
  case exc =>
    obtain ⟨e, es, he⟩ := hc
    simp [he]

theorem seqInv_items (H : List α → δ) (L : Nat) (sizes : List Nat) (stored : List δ) (hasCb : Bool)
    (items : List (Item α)) (hlen : items.length ≤ stored.length) :
    SeqInv H L sizes stored hasCb items
      (items.zipIdx.foldl (Verify.collectItem H L sizes stored hasCb) {}) := by
  cases hasCb with
  | true =>
    rw [fold_cb H L sizes stored items 0 {} rfl (by omega)]
    exact ⟨by simp, fun _ => by simp [filterMap_digestAt], fun e h => by cases h⟩
  | false =>
    obtain ⟨h1, _, h3⟩ := fold_nocb H L sizes stored items 0 {} rfl
    have hfirst := findSome_zipIdx (itemExc H L sizes stored) items 0
    have hbad := fun i hi =>
      itemExc_vs_bad H L sizes stored items i hi (Nat.lt_of_lt_of_le hi hlen)
    simp only [Nat.zero_add] at h1 h3 hfirst
    generalize items.zipIdx.foldl (Verify.collectItem H L sizes stored false) {} = acc at h1 h3
    rw [← h1] at hfirst
    refine ⟨?_, fun h => by rw [h3 h, filterMap_digestAt]; simp, ?_⟩
    · simp only [Bool.false_eq_true, false_or]
      constructor
      · intro h k hk
        rw [h] at hfirst
        have := hbad k hk
        rwa [hfirst k _ (List.getElem?_eq_getElem hk)] at this
      · intro h
        cases hr : acc.raised with
        | none => rfl
        | some e =>
          rw [hr] at hfirst
          obtain ⟨i, x, hx, hf, _⟩ := hfirst
          obtain ⟨hi, rfl⟩ := List.getElem?_eq_some_iff.mp hx
          have := hbad i hi
          rw [hf, h i hi] at this
          exact absurd this.1 (by simp)
    · intro e hr
      rw [hr] at hfirst
      obtain ⟨i, x, hx, hf, hmin⟩ := hfirst
      obtain ⟨hi, rfl⟩ := List.getElem?_eq_some_iff.mp hx
      have hb := hbad i hi
      rw [hf] at hb
      refine ⟨i, hi, hb.1, fun j hj => ?_, hb.2⟩
      have := hbad j (by omega)
      rwa [hmin j _ hj (List.getElem?_eq_getElem (by omega))] at this

theorem kind_at (H : List α → δ) (stored : List δ) (items : List (Item α)) (cfg : Cfg)
    (hcfg : cfg.items = items.zipIdx.map (kindOf H stored)) (k : Nat) (it : Item α)
    (hk : items[k]? = some it) : cfg.items.getD k .nodata = kindOf H stored (it, k) := by
  rw [hcfg, List.getD_eq_getElem?_getD, List.getElem?_map, List.getElem?_zipIdx, hk]
  simp

theorem length_items (H : List α → δ) (stored : List δ) (items : List (Item α)) (cfg : Cfg)
    (hcfg : cfg.items = items.zipIdx.map (kindOf H stored)) : cfg.items.length = items.length := by
  rw [hcfg]; simp

theorem mem_badItems (H : List α → δ) (stored : List δ) (items : List (Item α)) (cfg : Cfg)
    (hcfg : cfg.items = items.zipIdx.map (kindOf H stored)) (k : Nat) :
    k ∈ badItems cfg ↔ (cfg.raiseOnBad = true ∧ isBad H stored items k = true) := by
  -- both sides are decided by what `items[k]?` is
  unfold badItems isBad
  rw [List.mem_filter, List.mem_range, length_items H stored items cfg hcfg]
  cases hit : items[k]? with
  | none => simp [Nat.not_lt.mpr (List.getElem?_eq_none_iff.mp hit)]
  | some it =>
    rw [kind_at H stored items cfg hcfg k it hit]
    simp [isRaising, (List.getElem?_eq_some_iff.mp hit).1]

theorem digests_of_hashed (H : List α → δ) (stored : List δ) (items : List (Item α)) (cfg : Cfg)
    (hcfg : cfg.items = items.zipIdx.map (kindOf H stored)) :
    (hashedItems cfg).filterMap (digestAt H items) =
      (List.range items.length).filterMap (digestAt H items) := by
  unfold hashedItems
  rw [length_items H stored items cfg hcfg, List.filterMap_filter]
  congr 1; funext k
  -- a piece that is not hashed has no digest: beyond the end, no data, or exceptions
  cases hit : items[k]? with
  | none => simp [digestAt, hit]
  | some it =>
    simp only [kind_at H stored items cfg hcfg k it hit, digestAt, hit]
    have hc := kindOf_cases H stored (it, k)
    cases hkd : kindOf H stored (it, k) <;> rw [hkd] at hc <;> simp only at hc
    case data => simp
    case mismatch => simp
    case nodata => simp [hc.2]
    case exc =>
      obtain ⟨e, es, he⟩ := hc
      simp [he]
end Torf.C02
