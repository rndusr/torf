/-
  Helper lemmas for `get_info()` with interleaved operations (C14): two semantics that agree on the
  states of an invariant give the same run, and the run stays inside the invariant.  With both
  semantics the same this is plain invariance.
-/
import Torf.Spec.MagnetHash
namespace Torf.Magnet

/-- `P` is kept by every operation and every arrival of `s1`, and on the states of `P` the semantics
    `s2` judges assignments and arrivals as `s1` does -/
structure Agree (s1 s2 : Sem) (P : GState → Prop) (validate : Bool) : Prop where
  act_keeps : ∀ st a, P st → P (actStep s1 st a).2
  arrival_keeps : ∀ st h ne m', P st → s1.arrived validate st.m h ne = .ok m' → P { st with m := m' }
  assign_eq : ∀ st op, P st → s1.assign st.m op = s2.assign st.m op
  arrived_eq : ∀ st h ne, P st → s1.arrived validate st.m h ne = s2.arrived validate st.m h ne

variable {s1 s2 : Sem} {P : GState → Prop} {validate : Bool}

theorem Agree.refl {s : Sem} (hact : ∀ st a, P st → P (actStep s st a).2)
    (harr : ∀ st h ne m', P st → s.arrived validate st.m h ne = .ok m' → P { st with m := m' }) :
    Agree s s P validate :=
  ⟨hact, harr, fun _ _ _ => rfl, fun _ _ _ _ => rfl⟩

theorem Agree.actStep (A : Agree s1 s2 P validate) (st : GState) (h : P st) (a : Act) :
    actStep s1 st a = actStep s2 st a := by
  cases a with
  | hash op => simp only [Magnet.actStep, A.assign_eq st op h]
  | _ => rfl

theorem Agree.runCb (A : Agree s1 s2 P validate) :
    ∀ (acts : List Act) (st : GState), P st →
      runCb s1 st acts = runCb s2 st acts ∧ P (runCb s1 st acts).2
  | [], _, h => ⟨rfl, h⟩
  | a :: rest, st, h => by
    have h1 := A.act_keeps st a h
    unfold Magnet.runCb
    rw [← A.actStep st h a]
    cases hs : Magnet.actStep s1 st a with
    | mk err st' =>
      rw [hs] at h1
      cases err with
      | some e => exact ⟨rfl, h1⟩
      | none => exact A.runCb rest st' h1

theorem Agree.runThread (A : Agree s1 s2 P validate) :
    ∀ (acts : List Act) (st : GState), P st →
      runThread s1 st acts = runThread s2 st acts ∧ P (runThread s1 st acts).2
  | [], _, h => ⟨rfl, h⟩
  | a :: rest, st, h => by
    obtain ⟨e, hp⟩ := A.runThread rest _ (A.act_keeps st a h)
    unfold Magnet.runThread
    rw [← A.actStep st h a]
    dsimp only
    exact ⟨by rw [e], hp⟩

theorem Agree.answer (A : Agree s1 s2 P validate) (hasCb : Bool) (st : GState) (inCb : List Act)
    (sv : Served) (h : P st) :
    answer s1 validate hasCb st inCb sv = answer s2 validate hasCb st inCb sv ∧
      P (answer s1 validate hasCb st inCb sv).2.1 := by
  cases sv with
  | torrent ih ne =>
    simp only [Magnet.answer]
    rw [← A.arrived_eq st ih ne h]
    cases hs : s1.arrived validate st.m ih ne with
    | error e => exact ⟨rfl, h⟩
    | ok m' => exact ⟨rfl, A.arrival_keeps st ih ne m' h hs⟩
  | connError | unreadable =>
    obtain ⟨e, hp⟩ := A.runCb inCb st h
    cases hasCb with
    | true => exact ⟨congrArg (fun r => (r.1, r.2, true)) e, hp⟩
    | false => exact ⟨rfl, h⟩

theorem Agree.loopCb (A : Agree s1 s2 P validate) (hasCb : Bool) (world : Str → Served)
    (urls : List Str) : ∀ (st : GState) (vs : List Visit), P st →
      loopCb s1 validate hasCb world st urls vs = loopCb s2 validate hasCb world st urls vs ∧
        P (loopCb s1 validate hasCb world st urls vs).st := by
  induction urls with
  | nil => exact fun _ _ h => ⟨rfl, h⟩
  | cons u us ih =>
    intro st vs h
    obtain ⟨e1, h1⟩ := A.runThread (vs.headD {}).during st h
    obtain ⟨e2, h2⟩ := A.answer hasCb _ (vs.headD {}).inCb (world u) h1
    obtain ⟨e3, h3⟩ := ih _ vs.tail h2
    unfold Magnet.loopCb
    dsimp only
    rw [← e1, ← e2, ← e3]
    refine ⟨rfl, ?_⟩
    split
    · exact h2
    · exact h3

theorem Agree.getInfoCb (A : Agree s1 s2 P validate) (hasCb : Bool) (world : Str → Served)
    (st : GState) (vs : List Visit) (h : P st) :
    getInfoCb s1 validate hasCb world st vs = getInfoCb s2 validate hasCb world st vs ∧
      P (getInfoCb s1 validate hasCb world st vs).st := by
  unfold Magnet.getInfoCb
  cases st.m.hash with
  | none => exact ⟨rfl, h⟩
  | some ih =>
    dsimp only
    cases torrentUrls ih st.src with
    | error e => exact ⟨rfl, h⟩
    | ok urls => exact A.loopCb hasCb world urls st vs h

theorem Agree.runCalls (cs : List Call) :
    ∀ st : GState, (∀ c ∈ cs, Agree s1 s2 P c.validate) → P st →
      runCalls s1 st cs = runCalls s2 st cs ∧ (∀ r ∈ (runCalls s1 st cs).1, P r.st) ∧
        P (runCalls s1 st cs).2 := by
  induction cs with
  | nil => exact fun _ _ h => ⟨rfl, fun _ hr => absurd hr List.not_mem_nil, h⟩
  | cons c cs ih =>
    intro st A h
    obtain ⟨e, h1⟩ := (A c List.mem_cons_self).getInfoCb c.hasCb c.world st c.visits h
    obtain ⟨e', hr, h2⟩ := ih _ (fun c' hc' => A c' (List.mem_cons_of_mem _ hc')) h1
    refine ⟨?_, List.forall_mem_cons.2 ⟨h1, hr⟩, h2⟩
    unfold Magnet.runCalls
    dsimp only
    rw [← e, ← e']

end Torf.Magnet
