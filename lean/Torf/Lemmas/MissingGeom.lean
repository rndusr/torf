/-
  Lemmas for C10: the geometry used by `_MissingPieces`
  (`get_files_at_byte_range`, `get_piece_indexes_of_file`, remove-while-iterating).
-/
import Torf.Lemmas.MissingBase
namespace Torf.Missing
open Torf

theorem inByteRange_iff (a e fpos size : Nat) (he : 0 < e) :
    inByteRange a (e - 1) fpos size = true ↔
      (a ≤ fpos ∧ fpos < e) ∨ (a < fpos + size ∧ fpos + size ≤ e) ∨
        (fpos ≤ a ∧ e ≤ fpos + size) := by
  obtain ⟨e, rfl⟩ : ∃ e', e = e' + 1 := ⟨e - 1, (Nat.sub_add_cancel he).symm⟩
  unfold inByteRange
  simp only [Nat.add_sub_cancel, Bool.or_eq_true, Bool.and_eq_true, decide_eq_true_eq, ge_iff_le]
  omega

/-- the test by which `filesAtPieceIndex L sizes b` selects file `k`: the model's `inByteRange`
    at the first and the last byte of piece `b` -/
def atPiece (L : Nat) (sizes : List Nat) (b k : Nat) : Bool :=
  inByteRange (b * L) ((b + 1) * L - 1) (pos sizes k) (sizeOf sizes k)

theorem filesAtPieceIndex_eq (L : Nat) (sizes : List Nat) (b : Nat) :
    filesAtPieceIndex L sizes b =
      let fs := (List.range sizes.length).filter (atPiece L sizes b)
      if fs.isEmpty then none else some fs := rfl

theorem atPiece_iff (L : Nat) (hL : 0 < L) (sizes : List Nat) (b k : Nat) :
    atPiece L sizes b k = true ↔
      (b * L ≤ pos sizes k ∧ pos sizes k < b * L + L) ∨
      (b * L < pos sizes (k + 1) ∧ pos sizes (k + 1) ≤ b * L + L) ∨
      (pos sizes k ≤ b * L ∧ b * L + L ≤ pos sizes (k + 1)) := by
  unfold atPiece
  rw [inByteRange_iff _ _ _ _ (Nat.mul_pos (Nat.succ_pos b) hL), ← pos_succ, Nat.succ_mul]

/-- a file after `m`, where `m` has a byte in piece `b` or later, begins after `b * L`: of the
    three-way test only the upper bounds remain -/
theorem atPiece_after (L : Nat) (hL : 0 < L) (sizes : List Nat) (b m k : Nat)
    (hb : b * L < pos sizes (m + 1)) (hk : m < k) :
    atPiece L sizes b k = true ↔
      pos sizes k < b * L + L ∨ pos sizes (k + 1) ≤ b * L + L := by
  have h1 := pos_mono sizes (show m + 1 ≤ k from hk)
  have h2 := pos_mono sizes (Nat.le_add_right k 1)
  rw [atPiece_iff L hL]
  omega

/-- `hS` is needed: an empty file at `b * L` ends there too, and is selected (it begins in the
    piece) -/
theorem atPiece_of_end_le (L : Nat) (hL : 0 < L) (sizes : List Nat) (b k : Nat)
    (hS : 0 < sizeOf sizes k) (h : pos sizes (k + 1) ≤ b * L) : atPiece L sizes b k = false := by
  have := pos_succ sizes k
  rw [← Bool.not_eq_true, atPiece_iff L hL]
  omega

theorem range_split (m d : Nat) :
    List.range (m + 1 + d) = List.range m ++ m :: List.range' (m + 1) d := by
  rw [List.range_eq_range', List.range_eq_range', ← List.range'_succ, Nat.add_right_comm m 1 d]
  exact (Nat.zero_add m ▸ List.range'_append_1 (s := 0) (m := m) (n := d + 1)).symm

theorem range_split_lt (j n : Nat) (h : j < n) :
    List.range n = List.range j ++ j :: List.range' (j + 1) (n - j - 1) := by
  have := range_split j (n - j - 1)
  rwa [show j + 1 + (n - j - 1) = n by omega] at this

theorem affected_decomp (L : Nat) (hL : 0 < L) (sizes : List Nat) (b m : Nat)
    (hm : m < sizes.length) (hb : b * L < pos sizes (m + 1))
    (hat : atPiece L sizes b m = true) :
    ∃ c, m + 1 + c ≤ sizes.length ∧
      ((List.range sizes.length).filter (atPiece L sizes b)).erase m =
        (List.range m).filter (atPiece L sizes b) ++ List.range' (m + 1) c ∧
      (∀ k, m + 1 ≤ k → k < m + 1 + c → atPiece L sizes b k = true) ∧
      (m + 1 + c < sizes.length → atPiece L sizes b (m + 1 + c) = false) := by
  obtain ⟨d, hd⟩ := Nat.exists_eq_add_of_le hm
  -- behind `m` the test has upper bounds only (`atPiece_after`), so it is downward closed
  obtain ⟨c, hcle, hf, hall, hnext⟩ :=
    GeomLemmas.filter_range'_downward (atPiece L sizes b) (m + 1) d (by
      intro k k' h1 h2 _ hk
      rw [atPiece_after L hL sizes b m _ hb (Nat.lt_of_lt_of_le h1 (Nat.le_of_lt h2))] at hk
      rw [atPiece_after L hL sizes b m _ hb h1]
      have := pos_mono sizes (show k' + 1 ≤ k from h2)
      have := pos_mono sizes (Nat.le_add_right k 1)
      omega)
  rw [hd]
  refine ⟨c, Nat.add_le_add_left hcle _, ?_, hall, fun h => hnext (Nat.lt_of_add_lt_add_left h)⟩
  rw [range_split m d, List.filter_append, List.filter_cons, if_pos hat,
    List.erase_append_right _ (fun h => Nat.lt_irrefl m (List.mem_range.mp (List.mem_filter.mp h).1)),
    List.erase_cons_head, hf]

theorem pyRemoveSeen_of_not_mem (seen l : List Nat) (h : ∀ x ∈ l, x ∉ seen) :
    pyRemoveSeen seen l = l := by
  induction l with
  | nil => rfl
  | cons x rest ih =>
    have hx : ¬ seen.contains x = true := fun hc => h x List.mem_cons_self (List.contains_iff_mem.mp hc)
    unfold pyRemoveSeen
    rw [if_neg hx, ih fun y hy => h y (List.mem_cons_of_mem _ hy)]

theorem pyRemoveSeen_head_seen (seen : List Nat) (x y : Nat) (rest : List Nat)
    (hx : x ∈ seen) (h : ∀ z ∈ rest, z ∉ seen) :
    pyRemoveSeen seen (x :: y :: rest) = y :: rest := by
  unfold pyRemoveSeen
  rw [if_pos (List.contains_iff_mem.mpr hx)]
  exact congrArg (y :: ·) (pyRemoveSeen_of_not_mem seen rest h)

theorem pieceIndexesOfFile_eq (L : Nat) (hL : 0 < L) (sizes : List Nat) (j : Nat)
    (hs : 0 < sizeOf sizes j) (a : Nat) (ha1 : a * L ≤ pos sizes j) (ha2 : pos sizes j < a * L + L) :
    ∃ k, pieceIndexesOfFile L sizes j = List.range' a (k + 1) ∧
      (a + k) * L < pos sizes (j + 1) ∧ pos sizes (j + 1) ≤ (a + k) * L + L := by
  have hps := pos_succ sizes j
  have he : pos sizes j + sizeOf sizes j - 1 + 1 = pos sizes (j + 1) :=
    (Nat.sub_add_cancel (Nat.le_trans hs (Nat.le_add_left _ _))).trans hps.symm
  unfold pieceIndexesOfFile
  simp only [show ¬ (pos sizes j + sizeOf sizes j = 0) by omega, if_false,
    Nat.div_eq_of_lt_le ha1 (Nat.succ_mul a L ▸ ha2)]
  -- `e`: offset of the last byte; with it named, no truncated subtraction is left for `omega`
  generalize pos sizes j + sizeOf sizes j - 1 = e at he ⊢
  obtain ⟨k, hk⟩ : ∃ k, e / L = a + k := Nat.exists_eq_add_of_le
    ((Nat.le_div_iff_mul_le hL).mpr (by omega))
  have h1 := Nat.div_mul_le_self e L
  have h2 := Nat.lt_div_mul_add (a := e) hL
  rw [hk] at h1 h2 ⊢
  exact ⟨k, by rw [show a + k + 1 - a = k + 1 from Nat.add_sub_cancel_left _ (k + 1)],
    by omega, by omega⟩

end Torf.Missing
