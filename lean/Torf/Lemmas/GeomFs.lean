/-
  Torf.Lemmas.GeomFs — `get_piece` through a file system (`Torf.Model.GeometryFs`): when the
  operating system finds every file under the spelling the code opens, the piece is the arithmetic
  slice; when it finds none, every valid index ends with that error.
-/
import Torf.Model.GeometryFs
import Torf.Lemmas.GeomScan
import Torf.Lemmas.GeomPiece
import Torf.Lemmas.PathThin
namespace Torf.GeomLemmas
open Torf Torf.Geometry
open Torf.Paths (PPath)

theorem readLoopVia_eq (look : Nat → Res (List α)) (files : List (List α)) :
    ∀ (rel : List Nat) (s : Int) (n : Nat), (∀ j ∈ rel, look j = .ok (files.getD j [])) →
      readLoopVia look rel s n = readLoop files true rel s n := by
  intro rel
  induction rel with
  | nil => intro s n _; rfl
  | cons j rest ih =>
    intro s n h
    have hj := h j (by simp)
    have ih' := fun s n => ih s n (fun k hk => h k (by simp [hk]))
    unfold readLoopVia readLoop
    rw [hj]
    by_cases hs : s < 0
    · simp [hs]
    · simp only [hs, if_false, Bool.not_true, Bool.false_eq_true]
      rw [ih']
      cases readLoop files true rest 0 (n - (List.take n (List.drop s.toNat (files.getD j []))).length) <;> rfl

theorem readLoopVia_none (look : Nat → Res (List α)) (e : Err) (j : Nat) (rest : List Nat) (s : Int)
    (n : Nat) (h : look j = .error e) : readLoopVia look (j :: rest) s n = .error e := by
  unfold readLoopVia
  rw [h]

theorem getPieceVia_sees (look : Nat → Res (List α)) (files : List (List α)) (L : Nat) (i : Int)
    (hL : 0 < L) (hne : NoEmptyFiles files) (hsee : SeesFiles look files) :
    getPieceVia look (files.map List.length) L i = GeomSpec.piece files L i :=
  getPieceWith_spec _ files L i hL hne fun rel st hmem =>
    readLoopVia_eq look files rel st L fun j hj => hsee j (hmem j hj)

theorem getPieceVia_none (look : Nat → Res (List α)) (files : List (List α)) (L : Nat) (i : Int)
    (e : Err) (hL : 0 < L) (hne : NoEmptyFiles files) (hnone : SeesNone look files.length e) :
    getPieceVia look (files.map List.length) L i =
      if GeomSpec.validPiece (files.map List.length) L i then .error e else .error .value :=
  getPieceWith_fails _ files L i e hL hne fun j rest st hj =>
    readLoopVia_none look e j rest st L (hnone j hj)

theorem comps_eq_joinBase (cp : PPath) : cp.comps = joinBase cp ∨ cp.comps = joinBase cp ++ [""] := by
  unfold joinBase
  split
  · next hl =>
    obtain ⟨ys, h⟩ := List.getLast?_eq_some_iff.mp hl
    rw [h, List.dropLast_concat]
    exact Or.inr rfl
  · exact Or.inl rfl

theorem joinParts_of_ne (cp : PPath) (parts : List String) (hp : parts ≠ []) :
    joinParts cp parts = ⟨cp.abs, joinBase cp ++ parts⟩ := by
  unfold joinParts
  cases parts with
  | nil => exact absurd rfl hp
  | cons a as => rfl

theorem openRead_ok {d : Disk α} {p : PPath} {b : List α} (ho : openRead d p = .ok b) :
    ∃ ino sz cid, Reuse.resolve d.world p = .ok (.file ino) ∧ d.fs[ino]? = some (.file sz true cid) ∧
      b = d.bytes cid := by
  unfold openRead at ho
  split at ho
  · next ino hr =>
    split at ho
    · next sz cid hn => exact ⟨ino, _, cid, hr, hn, (Except.ok.inj ho).symm⟩
    · cases ho
  · cases ho
  · cases ho

theorem lookFs_ok (d : Disk α) (pathOf : Nat → PPath) (sizes : List Nat) (j : Nat) (b : List α)
    (hsz : d.SizesAgree) (ho : openRead d (pathOf j) = .ok b) (hlen : b.length = sizes.getD j 0) :
    lookFs d pathOf sizes j = .ok b := by
  obtain ⟨ino, sz, cid, hr, hn, rfl⟩ := openRead_ok ho
  have hn' : d.world.fs[ino]? = some (.file sz true cid) := hn
  simp only [lookFs, ho, bind, Except.bind, Reuse.getsize, hr, hn', ← hlen, hsz ino sz true cid hn, if_true]
  rfl

theorem lookFs_err (d : Disk α) (pathOf : Nat → PPath) (sizes : List Nat) (j : Nat) (e : Err)
    (ho : openRead d (pathOf j) = .error e) : lookFs d pathOf sizes j = .error e := by
  unfold lookFs
  simp only [ho, bind, Except.bind]

/-- `type(file)(os.path.join(…))` drops empty and `.` components.  For the operating system that makes
    no difference as long as a component that is looked up follows (a file name does): an empty
    component is skipped, and `.` demands of the directory reached so far exactly what the next lookup
    in that directory demands (being a directory, search permission). -/
theorem resolve_pathlibNorm (w : Reuse.World) (a : Bool) (init : List String) (c : String)
    (hc : (c != "" && c != ".") = true) (hhead : a = true ∨ (init ++ [c]).headD "" ≠ "") :
    Reuse.resolve w (Paths.pathlibNorm ⟨a, init ++ [c]⟩) = Reuse.resolve w ⟨a, init ++ [c]⟩ := by
  simp only [Bool.and_eq_true, bne_iff_ne, ne_eq] at hc
  -- `c` is looked up, so what pathlib drops from `init` is invisible
  have ht : Paths.pathlibNorm ⟨a, init ++ [c]⟩ =
      ⟨a, (init.filter fun c => c != "" && c != ".") ++ [c]⟩ := by
    simp [Paths.pathlibNorm, List.filter_append, hc.1, hc.2]
  -- what pathlib keeps starts with a name, not with the empty string
  have hhead' : a = true ∨ ((init.filter fun c => c != "" && c != ".") ++ [c]).headD "" ≠ "" :=
    hhead.imp_right fun _ => FileSize.headD_ne_empty (by simp) fun h =>
      (List.mem_append.mp h).elim (FileSize.empty_not_mem_tidied init) (by simpa using Ne.symm hc.1)
  rw [ht, Reuse.resolve_of_head (p := ⟨a, _⟩) hhead, Reuse.resolve_of_head (p := ⟨a, _⟩) hhead']
  exact FileSize.walk_thin_eq w.fs hc.1 [] _ _ (FileSize.thin_filter init)

end Torf.GeomLemmas
