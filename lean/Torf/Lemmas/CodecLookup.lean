/-
  What is found in the dict `encode_dict` returns, against the Python dict `D`.  For lookups the result
  is an entry-wise representation of `D` (`encodeDict_rep`), so `Rep.lookup_cases` holds of it, and of
  what a parser reads back from the dump (`encodeDict_lookup_cases`).  Entry by entry: `encode_dict`
  returns only if *every* key is a `str` (any other key type — bytes, int, bool, None, tuple, float, … —
  makes it raise ValueError, `encodeDict_nonstr_key`); then the value bound to a `str` key is encoded and
  stands under the UTF-8 encoding of that key (`mem_encodeDict`), and the output has exactly one entry
  per key, each of that form (`encodeDict_keys`).
-/
import Torf.Lemmas.CodecRep
namespace Torf.Codec
open Torf Torf.Bencode

/-- the sort of `encode_dict` only rearranges entries with distinct keys, which no lookup sees -/
theorem encodeDict_rep {D : List (PyVal × PyVal)} {ukvs : List (Bytes × BVal)}
    (hn : (strKeys D).Nodup) (hu : encodeValue (.dict D) = .ok (.dict ukvs)) :
    (ukvs.map (·.1)).Nodup ∧
      ∃ kvs, Rep D kvs ∧ ∀ k, Bencode.lookup k ukvs = Bencode.lookup k kvs := by
  obtain ⟨kvs, hrep, hp⟩ := encodeValue_dict_inv hu
  have hnd : (kvs.map (·.1)).Nodup := hrep.keys ▸ nodup_map_inj (fun _ _ => utf8Enc_inj) hn
  exact ⟨(hp.map (·.1)).nodup_iff.mp hnd, kvs, hrep, fun k => (lookup_perm hp hnd k).symm⟩

/-- `Rep.lookup_cases` for what a parser reads back from the dump of `D` (the entries sorted, the
    values in normal form) -/
theorem encodeDict_lookup_cases {D : List (PyVal × PyVal)} {ukvs : List (Bytes × BVal)}
    (hn : (strKeys D).Nodup) (hu : encodeValue (.dict D) = .ok (.dict ukvs)) (k : String) :
    (PyVal.lookupStr k D = none ∧ lookup (utf8Enc k) (isort keyLe (normKvs ukvs)) = none) ∨
    ∃ m w, PyVal.lookupStr k D = some m ∧ encodeValue m = .ok w ∧
      lookup (utf8Enc k) (isort keyLe (normKvs ukvs)) = some (norm w) := by
  obtain ⟨hnd, kvs, hrep, he⟩ := encodeDict_rep hn hu
  rw [lookup_norm_dict hnd, he]
  rcases hrep.lookup_cases k with ⟨h1, h2⟩ | ⟨m, w, h1, h2, h3⟩
  · exact .inl ⟨h1, congrArg (Option.map norm) h2⟩
  · exact .inr ⟨m, w, h1, h3, congrArg (Option.map norm) h2⟩

theorem mem_encodeDict (k : String) (m : PyVal) (kvs : List (PyVal × PyVal)) (u : BVal)
    (h : encodeDict kvs = .ok u) (hl : PyVal.lookupStr k kvs = some m) :
    ∃ ukvs v, u = .dict ukvs ∧ encodeValue m = .ok v ∧ (utf8Enc k, v) ∈ ukvs := by
  obtain ⟨es, hes, rfl⟩ := encodeValue_dict_ok h
  obtain ⟨v, hl', hv⟩ := (rep_of_encodeKvs kvs es hes).lookupStr k hl
  exact ⟨_, v, rfl, hv, ((isort_perm strLe es).map encKey).symm.subset (mem_of_lookup hl')⟩

theorem encodeDict_keys (kvs : List (PyVal × PyVal)) (u : BVal) (h : encodeDict kvs = .ok u)
    (hn : (strKeys kvs).Nodup) :
    ∃ ukvs, u = .dict ukvs ∧
      (∀ p ∈ kvs, ∃ k, p.1 = .str k) ∧
      ukvs.length = kvs.length ∧
      (ukvs.map (·.1)).Nodup ∧
      (∀ kb v, (kb, v) ∈ ukvs →
        ∃ k m, PyVal.lookupStr k kvs = some m ∧ kb = utf8Enc k ∧ encodeValue m = .ok v) := by
  obtain ⟨es, hes, rfl⟩ := encodeValue_dict_ok h
  have hk := encodeKvs_keys hes
  obtain ⟨hnd, l, hrep, he⟩ := encodeDict_rep hn h
  refine ⟨_, rfl, hk.str_keys, by simp [(isort_perm strLe es).length_eq, hk.length], hnd, fun kb v hm => ?_⟩
  -- a lookup in the output is a lookup in the representation, whose keys are the encoded `str` keys
  have hl := (he kb).symm.trans ((lookup_iff_mem hnd).mpr hm)
  have hk : kb ∈ l.map (·.1) := List.mem_map_of_mem (mem_of_lookup hl)
  obtain ⟨k, _, rfl⟩ := List.mem_map.mp (hrep.keys ▸ hk)
  obtain ⟨m, hm, hem⟩ := hrep.lookup k hl
  exact ⟨k, m, hm, rfl, hem⟩

theorem encodeDict_nonstr_key (kvs : List (PyVal × PyVal)) (p : PyVal × PyVal) (hp : p ∈ kvs)
    (hk : ∀ k, p.1 ≠ .str k) : ∃ e, encodeDict kvs = .error e := by
  cases h : encodeDict kvs with
  | error e => exact ⟨e, rfl⟩
  | ok u =>
    obtain ⟨es, hes, _⟩ := encodeValue_dict_ok h
    obtain ⟨k, hk'⟩ := (encodeKvs_keys hes).str_keys p hp
    exact absurd hk' (hk k)

end Torf.Codec
