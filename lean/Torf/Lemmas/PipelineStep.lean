/-
  Torf.Lemmas.PipelineStep — the transition function of the pipeline as inductive relations, one
  constructor per (thread, program point, branch), with the successor state written out.  The
  invariant proofs do a case analysis on these relations instead of unfolding `step` each time.
  `MainStep` holds main's steps when no thread start is refused, `MainStepG` adds the refused
  starts.  Every enabled step of a thread is a step of its relation; for main this needs that the
  piece it takes from the hash queue has not been seen (the duplicate assertion, which the
  conservation invariant of PipelineCons excludes).  Conversely the steps of the worker threads'
  relations are enabled steps (`ReaderStep.enabled`, `HasherStep.enabled`, `JanitorStep.enabled`),
  which is what the liveness proofs use.  What a step of a worker thread writes, and that the thread
  was running, is read off the relations once, at the end of this file.
-/
import Torf.Lemmas.PipelineBase
namespace Torf.Pipeline

theorem RPc.done_of {r : RPc} (h : r.running = false) (h1 : r ≠ .notStarted) (h2 : r ≠ .refused) :
    r = .done := by cases r <;> simp_all [RPc.running]

theorem JPc.done_of {r : JPc} (h : r.running = false) (h1 : r ≠ .notStarted) (h2 : r ≠ .refused) :
    r = .done := by cases r <;> simp_all [JPc.running]

theorem HPc.done_of {r : HPc} (h : r.running = false) (h1 : r ≠ .notStarted) (h2 : r ≠ .refused) :
    r = .done := by cases r <;> simp_all [HPc.running]

theorem getElem?_set_other {l : List HPc} {i : Nat} {q r : HPc} (hp : l[i]? ≠ some r) (hq : q ≠ r)
    (j : Nat) : (l.set i q)[j]? = some r ↔ l[j]? = some r := by
  rw [List.getElem?_set]
  split
  · subst_vars; split <;> simp_all
  · rfl

theorem getElem?_set_zero {l : List HPc} {i : Nat} {q r : HPc} (hq : q = r → i ≠ 0)
    (h : (l.set i q)[0]? = some r) : l[0]? = some r := by
  rw [List.getElem?_set] at h
  split at h
  · split at h <;> simp_all
  · exact h

theorem eq_of_getElem?_set {l : List HPc} {i j : Nat} {q : HPc} (hn : l[j]? ≠ some q)
    (h : (l.set i q)[j]? = some q) : j = i := by
  rw [List.getElem?_set] at h
  split at h
  · exact (‹i = j›).symm
  · exact absurd h hn

/-- where main goes when it enters `for hasher in self._hashers` at position `idx` -/
def joinTarget (s : State) (idx : Nat) (e : Option Exc) : MPc :=
  match s.tracked[idx]? with
  | some h => .joinHasherChk h idx e
  | none => .joinJanitorChk e

@[simp] theorem joinTarget_ne_finished (s : State) (idx : Nat) (e : Option Exc) (r : Result) :
    joinTarget s idx e ≠ .finished r := by unfold joinTarget; split <;> nofun

@[simp] theorem joinTarget_ne_collect (s : State) (idx : Nat) (e : Option Exc) :
    joinTarget s idx e ≠ .collect := by unfold joinTarget; split <;> nofun

@[simp] theorem joinTarget_ne_startReaderChk (s : State) (idx : Nat) (e : Option Exc) :
    joinTarget s idx e ≠ .startReaderChk := by unfold joinTarget; split <;> nofun

@[simp] theorem joinTarget_ne_startReader (s : State) (idx : Nat) (e : Option Exc) :
    joinTarget s idx e ≠ .startReader := by unfold joinTarget; split <;> nofun

def resultOf (s : State) (e : Option Exc) : Result :=
  match e with
  | some x => .raised x
  | none => .returned s.collected

theorem resultOf_returned {s : State} {e : Option Exc} {c : List Nat}
    (h : resultOf s e = .returned c) : c = s.collected := by
  cases e <;> simp_all [resultOf]

inductive MainStep (cfg : Cfg) (s : State) : State → Prop
  | startReaderChk (hm : s.main = .startReaderChk) : MainStep cfg s { s with main := .startReader }
  | startReader (hm : s.main = .startReader) :
      MainStep cfg s { s with rpc := .begin_, main := .startHasherChk 0 }
  | startHasherChk (i : Nat) (hm : s.main = .startHasherChk i) :
      MainStep cfg s { s with main := .startHasher i }
  | startHasherNext (i : Nat) (hm : s.main = .startHasher i) (hi : i + 1 < cfg.N) :
      MainStep cfg s { s with hs := s.hs.set i .begin_, main := .startHasherChk (i + 1) }
  | startHasherLast (i : Nat) (hm : s.main = .startHasher i) (hi : ¬ i + 1 < cfg.N) :
      MainStep cfg s { s with hs := s.hs.set i .begin_, main := .startJanitorChk }
  | startJanitorChk (hm : s.main = .startJanitorChk) : MainStep cfg s { s with main := .startJanitor }
  | startJanitor (hm : s.main = .startJanitor) : MainStep cfg s { s with jan := .begin_, main := .collect }
  | collectClosed (rest : List (Option Nat)) (hm : s.main = .collect) (hq : s.hq = none :: rest) :
      MainStep cfg s { s with hq := rest, main := .joinReaderChk none }
  | collectRaise (k : Nat) (rest : List (Option Nat)) (hm : s.main = .collect)
      (hq : s.hq = some k :: rest) (hk : k ∉ s.seen)
      (hr : isRaising cfg (cfg.items.getD k .nodata) = true) :
      MainStep cfg s { s with hq := rest, seen := s.seen ++ [k],
                              collected := if isHashed cfg k then s.collected ++ [k] else s.collected,
                              stop := true, main := .joinReaderChk (some (.item k)) }
  | collectPass (k : Nat) (rest : List (Option Nat)) (hm : s.main = .collect)
      (hq : s.hq = some k :: rest) (hk : k ∉ s.seen)
      (hr : isRaising cfg (cfg.items.getD k .nodata) = false)
      (hcb : cfg.cb k (s.seen.length + 1) = .pass) :
      MainStep cfg s { s with hq := rest, seen := s.seen ++ [k],
                              collected := if isHashed cfg k then s.collected ++ [k] else s.collected }
  | collectCancel (k : Nat) (rest : List (Option Nat)) (hm : s.main = .collect)
      (hq : s.hq = some k :: rest) (hk : k ∉ s.seen)
      (hr : isRaising cfg (cfg.items.getD k .nodata) = false)
      (hcb : cfg.cb k (s.seen.length + 1) = .cancel) :
      MainStep cfg s { s with hq := rest, seen := s.seen ++ [k],
                              collected := if isHashed cfg k then s.collected ++ [k] else s.collected,
                              stop := true }
  | collectCbRaise (k : Nat) (rest : List (Option Nat)) (hm : s.main = .collect)
      (hq : s.hq = some k :: rest) (hk : k ∉ s.seen)
      (hr : isRaising cfg (cfg.items.getD k .nodata) = false)
      (hcb : cfg.cb k (s.seen.length + 1) = .raise) :
      MainStep cfg s { s with hq := rest, seen := s.seen ++ [k],
                              collected := if isHashed cfg k then s.collected ++ [k] else s.collected,
                              stop := true, main := .joinReaderChk (some (.cb (s.seen.length + 1))) }
  | joinReaderChkRun (e : Option Exc) (hm : s.main = .joinReaderChk e) (hr : s.rpc.running = true) :
      MainStep cfg s { s with main := .joinReader e }
  | joinReaderSkip (e : Option Exc) (hm : s.main = .joinReaderChk e) (hr : s.rpc.running = false) :
      MainStep cfg s { s with main := joinTarget s 0 (if s.rexc then some .read else e) }
  | joinReaderDone (e : Option Exc) (hm : s.main = .joinReader e) (hr : s.rpc.running = false) :
      MainStep cfg s { s with main := joinTarget s 0 (if s.rexc then some .read else e) }
  | joinHasherChkRun (h idx : Nat) (e : Option Exc) (hm : s.main = .joinHasherChk h idx e)
      (hr : hasherRunning s h = true) : MainStep cfg s { s with main := .joinHasher h idx e }
  | joinHasherSkip (h idx : Nat) (e : Option Exc) (hm : s.main = .joinHasherChk h idx e)
      (hr : hasherRunning s h = false) : MainStep cfg s { s with main := joinTarget s (idx + 1) e }
  | joinHasherDone (h idx : Nat) (e : Option Exc) (hm : s.main = .joinHasher h idx e)
      (hr : hasherRunning s h = false) : MainStep cfg s { s with main := joinTarget s (idx + 1) e }
  | joinJanitorChkRun (e : Option Exc) (hm : s.main = .joinJanitorChk e) (hr : s.jan.running = true) :
      MainStep cfg s { s with main := .joinJanitor e }
  | joinJanitorSkip (e : Option Exc) (hm : s.main = .joinJanitorChk e)
      (hr : s.jan.running = false) : MainStep cfg s { s with main := .finished (resultOf s e) }
  | joinJanitorDone (e : Option Exc) (hm : s.main = .joinJanitor e)
      (hr : s.jan.running = false) : MainStep cfg s { s with main := .finished (resultOf s e) }

theorem enterJoinHasher_eq (s : State) (idx : Nat) (e : Option Exc) :
    enterJoinHasher s idx e = { s with main := joinTarget s idx e } := by
  unfold enterJoinHasher joinTarget
  split <;> simp_all

theorem finishWith_eq (s : State) (e : Option Exc) :
    finishWith s e = { s with main := .finished (resultOf s e) } := by
  unfold finishWith resultOf
  rfl

/-- one step of main, for every configuration: either a step of `MainStep` whose thread start (if
    it is one) is not refused, or one of the refused starts -/
inductive MainStepG (cfg : Cfg) (s : State) : State → Prop
  | ok {s' : State} (h : MainStep cfg s s')
      (hR : s.main = .startReader → Tid.reader ∉ cfg.refuse)
      (hH : ∀ i : Nat, s.main = .startHasher i → Tid.hasher i ∉ cfg.refuse)
      (hJ : s.main = .startJanitor → Tid.janitor ∉ cfg.refuse) : MainStepG cfg s s'
  | refReader (hm : s.main = .startReader) (hr : Tid.reader ∈ cfg.refuse) :
      MainStepG cfg s { s with rpc := .refused, main := .finished (.raised (.startRefused .reader)) }
  | refVital (hm : s.main = .startHasher 0) (hr : Tid.hasher 0 ∈ cfg.refuse) :
      MainStepG cfg s { s with hs := s.hs.set 0 .refused,
                               main := .finished (.raised (.startRefused (.hasher 0))) }
  | refHasherNext (i : Nat) (hm : s.main = .startHasher i) (h0 : i ≠ 0)
      (hr : Tid.hasher i ∈ cfg.refuse) (hi : i + 1 < cfg.N) :
      MainStepG cfg s { s with hs := s.hs.set i .refused, main := .startHasherChk (i + 1) }
  | refHasherLast (i : Nat) (hm : s.main = .startHasher i) (h0 : i ≠ 0)
      (hr : Tid.hasher i ∈ cfg.refuse) (hi : ¬ i + 1 < cfg.N) :
      MainStepG cfg s { s with hs := s.hs.set i .refused, main := .startJanitorChk }
  | refJanitor (hm : s.main = .startJanitor) (hr : Tid.janitor ∈ cfg.refuse) :
      MainStepG cfg s { s with jan := .refused, main := .finished (.raised (.startRefused .janitor)) }

/-- A list main returns is the collector's: this needs no invariant, main returns nothing else. -/
theorem MainStep.ret {cfg : Cfg} {s s' : State} (hs : MainStep cfg s s') :
    ∀ c, s'.main = .finished (.returned c) → c = s'.collected := by
  cases hs with
  | joinJanitorSkip e hm hr | joinJanitorDone e hm hr =>
    exact fun c hc => resultOf_returned (s := s) (MPc.finished.inj hc)
  | collectPass k rest hm hq | collectCancel k rest hm hq => simp [hm]
  | _ => simp

theorem MainStepG.ret {cfg : Cfg} {s s' : State} (hs : MainStepG cfg s s') :
    ∀ c, s'.main = .finished (.returned c) → c = s'.collected := by
  cases hs with
  | ok hs => exact hs.ret
  | _ => nofun

/-- the reader after pushing item `k - 1`: read item `k` -/
inductive ReaderNext (cfg : Cfg) (t : State) (k : Nat) : State → Prop
  | fault (h1 : cfg.readFault = some k) : ReaderNext cfg t k { t with rpc := .closing, rexc := true }
  | eof (h1 : cfg.readFault ≠ some k) (h2 : cfg.items.length ≤ k) :
      ReaderNext cfg t k { t with rpc := .closing }
  | stopped (h1 : cfg.readFault ≠ some k) (h2 : k < cfg.items.length) (h3 : t.stop = true) :
      ReaderNext cfg t k { t with rpc := .closing }
  | next (h1 : cfg.readFault ≠ some k) (h2 : k < cfg.items.length) (h3 : t.stop = false) :
      ReaderNext cfg t k { t with rpc := .putting k }

theorem ReaderNext.of_readerNext (cfg : Cfg) (t : State) (k : Nat) :
    ReaderNext cfg t k (readerNext cfg t k) := by
  unfold readerNext
  split
  · rename_i h; exact .fault h
  · rename_i h1
    split
    · rename_i h2; exact .eof h1 h2
    · rename_i h2
      split
      · rename_i h3; exact .stopped h1 (by omega) h3
      · rename_i h3; exact .next h1 (by omega) (by simpa using h3)

inductive ReaderStep (cfg : Cfg) (s : State) : State → Prop
  | begin (hr : s.rpc = .begin_) (t : State) (hn : ReaderNext cfg s 0 t) : ReaderStep cfg s t
  | put (k : Nat) (hr : s.rpc = .putting k) (hc : s.pq.length < cfg.cap) (t : State)
      (hn : ReaderNext cfg { s with pq := s.pq ++ [some k] } (k + 1) t) : ReaderStep cfg s t
  | close (hr : s.rpc = .closing) (hc : s.pq.length < cfg.cap) :
      ReaderStep cfg s { s with pq := s.pq ++ [none], rpc := .done }

theorem ReaderStep.of_step {cfg : Cfg} {s s' : State} (hs : stepReader cfg s = some s') :
    ReaderStep cfg s s' := by
  unfold stepReader at hs
  split at hs
  · rename_i hr
    cases hs
    exact .begin hr _ (.of_readerNext ..)
  · rename_i k hr
    split at hs
    · rename_i hc
      cases hs
      exact .put k hr hc _ (.of_readerNext ..)
    · cases hs
  · rename_i hr
    split at hs
    · rename_i hc
      cases hs
      exact .close hr hc
    · cases hs
  · cases hs

theorem ReaderNext.eq {cfg : Cfg} {t t' : State} {k : Nat} (h : ReaderNext cfg t k t') :
    t' = readerNext cfg t k := by
  unfold readerNext
  cases h with
  | fault h1 => rw [if_pos h1]
  | eof h1 h2 => rw [if_neg h1, if_pos h2]
  | stopped h1 h2 h3 => rw [if_neg h1, if_neg (Nat.not_le.2 h2), if_pos h3]
  | next h1 h2 h3 => rw [if_neg h1, if_neg (Nat.not_le.2 h2), if_neg (by simp [h3])]

theorem ReaderStep.enabled {cfg : Cfg} {s s' : State} (h : ReaderStep cfg s s') :
    stepReader cfg s = some s' := by
  cases h with
  | begin hr t hn => simp only [stepReader, hr, hn.eq]
  | put k hr hc t hn => simp only [stepReader, hr, hc, ↓reduceIte, hn.eq]
  | close hr hc => simp only [stepReader, hr, hc, ↓reduceIte]

inductive HasherStep (cfg : Cfg) (s : State) (i : Nat) : State → Prop
  | begin (hi : s.hs[i]? = some .begin_) : HasherStep cfg s i { s with hs := s.hs.set i .getting }
  | idle (hi : s.hs[i]? = some .getting) (hpq : s.pq = []) (h0 : i = 0) : HasherStep cfg s i s
  | quit (hi : s.hs[i]? = some .getting) (hpq : s.pq = []) (h0 : i ≠ 0) :
      HasherStep cfg s i { s with hs := s.hs.set i .done }
  | take (k : Nat) (rest : List (Option Nat)) (hi : s.hs[i]? = some .getting)
      (hpq : s.pq = some k :: rest) :
      HasherStep cfg s i { s with pq := rest, hs := s.hs.set i (.holding k) }
  | takeClosed (rest : List (Option Nat)) (hi : s.hs[i]? = some .getting) (hpq : s.pq = none :: rest) :
      HasherStep cfg s i { s with pq := rest, hs := s.hs.set i .requeue }
  | deliver (k : Nat) (hi : s.hs[i]? = some (.holding k)) :
      HasherStep cfg s i { s with hq := s.hq ++ [some k], hs := s.hs.set i .getting }
  | requeue (hi : s.hs[i]? = some .requeue) (hc : s.pq.length < cfg.cap) :
      HasherStep cfg s i { s with pq := s.pq ++ [none], hs := s.hs.set i .setEv }
  | setEv (hi : s.hs[i]? = some .setEv) : HasherStep cfg s i { s with fin := true, hs := s.hs.set i .done }

theorem HasherStep.of_step {cfg : Cfg} {s s' : State} {i : Nat} {b : Bool}
    (hs : stepHasher cfg s i b = some s') : HasherStep cfg s i s' := by
  unfold stepHasher at hs
  simp only [setHasher] at hs
  split at hs
  · cases hs
  · rename_i hi
    split at hs
    · cases hs
    · cases hs; exact .begin hi
  · rename_i hi
    split at hs
    · rename_i hpq
      split at hs
      · split at hs
        · rename_i h0; cases hs; exact .idle hi hpq h0
        · rename_i h0; cases hs; exact .quit hi hpq h0
      · cases hs
    · rename_i x rest hpq
      split at hs
      · cases hs
      · split at hs
        · rename_i k; cases hs; exact .take k rest hi hpq
        · cases hs; exact .takeClosed rest hi hpq
  · rename_i k hi
    split at hs
    · cases hs
    · cases hs; exact .deliver k hi
  · rename_i hi
    split at hs
    · cases hs
    · split at hs
      · rename_i hc; cases hs; exact .requeue hi hc
      · cases hs
  · rename_i hi
    split at hs
    · cases hs
    · cases hs; exact .setEv hi
  · cases hs

theorem HasherStep.enabled {cfg : Cfg} {s s' : State} {i : Nat} (h : HasherStep cfg s i s') :
    ∃ b, stepHasher cfg s i b = some s' := by
  cases h with
  | idle hi hpq h0 => subst h0; exact ⟨true, by simp [stepHasher, hi, hpq]⟩
  | quit hi hpq h0 => exact ⟨true, by simp [stepHasher, hi, hpq, h0, setHasher]⟩
  | _ => exact ⟨false, by simp [stepHasher, setHasher, *]⟩

def spinPc : List Nat → JPc
  | [] => .closing
  | h :: rest => .spin (h :: rest)

def prunePc : List Nat → JPc
  | [] => .waiting
  | h :: rest => .prune (h :: rest)

theorem spinPc_cases (l : List Nat) :
    (l = [] ∧ spinPc l = .closing) ∨ (l ≠ [] ∧ spinPc l = .spin l) := by
  cases l <;> simp [spinPc]

theorem prunePc_cases (l : List Nat) :
    (l = [] ∧ prunePc l = .waiting) ∨ (l ≠ [] ∧ prunePc l = .prune l) := by
  cases l <;> simp [prunePc]

theorem coreJan_prunePc (l : List Nat) : coreJan (prunePc l) = .waiting := by cases l <;> rfl

theorem enterSpin_eq (s : State) (l : List Nat) : enterSpin s l = { s with jan := spinPc l } := by
  cases l <;> rfl

theorem enterPrune_eq (s : State) (l : List Nat) : enterPrune s l = { s with jan := prunePc l } := by
  cases l <;> rfl

inductive JanitorStep (s : State) : State → Prop
  | begin (hj : s.jan = .begin_) : JanitorStep s { s with jan := .waiting }
  | wake (hj : s.jan = .waiting) (hf : s.fin = true) : JanitorStep s { s with jan := spinPc s.tracked }
  | timeout (hj : s.jan = .waiting) (hf : s.fin = false) :
      JanitorStep s { s with jan := prunePc s.tracked }
  | pruneKeep (h : Nat) (rest : List Nat) (hj : s.jan = .prune (h :: rest))
      (hr : hasherRunning s h = true) : JanitorStep s { s with jan := prunePc rest }
  | pruneDrop (h : Nat) (rest : List Nat) (hj : s.jan = .prune (h :: rest))
      (hr : hasherRunning s h = false) :
      JanitorStep s { s with tracked := s.tracked.erase h, jan := prunePc rest }
  | spinRestart (h : Nat) (rest : List Nat) (hj : s.jan = .spin (h :: rest))
      (hr : hasherRunning s h = true) : JanitorStep s { s with jan := spinPc s.tracked }
  | spinNext (h : Nat) (rest : List Nat) (hj : s.jan = .spin (h :: rest))
      (hr : hasherRunning s h = false) : JanitorStep s { s with jan := spinPc rest }
  | close (hj : s.jan = .closing) : JanitorStep s { s with hq := s.hq ++ [none], jan := .done }

theorem JanitorStep.of_step {cfg : Cfg} {s s' : State} {b : Bool}
    (hs : stepJanitor cfg s b = some s') : JanitorStep s s' := by
  unfold stepJanitor at hs
  simp only [enterSpin_eq, enterPrune_eq] at hs
  split at hs
  · rename_i hj
    split at hs
    · cases hs
    · cases hs; exact .begin hj
  · rename_i hj
    split at hs
    · rename_i hf
      split at hs
      · cases hs
      · cases hs; exact .wake hj hf
    · rename_i hf
      split at hs
      · cases hs; exact .timeout hj (by simpa using hf)
      · cases hs
  · cases hs
  · rename_i h rest hj
    split at hs
    · cases hs
    · split at hs
      · rename_i hr; cases hs; exact .pruneKeep h rest hj hr
      · rename_i hr; cases hs
        exact .pruneDrop h rest hj (by simpa using hr)
  · cases hs
  · rename_i h rest hj
    split at hs
    · cases hs
    · split at hs
      · rename_i hr; cases hs; exact .spinRestart h rest hj hr
      · rename_i hr; cases hs
        exact .spinNext h rest hj (by simpa using hr)
  · rename_i hj
    split at hs
    · cases hs
    · cases hs; exact .close hj
  · cases hs

/-- `hw` excludes the timeout of `wait`; every other step is enabled under the blocking label -/
theorem JanitorStep.enabled {s s' : State} (h : JanitorStep s s') (cfg : Cfg)
    (hw : s.jan = .waiting → s.fin = true) : stepJanitor cfg s false = some s' := by
  cases h with
  | timeout hj hf => rw [hw hj] at hf; cases hf
  | _ => simp [stepJanitor, enterSpin_eq, enterPrune_eq, *]

/-- a step of the system under a label is the step of that label's thread; main and the reader
    have no timeout alternative -/
inductive LStep (cfg : Cfg) (s s' : State) : Label → Prop
  | main (h : stepMain cfg s = some s') : LStep cfg s s' ⟨.main, false⟩
  | reader (h : stepReader cfg s = some s') : LStep cfg s s' ⟨.reader, false⟩
  | hasher (i : Nat) (b : Bool) (h : stepHasher cfg s i b = some s') : LStep cfg s s' ⟨.hasher i, b⟩
  | janitor (b : Bool) (h : stepJanitor cfg s b = some s') : LStep cfg s s' ⟨.janitor, b⟩

theorem LStep.of_step {cfg : Cfg} {s s' : State} {l : Label} (hs : step cfg s l = some s') :
    LStep cfg s s' l := by
  obtain ⟨t, b⟩ := l
  cases t with
  | main =>
    cases b with
    | false => exact .main hs
    | true => cases hs
  | reader =>
    cases b with
    | false => exact .reader hs
    | true => cases hs
  | hasher i => exact .hasher i b hs
  | janitor => exact .janitor b hs

/-- one step of any thread, for configurations in which no thread start is refused -/
inductive Step (cfg : Cfg) (s : State) : State → Prop
  | main {s' : State} (h : MainStep cfg s s') : Step cfg s s'
  | reader {s' : State} (h : ReaderStep cfg s s') : Step cfg s s'
  | hasher {s' : State} (i : Nat) (h : HasherStep cfg s i s') : Step cfg s s'
  | janitor {s' : State} (h : JanitorStep s s') : Step cfg s s'

/-- one step of any thread, for every configuration -/
inductive StepG (cfg : Cfg) (s : State) : State → Prop
  | main {s' : State} (h : MainStepG cfg s s') : StepG cfg s s'
  | reader {s' : State} (h : ReaderStep cfg s s') : StepG cfg s s'
  | hasher {s' : State} (i : Nat) (h : HasherStep cfg s i s') : StepG cfg s s'
  | janitor {s' : State} (h : JanitorStep s s') : StepG cfg s s'

theorem MainStepG.of_not_seen {cfg : Cfg} {s s' : State}
    (hk : ∀ {k rest}, s.hq = some k :: rest → k ∉ s.seen) (hs : stepMain cfg s = some s') :
    MainStepG cfg s s' := by
  by_cases hc : s.main = .collect
  · refine .ok ?_ (by simp [hc]) (by simp [hc]) (by simp [hc])
    cases hq : s.hq with
    | nil => simp [stepMain, hc, hq] at hs
    | cons x rest =>
      cases x with
      | none =>
        simp only [stepMain, hc, hq] at hs
        cases hs
        exact .collectClosed rest hc hq
      | some k =>
        rw [stepMain_collect hc hq (hk hq)] at hs
        cases hs
        unfold collectNext
        split
        · exact .collectRaise k rest hc hq (hk hq) ‹_›
        · have hr : isRaising cfg (cfg.items.getD k .nodata) = false := Bool.eq_false_iff.2 ‹_›
          split
          · exact .collectPass k rest hc hq (hk hq) hr ‹_›
          · exact .collectCancel k rest hc hq (hk hq) hr ‹_›
          · exact .collectCbRaise k rest hc hq (hk hq) hr ‹_›
  · unfold stepMain at hs
    simp only [List.contains_eq_mem, decide_eq_true_eq, afterReaderJoin, enterJoinHasher_eq,
      finishWith_eq, setHasher] at hs
    split at hs
    -- `h_1` … `h_14` are the arms of `stepMain`'s match in the order of `MPc` (`h_7` = `collect`)
    case h_7 hm => exact absurd hm hc
    case h_2 hm =>
      split at hs <;> cases hs
      · exact .refReader hm ‹_›
      · exact .ok (.startReader hm) (fun _ => ‹_›) (by simp [hm]) (by simp [hm])
    case h_4 i hm =>
      have hH : Tid.hasher i ∉ cfg.refuse → ∀ j : Nat, s.main = .startHasher j →
          Tid.hasher j ∉ cfg.refuse := fun hr j hj => by rw [hm] at hj; cases hj; exact hr
      by_cases hi : i + 1 < cfg.N <;> simp only [hi, ↓reduceIte] at hs <;> split at hs
      · split at hs <;> cases hs
        · rename_i h0; subst h0; exact .refVital hm ‹_›
        · exact .refHasherNext i hm ‹_› ‹_› hi
      · cases hs
        exact .ok (.startHasherNext i hm hi) (by simp [hm]) (hH ‹_›) (by simp [hm])
      · split at hs <;> cases hs
        · rename_i h0; subst h0; exact .refVital hm ‹_›
        · exact .refHasherLast i hm ‹_› ‹_› hi
      · cases hs
        exact .ok (.startHasherLast i hm hi) (by simp [hm]) (hH ‹_›) (by simp [hm])
    case h_6 hm =>
      split at hs <;> cases hs
      · exact .refJanitor hm ‹_›
      · exact .ok (.startJanitor hm) (by simp [hm]) (by simp [hm]) (fun _ => ‹_›)
    all_goals
      -- the other program points start no thread
      rename_i hm
      refine .ok ?_ (by simp [hm]) (by simp [hm]) (by simp [hm])
    case h_1 => cases hs; exact .startReaderChk hm
    case h_3 i => cases hs; exact .startHasherChk i hm
    case h_5 => cases hs; exact .startJanitorChk hm
    case h_8 e =>
      split at hs <;> cases hs
      · exact .joinReaderChkRun e hm ‹_›
      · exact .joinReaderSkip e hm (Bool.eq_false_iff.2 ‹_›)
    case h_9 e =>
      split at hs <;> cases hs
      exact .joinReaderDone e hm (Bool.eq_false_iff.2 ‹_›)
    case h_10 h idx e =>
      split at hs <;> cases hs
      · exact .joinHasherChkRun h idx e hm ‹_›
      · exact .joinHasherSkip h idx e hm (Bool.eq_false_iff.2 ‹_›)
    case h_11 h idx e =>
      split at hs <;> cases hs
      exact .joinHasherDone h idx e hm (Bool.eq_false_iff.2 ‹_›)
    case h_12 e =>
      split at hs <;> cases hs
      · exact .joinJanitorChkRun e hm ‹_›
      · exact .joinJanitorSkip e hm (Bool.eq_false_iff.2 ‹_›)
    case h_13 e =>
      split at hs <;> cases hs
      exact .joinJanitorDone e hm (Bool.eq_false_iff.2 ‹_›)
    case h_14 => cases hs

theorem MainStepG.toMainStep {cfg : Cfg} {s s' : State} (hrf : cfg.refuse = [])
    (hs : MainStepG cfg s s') : MainStep cfg s s' := by
  cases hs with
  | ok h => exact h
  | _ => simp_all

/-- What a step of a hasher or of the janitor leaves alone: main's program counter, the reader's
    variables, the stop flag, the collector's lists.  An invariant that reads nothing else is
    preserved by such a step for that reason alone. -/
structure WorkerFrame (s s' : State) : Prop where
  main : s'.main = s.main
  rpc : s'.rpc = s.rpc
  rexc : s'.rexc = s.rexc
  stop : s'.stop = s.stop
  seen : s'.seen = s.seen
  collected : s'.collected = s.collected

theorem HasherStep.frame {cfg : Cfg} {s s' : State} {i : Nat} (h : HasherStep cfg s i s') :
    WorkerFrame s s' := by
  cases h <;> exact ⟨rfl, rfl, rfl, rfl, rfl, rfl⟩

theorem JanitorStep.frame {s s' : State} (h : JanitorStep s s') : WorkerFrame s s' := by
  cases h <;> exact ⟨rfl, rfl, rfl, rfl, rfl, rfl⟩

/-- the reader never clears its exception flag -/
theorem ReaderStep.frame {cfg : Cfg} {s s' : State} (h : ReaderStep cfg s s') :
    s'.main = s.main ∧ s'.stop = s.stop ∧ s'.seen = s.seen ∧ (s'.rexc = false → s.rexc = false) := by
  cases h with
  | begin _ _ hn => cases hn <;> simp
  | put _ _ _ _ hn => cases hn <;> simp
  | close => simp

/-- a worker thread (program counter `pc`, "running" test `run`) steps: it was running, and it
    is neither `notStarted` nor `refused` afterwards -/
structure Moves {α : Type} (run : α → Bool) (notStarted refused : α) (pc pc' : α) : Prop where
  was : run pc = true
  ns : pc' ≠ notStarted
  nr : pc' ≠ refused

theorem ReaderStep.ctl {cfg : Cfg} {s s' : State} (hs : ReaderStep cfg s s') :
    Moves RPc.running .notStarted .refused s.rpc s'.rpc ∧ s'.hs = s.hs ∧ s'.tracked = s.tracked ∧
      s'.jan = s.jan := by
  cases hs with
  | begin hr t hn => cases hn <;> exact ⟨⟨by rw [hr]; rfl, nofun, nofun⟩, rfl, rfl, rfl⟩
  | put k hr hc t hn => cases hn <;> exact ⟨⟨by rw [hr]; rfl, nofun, nofun⟩, rfl, rfl, rfl⟩
  | close hr hc => exact ⟨⟨by rw [hr]; rfl, nofun, nofun⟩, rfl, rfl, rfl⟩

/-- a hasher's step moves that hasher (the idle vital hasher: to where it is) -/
theorem HasherStep.ctl {cfg : Cfg} {s s' : State} {i : Nat} (hs : HasherStep cfg s i s') :
    (∃ p q, s.hs[i]? = some p ∧ Moves HPc.running .notStarted .refused p q ∧ s'.hs = s.hs.set i q) ∧
      s'.tracked = s.tracked ∧ s'.jan = s.jan := by
  cases hs with
  | idle hi => exact ⟨⟨_, .getting, hi, ⟨rfl, nofun, nofun⟩, (set_eq_self hi).symm⟩, rfl, rfl⟩
  | begin hi => exact ⟨⟨_, .getting, hi, ⟨rfl, nofun, nofun⟩, rfl⟩, rfl, rfl⟩
  | quit hi => exact ⟨⟨_, .done, hi, ⟨rfl, nofun, nofun⟩, rfl⟩, rfl, rfl⟩
  | take k rest hi => exact ⟨⟨_, .holding k, hi, ⟨rfl, nofun, nofun⟩, rfl⟩, rfl, rfl⟩
  | takeClosed rest hi => exact ⟨⟨_, .requeue, hi, ⟨rfl, nofun, nofun⟩, rfl⟩, rfl, rfl⟩
  | deliver k hi => exact ⟨⟨_, .getting, hi, ⟨rfl, nofun, nofun⟩, rfl⟩, rfl, rfl⟩
  | requeue hi => exact ⟨⟨_, .setEv, hi, ⟨rfl, nofun, nofun⟩, rfl⟩, rfl, rfl⟩
  | setEv hi => exact ⟨⟨_, .done, hi, ⟨rfl, nofun, nofun⟩, rfl⟩, rfl, rfl⟩

theorem JanitorStep.ctl {s s' : State} (hs : JanitorStep s s') :
    Moves JPc.running .notStarted .refused s.jan s'.jan ∧ s'.tracked.length ≤ s.tracked.length ∧
      s'.hs = s.hs := by
  have hspin : ∀ l, spinPc l ≠ .notStarted ∧ spinPc l ≠ .refused := fun l => by
    cases l <;> exact ⟨nofun, nofun⟩
  have hprune : ∀ l, prunePc l ≠ .notStarted ∧ prunePc l ≠ .refused := fun l => by
    cases l <;> exact ⟨nofun, nofun⟩
  cases hs with
  | begin hj => exact ⟨⟨by rw [hj]; rfl, nofun, nofun⟩, Nat.le_refl _, rfl⟩
  | close hj => exact ⟨⟨by rw [hj]; rfl, nofun, nofun⟩, Nat.le_refl _, rfl⟩
  | wake hj | spinRestart h rest hj | spinNext h rest hj =>
    exact ⟨⟨by rw [hj]; rfl, (hspin _).1, (hspin _).2⟩, Nat.le_refl _, rfl⟩
  | timeout hj | pruneKeep h rest hj =>
    exact ⟨⟨by rw [hj]; rfl, (hprune _).1, (hprune _).2⟩, Nat.le_refl _, rfl⟩
  | pruneDrop h rest hj =>
    exact ⟨⟨by rw [hj]; rfl, (hprune _).1, (hprune _).2⟩, List.length_erase_le .., rfl⟩

theorem HasherStep.alive {cfg : Cfg} {s s' : State} {i : Nat} (h : HasherStep cfg s i s') :
    ∃ p, s.hs[i]? = some p ∧ p.running = true :=
  have ⟨⟨p, _, hi, hmv, _⟩, _⟩ := h.ctl
  ⟨p, hi, hmv.was⟩

theorem MainStepG.not_terminal {cfg : Cfg} {s s' : State} (h : MainStepG cfg s s') :
    terminal s = false := by
  cases h with
  | ok h' => cases h' <;> simp [terminal, *]
  | _ => simp [terminal, *]

theorem step_worker {cfg : Cfg} {s s' : State} {l : Label} (hm : l.tid ≠ .main) (hr : l.tid ≠ .reader)
    (h : step cfg s l = some s') :
    WorkerFrame s s' ∧ ((∃ p ∈ s.hs, p.running = true) ∨ s.jan.running = true) := by
  cases LStep.of_step h with
  | main => exact absurd rfl hm
  | reader => exact absurd rfl hr
  | hasher i b hw =>
    have h' := HasherStep.of_step hw
    obtain ⟨p, hp, hrun⟩ := h'.alive
    exact ⟨h'.frame, .inl ⟨p, List.mem_of_getElem? hp, hrun⟩⟩
  | janitor b hw =>
    have h' := JanitorStep.of_step hw
    exact ⟨h'.frame, .inr h'.ctl.1.was⟩

theorem StepG.alive {cfg : Cfg} {s s' : State} (h : StepG cfg s s') :
    terminal s = false ∨ allThreadsDone s = false := by
  cases h with
  | main h' => exact .inl h'.not_terminal
  | reader h' => exact .inr (by simp [allThreadsDone, h'.ctl.1.was])
  | hasher i h' =>
    obtain ⟨p, hp, hr⟩ := h'.alive
    refine .inr ?_
    have : (s.hs.all fun h => !h.running) = false := by
      rw [List.all_eq_false]
      exact ⟨p, List.mem_of_getElem? hp, by simp [hr]⟩
    simp [allThreadsDone, this]
  | janitor h' => exact .inr (by simp [allThreadsDone, h'.ctl.1.was])

end Torf.Pipeline
