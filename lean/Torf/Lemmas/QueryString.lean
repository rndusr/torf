/-
  Lemmas about the model of `urllib.parse.parse_qs` (Torf/Model/QueryString.lean): the loop never
  raises with the options `from_string` uses, the field count of the limit test is the number of
  fields the loop sees, grouping yields no empty value list.  At the end: what `from_string` does after
  `parse_qs` is documented, and the shell (`urlparse`, scheme test) that all model variants of `from_string` share.
-/
import Torf.Lemmas.Untrusted
import Torf.Model.QueryString
import Torf.Lemmas.Lookup
namespace Torf.Untrusted

theorem splitAux_length (sep : Char) : ∀ (cs cur : List Char) (acc : List (List Char)),
    (splitAux sep cs cur acc).length = acc.length + 1 + cs.count sep := by
  intro cs
  induction cs with
  | nil => intro cur acc; simp [splitAux]
  | cons c cs ih =>
    intro cur acc
    unfold splitAux
    by_cases h : c = sep
    · subst h
      simp only [beq_self_eq_true, if_true]
      rw [ih]; simp; omega
    · have hb : (c == sep) = false := by simpa using h
      simp only [hb, Bool.false_eq_true, if_false]
      rw [ih]
      simp [List.count_cons, hb]

theorem fields_length (qs : List Char) : (fields qs).length = numFields qs := by
  unfold fields numFields
  by_cases h : qs.isEmpty = true
  · simp [h]
  · simp only [h, Bool.false_eq_true, if_false]
    unfold splitChar
    rw [splitAux_length]; simp

theorem numFields_replicate (n : Nat) (h : 0 < n) : numFields (List.replicate n '&') = n + 1 := by
  unfold numFields
  have : (List.replicate n '&').isEmpty = false := by
    cases n with
    | zero => omega
    | succ k => simp [List.replicate]
  simp [this]; omega

theorem qslField_strict_noeq (pct : String → String)
    (nv : List Char) (hne : splitFirst '=' nv [] = none) : qslField pct true nv = .error .value := by
  unfold qslField
  simp [hne]

theorem qslLoop_error_head (pct : String → String) (o : Bool) (nv : List Char) (rest : List (List Char))
    (acc : List (String × String)) (r : Raise) (h : qslField pct o nv = .error r) :
    qslLoop pct o (nv :: rest) acc = .error r := by
  unfold qslLoop; rw [h]

theorem qslField_err {pct : String → String} {o : Bool} {nv : List Char} {r : Raise}
    (h : qslField pct o nv = .error r) : r = .value ∧ o = true := by
  unfold qslField at h
  split at h
  · cases h
  · split at h
    · split at h
      · cases h; exact ⟨rfl, ‹_›⟩
      · cases h
    · split at h <;> cases h

theorem qslLoop_err {pct : String → String} {o : Bool} : ∀ {fs : List (List Char)}
    {acc : List (String × String)} {r : Raise}, qslLoop pct o fs acc = .error r → r = .value ∧ o = true := by
  intro fs
  induction fs with
  | nil => intro acc r h; cases h
  | cons nv rest ih =>
    intro acc r h
    unfold qslLoop at h
    cases hf : qslField pct o nv with
    | error r' => rw [hf] at h; cases h; exact qslField_err hf
    | ok x =>
      rw [hf] at h
      cases x <;> exact ih h

theorem parseQsl_err {pct : String → String} {o : QsOpts} {qs : List Char} {r : Raise}
    (h : parseQsl pct o qs = .error r) : r = .value := by
  unfold parseQsl at h
  split at h
  · split at h
    · cases h; rfl
    · exact (qslLoop_err h).1
  · exact (qslLoop_err h).1

/-- `QsNonempty` by membership instead of lookup: the form that `addPair` and `groupPairs` keep, step by step -/
def GroupsNonempty (q : List (String × List String)) : Prop := ∀ kv ∈ q, kv.2 ≠ []

theorem addPair_nonempty (k v : String) : ∀ (q : List (String × List String)),
    GroupsNonempty q → GroupsNonempty (addPair k v q) := by
  intro q
  induction q with
  | nil => intro _ kv hkv; simp [addPair] at hkv; subst hkv; simp
  | cons hd t ih =>
    intro hq kv hkv
    obtain ⟨k', vs⟩ := hd
    unfold addPair at hkv
    split at hkv
    · rcases List.mem_cons.1 hkv with h | h
      · subst h; simp
      · exact hq kv (List.mem_cons_of_mem _ h)
    · rcases List.mem_cons.1 hkv with h | h
      · subst h; exact hq _ (List.mem_cons_self ..)
      · exact ih (fun kv' h' => hq kv' (List.mem_cons_of_mem _ h')) kv h

theorem groupPairs_nonempty : ∀ (ps : List (String × String)) (acc : List (String × List String)),
    GroupsNonempty acc → GroupsNonempty (groupPairs ps acc) := by
  intro ps
  induction ps with
  | nil =>
    intro acc hacc kv hkv
    simp only [groupPairs, List.mem_map] at hkv
    obtain ⟨kv', hm, rfl⟩ := hkv
    have := hacc kv' hm
    simpa using this
  | cons p t ih =>
    intro acc hacc
    obtain ⟨k, v⟩ := p
    unfold groupPairs
    exact ih _ (addPair_nonempty k v acc hacc)

theorem qlookup_eq_firstWith (k : String) : ∀ q : List (String × List String),
    qlookup k q = firstWith (· == k) q
  | [] => rfl
  | (k', v) :: t => by rw [qlookup, firstWith, qlookup_eq_firstWith k t]

theorem qlookup_mem {k : String} {q : List (String × List String)} {vs : List String}
    (h : qlookup k q = some vs) : ∃ k', (k', vs) ∈ q :=
  (mem_of_firstWith (qlookup_eq_firstWith k q ▸ h)).imp fun _ h => h.2

theorem QsNonempty_of_groups {q : List (String × List String)} (h : GroupsNonempty q) : QsNonempty q := by
  intro k vs hl
  obtain ⟨k', hm⟩ := qlookup_mem hl
  exact h (k', vs) hm

/-- discharges `QsNonempty`, the hypothesis of the `*_err` lemmas of `Lemmas/Untrusted.lean` -/
theorem parseQsE_nonempty {pct : String → String} {o : QsOpts} {qs : String}
    {q : List (String × List String)} (h : parseQsE pct o qs = .ok q) : QsNonempty q := by
  unfold parseQsE at h
  split at h
  · cases h
  · cases h
    exact QsNonempty_of_groups (groupPairs_nonempty _ [] (fun _ h => by simp at h))

/-- with the arguments `from_string` passes, `parse_qs` returns for every query -/
theorem parseQsE_default (pct : String → String) (qs : String) :
    parseQsE pct {} qs = .ok (parseQs pct qs) := by
  unfold parseQs
  unfold parseQsE
  cases h : parseQsl pct {} qs.toList with
  | ok ps => rfl
  | error r => exact nomatch (qslLoop_err h).2

theorem parseQs_nonempty (pct : String → String) (qs : String) : QsNonempty (parseQs pct qs) :=
  parseQsE_nonempty (parseQsE_default pct qs)

theorem afterQs_err {o : MagnetOracle} {q : List (String × List String)} {e : Err}
    (hq : QsNonempty q) (h : afterQs o q = .error e) : e = .magnet ∨ e = .url := by
  unfold afterQs at h
  split at h
  · cases h; left; rfl
  · exact withXt_err hq h

theorem afterQs_doc {o : MagnetOracle} {q : List (String × List String)} (hq : QsNonempty q) :
    (∃ m, afterQs o q = .ok m) ∨ afterQs o q = .error .magnet ∨ afterQs o q = .error .url := by
  cases hw : afterQs o q with
  | ok m => exact .inl ⟨m, rfl⟩
  | error e =>
    rcases afterQs_err hq hw with rfl | rfl
    · exact .inr (.inl rfl)
    · exact .inr (.inr rfl)

/-- Every variant of `from_string` in the model (`fromString`: `parse_qs` an oracle; `fromStringQ`: `parse_qs` modelled,
    with its options; `fromStringA`: additional attribute reads, on the stripped string) unfolds to this shell around
    what is done with the query: `urlparse` inside its `try`, then the scheme test. -/
def shell (o : MagnetOracle) (uri : String) (k : String → Except Err Magnet) : Except Err Magnet :=
  match o.urlparse uri with
  | none => .error .magnet
  | some (scheme, query) => if scheme != "magnet" then .error .magnet else k query

section
variable {o : MagnetOracle} {uri : String} {k k' : String → Except Err Magnet}

theorem shell_dichotomy (o : MagnetOracle) (uri : String) :
    (∃ q, o.urlparse uri = some ("magnet", q) ∧ ∀ k, shell o uri k = k q) ∨ ∀ k, shell o uri k = .error .magnet := by
  unfold shell
  cases o.urlparse uri with
  | none => exact .inr fun _ => rfl
  | some sq =>
    obtain ⟨s, q⟩ := sq
    by_cases hs : s = "magnet"
    · subst hs; exact .inl ⟨q, rfl, fun _ => if_neg (by rw [bne_self_eq_false]; exact Bool.false_ne_true)⟩
    · exact .inr fun _ => if_pos (by simpa using hs)

theorem shell_magnet {q : String} (hu : o.urlparse uri = some ("magnet", q)) : shell o uri k = k q := by
  unfold shell
  rw [hu]
  exact if_neg (by rw [bne_self_eq_false]; exact Bool.false_ne_true)

theorem shell_congr (h : ∀ q, o.urlparse uri = some ("magnet", q) → k q = k' q) :
    shell o uri k = shell o uri k' := by
  rcases shell_dichotomy o uri with ⟨q, hu, hs⟩ | hs <;> rw [hs, hs]
  exact h q hu

theorem shell_doc (hk : ∀ q, o.urlparse uri = some ("magnet", q) →
      (∃ m, k q = .ok m) ∨ k q = .error .magnet ∨ k q = .error .url) :
    (∃ m, shell o uri k = .ok m) ∨ shell o uri k = .error .magnet ∨ shell o uri k = .error .url := by
  rcases shell_dichotomy o uri with ⟨q, hu, hs⟩ | hs <;> rw [hs]
  · exact hk q hu
  · exact .inr (.inl rfl)

end

end Torf.Untrusted
