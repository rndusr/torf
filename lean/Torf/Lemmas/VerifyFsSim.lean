/-
  C02 over the full alphabet of path states: the two-disk loop
  `step2 … dM dB` is the one-disk loop `step … dM` with the by-catch exceptions the stat-only
  probe (disk `dB`) does not confirm dropped; what this does to the reported exceptions.
-/
import Torf.Lemmas.VerifyFs
namespace Torf.VerifyFs
open Torf Torf.Missing Torf.Verify

variable {α : Type}

/-- keep the exception about the item's own file, and those a stat-only probe (disk `dB`) confirms -/
def keepExc (sizes : List Nat) (dB : List (Option (List α))) (file : Nat) (e : Nat × ErrKind) : Bool :=
  e.1 == file || (fileError sizes dB e.1).isSome

def dropSilent (sizes : List Nat) (dB : List (Option (List α))) (it : Item α) : Item α :=
  { it with excs := it.excs.filter (keepExc sizes dB it.file) }

/-- the by-catch disk never shows more damage than the main disk, and the same kind -/
def Weaker (sizes : List Nat) (dM dB : List (Option (List α))) : Prop :=
  ∀ k, fileError sizes dB k = fileError sizes dM k ∨ fileError sizes dB k = none

theorem dropSilent_data (sizes : List Nat) (dB : List (Option (List α))) (it : Item α) :
    (dropSilent sizes dB it).data = it.data := rfl

theorem dropSilent_dataItem (sizes : List Nat) (dB : List (Option (List α))) (p : List α) :
    dropSilent sizes dB (dataItem p) = dataItem p := rfl

theorem map_dropSilent_dataItem (sizes : List Nat) (dB : List (Option (List α)))
    (ps : List (List α)) :
    (ps.map dataItem).map (dropSilent sizes dB) = ps.map dataItem := by
  rw [List.map_map]
  exact List.map_congr_left fun p _ => dropSilent_dataItem sizes dB p

theorem bycatchExcs_weaker (sizes : List Nat) (dM dB : List (Option (List α)))
    (hw : Weaker sizes dM dB) (l : List Nat) :
    bycatchExcs sizes dB l =
      (bycatchExcs sizes dM l).filter fun e => (fileError sizes dB e.1).isSome := by
  unfold bycatchExcs
  rw [List.filter_filterMap]
  congr 1
  funext k
  -- file by file: `dB` shows what `dM` shows, or nothing
  cases hM : fileError sizes dM k <;> rcases hw k with h | h <;> simp [Option.filter, h, hM]

theorem bycatchExcs_filter (sizes : List Nat) (dM dB : List (Option (List α)))
    (hw : Weaker sizes dM dB) (j : Nat) (by_ : List Nat) (hj : j ∉ by_) :
    (bycatchExcs sizes dM by_).filter (keepExc sizes dB j) = bycatchExcs sizes dB by_ := by
  rw [bycatchExcs_weaker sizes dM dB hw]
  apply List.filter_congr
  intro e he
  obtain ⟨k, hk, hke⟩ := List.mem_filterMap.mp he
  obtain ⟨_, _, rfl⟩ := Option.map_eq_some_iff.mp hke
  have : (k == j) = false := by simpa using fun h : k = j => hj (h ▸ hk)
  simp only [keepExc, this, Bool.false_or]

theorem mkItems_dropSilent (sizes : List Nat) (dB : List (Option (List α))) (j : Nat)
    (reason : ErrKind) (count : Nat) (bM bB : List (Nat × ErrKind))
    (hb : bM.filter (keepExc sizes dB j) = bB) :
    (mkItems (α := α) j reason count bM).map (dropSilent sizes dB) = mkItems j reason count bB := by
  subst hb
  unfold mkItems
  have hself : keepExc sizes dB j (j, reason) = true := by simp [keepExc]
  by_cases h1 : count = 1
  · subst h1
    simp [dropSilent, hself]
  · by_cases h2 : count > 1 <;> simp [dropSilent, hself, h1, h2]

theorem missingCall_sim (L : Nat) (sizes : List Nat) (dM dB : List (Option (List α)))
    (hw : Weaker sizes dM dB) (seen by_ : List Nat) (j : Nat) (reason : ErrKind) :
    missingCall L sizes dB seen by_ j reason =
      (missingCall L sizes dM seen by_ j reason).map
        (fun r => { r with items := r.items.map (dropSilent sizes dB) }) := by
  rw [missingCall_eq_geom, missingCall_eq_geom]
  cases hg : missingGeom L sizes seen j with
  | none => rfl
  | some g =>
    simp only [Option.map_some]
    rw [mkItems_dropSilent sizes dB j reason _ _ _
      (bycatchExcs_filter sizes dM dB hw j _ (not_mem_bycatch L sizes seen j g hg))]

/-- the same state but for the dropped exceptions -/
def dropOut (sizes : List Nat) (dB : List (Option (List α))) (st : St α) : St α :=
  { st with out := st.out.map (dropSilent sizes dB) }

theorem step2_dropOut (L : Nat) (sizes : List Nat) (dM dB : List (Option (List α)))
    (hw : Weaker sizes dM dB) (st : St α) (j : Nat) :
    step2 L sizes dM dB (dropOut sizes dB st) j = dropOut sizes dB (step L sizes dM st j) := by
  unfold dropOut step step2
  simp only [missingCall_sim L sizes dM dB hw]
  by_cases hf : st.failed = true
  · simp only [hf, if_true]
  · by_cases hc : st.bycatch.contains j = true
    · simp only [hf, hc, Bool.false_eq_true, if_false, if_true]
    · simp only [hf, hc, Bool.false_eq_true, if_false]
      cases fileError sizes dM j with
      | none => simp only [List.map_append, map_dropSilent_dataItem]
      | some reason =>
        simp only
        cases missingCall L sizes dM st.seen st.bycatch j reason with
        | none => rfl
        | some r => simp only [Option.map_some, List.map_append]

theorem fold_step2_dropOut (L : Nat) (sizes : List Nat) (dM dB : List (Option (List α)))
    (hw : Weaker sizes dM dB) (js : List Nat) :
    js.foldl (step2 L sizes dM dB) {} = dropOut sizes dB (js.foldl (step L sizes dM) {}) :=
  List.foldl_hom (dropOut sizes dB) (init := {}) (step2_dropOut L sizes dM dB hw)

theorem itemsOf_dropOut (sizes : List Nat) (dB : List (Option (List α))) (st : St α) :
    itemsOf (dropOut sizes dB st) = (itemsOf st).map (List.map (dropSilent sizes dB)) := by
  unfold itemsOf dropOut
  split
  · rfl
  · split
    · rfl
    · simp [dropSilent_dataItem]

theorem reported_dropSilent_sublist (sizes : List Nat) (dB : List (Option (List α)))
    (items : List (Item α)) :
    (reported (items.map (dropSilent sizes dB))).Sublist (reported items) := by
  induction items with
  | nil => exact List.Sublist.refl _
  | cons it items ih =>
    rw [List.map_cons, reported_cons, reported_cons]
    exact List.Sublist.append List.filter_sublist ih

theorem badFiles_weaker (sizes : List Nat) (dM dB : List (Option (List α)))
    (hw : Weaker sizes dM dB) :
    badFiles sizes dB =
      (badFiles sizes dM).filter (fun e => (fileError sizes dB e.1).isSome) :=
  bycatchExcs_weaker sizes dM dB hw (List.range sizes.length)

theorem filter_isSome_sublist (sizes : List Nat) (dB : List (Option (List α))) (file : Nat)
    (l : List (Nat × ErrKind)) :
    (l.filter (fun e => (fileError sizes dB e.1).isSome)).Sublist
      (l.filter (keepExc sizes dB file)) := by
  -- what `dB` confirms is kept, so filtering the kept ones again gives the left side
  have : l.filter (fun e => (fileError sizes dB e.1).isSome) =
      (l.filter (keepExc sizes dB file)).filter fun e => (fileError sizes dB e.1).isSome := by
    rw [List.filter_filter]
    exact List.filter_congr fun e _ => by
      cases h : (fileError sizes dB e.1).isSome <;> simp [keepExc, h]
  rw [this]
  exact List.filter_sublist

theorem filter_reported_sublist (sizes : List Nat) (dB : List (Option (List α)))
    (items : List (Item α)) :
    ((reported items).filter (fun e => (fileError sizes dB e.1).isSome)).Sublist
      (reported (items.map (dropSilent sizes dB))) := by
  induction items with
  | nil => exact List.Sublist.refl _
  | cons it items ih =>
    rw [List.map_cons, reported_cons, reported_cons, List.filter_append]
    exact List.Sublist.append (filter_isSome_sublist sizes dB it.file it.excs) ih

theorem badFiles_sublist_reported (sizes : List Nat) (dM dB : List (Option (List α)))
    (hw : Weaker sizes dM dB) (items : List (Item α))
    (hrep : reported items = badFiles sizes dM) :
    (badFiles sizes dB).Sublist (reported (items.map (dropSilent sizes dB))) := by
  rw [badFiles_weaker sizes dM dB hw, ← hrep]
  exact filter_reported_sublist sizes dB items

end Torf.VerifyFs
