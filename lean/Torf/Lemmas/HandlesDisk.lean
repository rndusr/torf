/-
  Lemmas about `Torf.Model.HandlesDisk`.  `_get_open_file` only adds handles that are current
  (opened on the inode the path names now), so every property of tables that `_get_open_file`
  maintains is maintained by every operation (`run_keeps`: handles stay current, the table stays
  within `cap + 1`); disk changes that do not rename an open file keep every handle current; an
  object whose handles of the files it reads are current answers `specOut`.  The statements about
  `run` do not split the seven operations: an operation reads nothing, or is an iteration, or is
  `get_piece` followed by a function of its answer (`shape`).  The specification's iteration is
  the loop of Lemmas/VerifyFs on the description `Disk.states` of the copy (`specIterStep_eq_stepFs`).
-/
import Torf.Model.HandlesDisk
import Torf.Lemmas.Fold
import Torf.Lemmas.VerifyFsRun
namespace Torf.HandlesDisk
open Torf

theorem statSize_code (d : Disk α) (o : Obj) (j : Nat) : statSize false d o j = (d.size j, o) := rfl

theorem bycatchView_code [Inhabited α] (d : Disk α) (base n : Nat) (o : Obj) :
    bycatchView false d base n o = d.view base n := rfl

theorem statSize_tbl (m : Bool) (d : Disk α) (o : Obj) (j : Nat) : (statSize m d o j).2.tbl = o.tbl := by
  unfold statSize
  split
  · split
    · rfl
    · split <;> rfl
  · rfl

theorem inoOf_eq_find? (t : Table) (j : Nat) : inoOf t j = (t.find? (·.file = j)).map (·.ino) := by
  induction t with
  | nil => rfl
  | cons e t ih =>
    simp only [inoOf, List.find?_cons]
    split <;> simp [*]

theorem inoOf_some_mem {t : Table} {j i : Nat} (h : inoOf t j = some i) : (⟨j, i⟩ : Handle) ∈ t := by
  rw [inoOf_eq_find?, Option.map_eq_some_iff] at h
  obtain ⟨e, he, rfl⟩ := h
  obtain rfl : e.file = j := by simpa using List.find?_some he
  exact List.mem_of_find?_eq_some he

theorem inoOf_none_mem {t : Table} {j : Nat} (h : inoOf t j = none) : ∀ e ∈ t, e.file ≠ j := by
  rw [inoOf_eq_find?, Option.map_eq_none_iff, List.find?_eq_none] at h
  exact fun e he hj => h e he (decide_eq_true hj)

theorem evict_eq_drop (cap : Nat) (t : Table) : evict cap t = t.drop (t.length - cap) :=
  Torf.evict_eq_drop rfl (fun _ _ => rfl) t

theorem length_evict_le (cap : Nat) (t : Table) : (evict cap t).length ≤ cap := by
  rw [evict_eq_drop, List.length_drop]; omega

theorem length_evict_le_self (cap : Nat) (t : Table) : (evict cap t).length ≤ t.length := by
  rw [evict_eq_drop, List.length_drop]; omega

/-- every handle of a file in `P` is current -/
def OkOn (P : Nat → Prop) (d : Disk α) (t : Table) : Prop :=
  ∀ h ∈ t, P h.file → h.current d = true

theorem OkOn.mono {P Q : Nat → Prop} {d : Disk α} {t : Table} (h : OkOn P d t) (hq : ∀ j, Q j → P j) :
    OkOn Q d t := fun e he hQ => h e he (hq _ hQ)

theorem noStale_iff (d : Disk α) (t : Table) : noStale d t = true ↔ OkOn (fun _ => True) d t := by
  simp [noStale, OkOn, List.all_eq_true]

theorem cleanFor_iff (c : Cfg α δ) (d : Disk α) (arg : Option Nat) (op : Handles.Op) (t : Table) :
    cleanFor c d arg op t = true ↔ OkOn (· ∈ touched c arg op) d t := by
  simp only [cleanFor, OkOn, List.all_eq_true, Bool.or_eq_true, Bool.not_eq_true',
    List.contains_eq_mem, decide_eq_false_iff_not]
  exact forall₂_congr fun e _ => Decidable.imp_iff_not_or.symm

theorem current_iff_openPath {d : Disk α} {j i : Nat} :
    Handle.current d ⟨j, i⟩ = true ↔ openPath d j = .ok i := by
  simp only [Handle.current, beq_iff_eq, openPath]
  split <;> simp_all

theorem mem_getOpenFile {cap : Nat} {d : Disk α} {t : Table} {j : Nat} {e : Handle}
    (he : e ∈ (getOpenFile cap d t j).2) : e ∈ t ∨ e.current d = true := by
  unfold getOpenFile at he
  rw [evict_eq_drop] at he
  cases hi : inoOf t j with
  | some i => rw [hi] at he; exact Or.inl he
  | none =>
    rw [hi] at he
    cases ho : openPath d j with
    | error x => rw [ho] at he; exact Or.inl (List.mem_of_mem_drop he)
    | ok i =>
      rw [ho] at he
      rcases List.mem_append.1 he with he | he
      · exact Or.inl (List.mem_of_mem_drop he)
      · rw [List.mem_singleton.1 he]; exact Or.inr (current_iff_openPath.2 ho)

theorem getOpenFile_keeps_okOn {P : Nat → Prop} {d : Disk α} {t : Table} (cap j : Nat)
    (h : OkOn P d t) : OkOn P d (getOpenFile cap d t j).2 :=
  fun e he hp => (mem_getOpenFile he).elim (fun he => h e he hp) id

theorem getOpenFile_okOn {P : Nat → Prop} {d : Disk α} {t : Table} (cap j : Nat) (h : OkOn P d t) :
    OkOn (fun k => P k ∧ k ≠ j) d (getOpenFile cap d t j).2 :=
  (getOpenFile_keeps_okOn cap j h).mono fun _ hk => hk.1

theorem getOpenFile_fst {P : Nat → Prop} {d : Disk α} {t : Table} (cap j : Nat) (h : OkOn P d t)
    (hj : P j) : (getOpenFile cap d t j).1 = openPath d j := by
  unfold getOpenFile
  cases hi : inoOf t j with
  | some i => exact (current_iff_openPath.1 (h _ (inoOf_some_mem hi) hj)).symm
  | none => cases openPath d j <;> rfl

theorem length_getOpenFile_le (cap : Nat) (d : Disk α) (t : Table) (j : Nat) (h : t.length ≤ cap + 1) :
    (getOpenFile cap d t j).2.length ≤ cap + 1 := by
  unfold getOpenFile
  cases inoOf t j with
  | some i => exact h
  | none =>
    have := length_evict_le cap t
    cases openPath d j with
    | error e => exact Nat.le_succ_of_le this
    | ok i => rw [List.length_append]; exact Nat.succ_le_succ this

/-! ### what `_get_open_file` maintains, every operation maintains

`I` is any property of tables with `I t → I (getOpenFile cap d t j).2`: "the handles of the files
in `P` are current" (`getOpenFile_keeps_okOn`), "at most `cap + 1` handles" (`length_getOpenFile_le`).
Faults and the size memo do not matter: neither touches the table. -/

section Keeps
variable {c : Cfg α δ} {d : Disk α} {I : Table → Prop}
  (hI : ∀ t j, I t → I (getOpenFile c.cap d t j).2)
include hI

theorem iterStep_keeps [Inhabited α] (base : Nat) (fault : Option Fault) (k : Option Nat) (s : ISt α)
    (j : Nat) (h : I s.obj.tbl) : I (iterStep c d base fault k s j).obj.tbl := by
  have h1 : I (statSize c.memo d s.obj (base + j)).2.tbl := by rw [statSize_tbl]; exact h
  have h2 := hI _ (base + j) h1
  unfold iterStep
  split
  · exact h
  · simp only
    split
    · exact h1
    · split
      · split <;> exact h2
      · exact h2

theorem iterRun_keeps [Inhabited α] (base : Nat) (fault : Option Fault) (k : Option Nat) (o : Obj)
    (h : I o.tbl) : I (iterRun c d base fault k o).2.tbl :=
  List.foldlRecOn (motive := fun s : ISt α => I s.obj.tbl) _ _ h
    fun s hs j _ => iterStep_keeps hI base fault k s j hs

theorem getPieceLoop_keeps (base : Nat) (fault : Option Fault) (rel : List Nat) (seekTo n : Nat)
    (piece : List α) (o : Obj) (h : I o.tbl) :
    I (getPieceLoop c d base fault rel seekTo n piece o).2.tbl := by
  induction rel generalizing seekTo n piece o with
  | nil => exact h
  | cons j js ih =>
    have h1 := hI _ (base + j) h
    unfold getPieceLoop
    simp only
    split
    · exact h1
    · have h2 : I (statSize c.memo d { o with tbl := (getOpenFile c.cap d o.tbl (base + j)).2 }
          (base + j)).2.tbl := by rw [statSize_tbl]; exact h1
      split
      · exact h2
      · split
        · exact h2
        · exact ih _ _ _ _ h2

theorem getPiece_keeps (base : Nat) (fault : Option Fault) (i : Int) (o : Obj) (h : I o.tbl) :
    I (getPiece c d base fault i o).2.tbl := by
  unfold getPiece
  simp only
  split
  · exact h
  · split
    · exact h
    · have := getPieceLoop_keeps hI base fault ‹_› ‹_› c.L [] o h
      split
      · exact this
      · split <;> exact this

end Keeps

/-! ### what an operation is made of

Every operation reads nothing at all (it refuses its argument, or closes the object), or is
`iter_pieces` consumed up to `k` items, or is `get_piece(i)` followed by a function of its answer
that passes errors on.  `run`, `specOut` and `touched` are read through this statement from here on. -/

inductive Shape [BEq δ] [Inhabited α] (c : Cfg α δ) (arg : Option Nat) (op : Handles.Op) : Prop
  /-- `verify_piece` with an index outside the stored hashes -/
  | refuse
      (hrun : ∀ d fault o, run c d arg fault op o = ⟨.err .value, o⟩)
      (hspec : ∀ d, specOut c d arg op = .err .value)
  /-- `close`, `__exit__` -/
  | close
      (hrun : ∀ d fault o, run c d arg fault op o = ⟨.none, {}⟩)
      (hspec : ∀ d, specOut c d arg op = .none)
  | iter (k : Option Nat)
      (hrun : ∀ d fault o, run c d arg fault op o =
        ⟨(iterRun c d (c.base arg) fault k o).1, (iterRun c d (c.base arg) fault k o).2⟩)
      (hspec : ∀ d, specOut c d arg op =
        iterOut k ((List.range c.sizes.length).foldl (specIterStep c d (c.base arg) k) {}))
      (hpaths : touched c arg op = (List.range c.sizes.length).map (c.base arg + ·))
  | piece (i : Int) (post : Except Err (List α) → Out α δ)
      (hrun : ∀ d fault o, run c d arg fault op o =
        ⟨post (getPiece c d (c.base arg) fault i o).1, (getPiece c d (c.base arg) fault i o).2⟩)
      (hspec : ∀ d, specOut c d arg op = post (specGetPiece c d (c.base arg) i))
      (hpaths : touched c arg op = touched c arg (.getPiece i))
      (hfault : post (.error .readOther) = .err .readOther)
      (herr : ∀ x e, post x = .err e → x = .error e)

theorem shape [BEq δ] [Inhabited α] (c : Cfg α δ) (arg : Option Nat) (op : Handles.Op) :
    Shape c arg op := by
  cases op with
  | iterFull => exact .iter none (fun _ _ _ => rfl) (fun _ => rfl) rfl
  | iterAbandon k => exact .iter (some k) (fun _ _ _ => rfl) (fun _ => rfl) rfl
  | getPiece i =>
    refine .piece i (fun | .ok p => .piece p | .error e => .err e) (fun d fault o => ?_)
      (fun d => ?_) rfl rfl fun x e h => ?_
    · simp only [run]
      rcases getPiece c d (c.base arg) fault i o with ⟨x | x, u⟩ <;> rfl
    · simp only [specOut]
      cases specGetPiece c d (c.base arg) i <;> rfl
    · cases x <;> cases h
      rfl
  | getPieceHash i =>
    refine .piece i (hashOut c) (fun _ _ _ => rfl) (fun _ => rfl) rfl rfl fun x e h => ?_
    rcases x with e' | p
    · cases e' <;> cases h <;> rfl
    · cases h
  | verifyPiece i =>
    cases hst : Handles.pyIndex c.stored i with
    | none =>
      exact .refuse (fun _ _ _ => by simp only [run, hst]) (fun _ => by simp only [specOut, hst])
    | some st =>
      refine .piece i (fun | .ok p => .bool (st == c.H p) | .error .readNoent => .none | .error e => .err e)
        (fun d fault o => ?_) (fun d => ?_) rfl rfl fun x e h => ?_
      · simp only [run, hst]
        rcases getPiece c d (c.base arg) fault i o with ⟨x | x, u⟩
        · cases x <;> rfl
        · rfl
      · simp only [specOut, hst]
        rcases specGetPiece c d (c.base arg) i with x | x
        · cases x <;> rfl
        · rfl
      · cases x with
        | error e' => cases e' <;> cases h <;> rfl
        | ok p => cases h
  | close => exact .close (fun _ _ _ => rfl) (fun _ => rfl)
  | ctxExit => exact .close (fun _ _ _ => rfl) (fun _ => rfl)

theorem run_keeps [BEq δ] [Inhabited α] {c : Cfg α δ} {d : Disk α} {I : Table → Prop}
    (hI : ∀ t j, I t → I (getOpenFile c.cap d t j).2) (h0 : I []) (arg : Option Nat)
    (fault : Option Fault) (op : Handles.Op) (o : Obj) (h : I o.tbl) :
    I (run c d arg fault op o).obj.tbl := by
  cases shape c arg op with
  | refuse hrun => rw [hrun]; exact h
  | close hrun => rw [hrun]; exact h0
  | iter k hrun => rw [hrun]; exact iterRun_keeps hI _ fault k o h
  | piece i post hrun => rw [hrun]; exact getPiece_keeps hI _ fault i o h

theorem run_bound [BEq δ] [Inhabited α] (c : Cfg α δ) (d : Disk α) (arg : Option Nat)
    (fault : Option Fault) (op : Handles.Op) (o : Obj) (h : o.tbl.length ≤ c.cap + 1) :
    (run c d arg fault op o).obj.tbl.length ≤ c.cap + 1 :=
  run_keeps (I := fun t => t.length ≤ c.cap + 1) (length_getOpenFile_le c.cap d) (Nat.zero_le _)
    arg fault op o h

/-! ### disk changes that do not rename an open file keep every handle current -/

theorem setIno_entry (d : Disk α) (j : Nat) (f : List α → List α) (k : Nat) :
    (d.setIno j f).entry k = d.entry k := by
  unfold Disk.setIno
  split <;> rfl

theorem entry_set_ne (d : Disk α) (inodes : List (List α)) (j k : Nat) (e : Entry) (h : k ≠ j) :
    ({ inodes := inodes, dir := d.dir.set j e } : Disk α).entry k = d.entry k := by
  simp only [Disk.entry, List.getD_eq_getElem?_getD]
  rw [List.getElem?_set_ne (Ne.symm h)]

theorem apply_entry (d : Disk α) (x : DiskOp α) (k : Nat) (h : x.inPlace = false → k ≠ x.target) :
    (d.apply x).entry k = d.entry k := by
  cases x with
  | truncate j n => exact setIno_entry ..
  | extend j b => exact setIno_entry ..
  | rewrite j b => exact setIno_entry ..
  | replace j b =>
    simp only [Disk.apply]
    split
    · exact entry_set_ne d _ j k _ (h rfl)
    · rfl
  | unlink j => exact entry_set_ne d _ j k _ (h rfl)
  | mkdir j sz => exact entry_set_ne d _ j k _ (h rfl)

theorem apply_okOn (d : Disk α) (x : DiskOp α) (t : Table) (P : Nat → Prop) (h : OkOn P d t)
    (hx : x.hitsOpen t = false) : OkOn P (d.apply x) t := by
  intro e he hp
  have hc := h e he hp
  simp only [Handle.current] at hc ⊢
  rwa [apply_entry]
  intro hi
  simp only [DiskOp.hitsOpen, hi, Bool.not_false, Bool.true_and, Option.isSome_eq_false_iff,
    Option.isNone_iff_eq_none] at hx
  exact inoOf_none_mem hx e he

/-- histories that change files only in place never hit an open file -/
def inPlaceOnly : List (Step α δ) → Bool
  | [] => true
  | .disk x :: ss => x.inPlace && inPlaceOnly ss
  | _ :: ss => inPlaceOnly ss

theorem noHit_of_inPlaceOnly [BEq δ] [Inhabited α] (c : Cfg α δ) (d : Disk α) (ss : List (Step α δ))
    (o : Obj) (h : inPlaceOnly ss = true) : noHit c d ss o = true := by
  fun_induction noHit c d ss o with
  | case1 => rfl
  | case2 c d a f x ss o ih => exact ih h
  | case3 c d x ss o ih =>
    simp only [inPlaceOnly, Bool.and_eq_true] at h
    simp only [DiskOp.hitsOpen, h.1, Bool.not_true, Bool.false_and, Bool.not_false, Bool.true_and]
    exact ih h.2
  | case4 c d hs ss o ih => exact ih h

/-! ### current handles: the answers of the specification -/

theorem iterStep_spec [Inhabited α] (c : Cfg α δ) (hm : c.memo = false) (d : Disk α) (base : Nat)
    (k : Option Nat) (s : ISt α) (j : Nat) (P : Nat → Prop) (hj : P (base + j))
    (h : OkOn P d s.obj.tbl) (hio : s.io = none) :
    (iterStep c d base none k s j).st = specIterStep c d base k s.st j ∧
      (iterStep c d base none k s j).io = none := by
  unfold iterStep specIterStep
  simp only [hm, statSize_code, bycatchView_code, hio, Option.isSome_none, Bool.or_false, faultAt]
  split
  · exact ⟨rfl, hio⟩
  · split
    · exact ⟨rfl, rfl⟩
    · rw [getOpenFile_fst c.cap (base + j) h hj]
      cases openPath d (base + j) <;> exact ⟨rfl, rfl⟩

theorem iterRun_spec [Inhabited α] (c : Cfg α δ) (hm : c.memo = false) (d : Disk α) (base : Nat)
    (k : Option Nat) (o : Obj)
    (h : OkOn (· ∈ (List.range c.sizes.length).map (base + ·)) d o.tbl) :
    (iterRun c d base none k o).1 =
      (iterOut k ((List.range c.sizes.length).foldl (specIterStep c d base k) {}) : Out α δ) := by
  have := List.foldl_rel (f := iterStep c d base none k) (g := specIterStep c d base k)
    (r := fun s st => s.st = st ∧ s.io = none ∧ OkOn (· ∈ (List.range c.sizes.length).map (base + ·)) d s.obj.tbl)
    (l := List.range c.sizes.length) (a := { obj := o }) (b := {}) ⟨rfl, rfl, h⟩ fun j hj s st hs => by
      have h1 := iterStep_spec c hm d base k s j _ (List.mem_map_of_mem hj) hs.2.2 hs.2.1
      exact ⟨hs.1 ▸ h1.1, h1.2,
        iterStep_keeps (fun _ j => getOpenFile_keeps_okOn c.cap j) base none k s j hs.2.2⟩
  simp only [iterRun, this.1, this.2.1]

theorem getPieceLoop_spec (c : Cfg α δ) (hm : c.memo = false) (d : Disk α) (base : Nat) (rel : List Nat)
    (seekTo n : Nat) (piece : List α) (o : Obj) (P : Nat → Prop) (hP : ∀ j ∈ rel, P (base + j))
    (h : OkOn P d o.tbl) :
    (getPieceLoop c d base none rel seekTo n piece o).1 = specGetPieceLoop c d base rel seekTo n piece := by
  induction rel generalizing seekTo n piece o with
  | nil => rfl
  | cons j js ih =>
    unfold getPieceLoop specGetPieceLoop
    simp only [hm, statSize_code]
    rw [getOpenFile_fst c.cap (base + j) h (hP j (List.mem_cons_self ..))]
    cases openPath d (base + j) with
    | error e => rfl
    | ok i =>
      simp only
      split
      · rfl
      · simp only [faultAt, Option.isSome_none, Bool.false_eq_true, ↓reduceIte]
        exact ih _ _ _ _ (fun j hj => hP j (List.mem_cons_of_mem _ hj))
          (getOpenFile_keeps_okOn c.cap (base + j) h)

theorem getPiece_spec (c : Cfg α δ) (hm : c.memo = false) (d : Disk α) (arg : Option Nat) (i : Int)
    (o : Obj) (h : OkOn (· ∈ touched c arg (.getPiece i)) d o.tbl) :
    (getPiece c d (c.base arg) none i o).1 = specGetPiece c d (c.base arg) i := by
  unfold getPiece specGetPiece
  simp only
  split
  · rfl
  · cases hg : c.geom i.toNat with
    | error e => rfl
    | ok r =>
      simp only
      -- the files the geometry helpers name are the paths the operation touches
      rw [getPieceLoop_spec c hm d _ r.1 r.2 c.L [] o _
        (fun j hj => by simp only [touched, hg]; exact List.mem_map_of_mem hj) h]
      cases specGetPieceLoop c d (c.base arg) r.1 r.2 c.L [] with
      | error e => rfl
      | ok p => simp only; split <;> rfl

theorem run_okOn [BEq δ] [Inhabited α] (c : Cfg α δ) (hm : c.memo = false) (d : Disk α)
    (arg : Option Nat) (op : Handles.Op) (o : Obj) (h : OkOn (· ∈ touched c arg op) d o.tbl) :
    (run c d arg none op o).out = specOut c d arg op := by
  cases shape c arg op with
  | refuse hrun hspec | close hrun hspec => rw [hrun, hspec]
  | iter k hrun hspec hpaths => rw [hrun, hspec]; exact iterRun_spec c hm d _ k o (hpaths ▸ h)
  | piece i post hrun hspec hpaths =>
    rw [hrun, hspec]; exact congrArg post (getPiece_spec c hm d arg i o (hpaths ▸ h))

theorem run_clean [BEq δ] [Inhabited α] (c : Cfg α δ) (hm : c.memo = false) (d : Disk α)
    (arg : Option Nat) (op : Handles.Op) (o : Obj) (h : cleanFor c d arg op o.tbl = true) :
    (run c d arg none op o).out = specOut c d arg op :=
  run_okOn c hm d arg op o ((cleanFor_iff c d arg op o.tbl).1 h)

theorem run_noStale [BEq δ] [Inhabited α] (c : Cfg α δ) (hm : c.memo = false) (d : Disk α)
    (arg : Option Nat) (op : Handles.Op) (o : Obj) (h : noStale d o.tbl = true) :
    (run c d arg none op o).out = specOut c d arg op :=
  run_okOn c hm d arg op o (((noStale_iff d o.tbl).1 h).mono fun _ _ => trivial)

/-! ### undocumented errors need a stale handle -/

/-- the documented outcomes: ValueError, VerifyFileSizeError, ReadError -/
def Err.documented : Err → Bool
  | .value | .size | .readNoent | .readOther => true
  | .assertion | .internal => false

/-- the number of bytes the loop of `get_piece` collects when every relevant file has its recorded
    size (a function of the torrent only) -/
def readLen (sizes : List Nat) : List Nat → Nat → Nat → Nat
  | [], _, _ => 0
  | j :: js, seekTo, n =>
    let k := min n (Missing.sizeOf sizes j - seekTo)
    k + readLen sizes js 0 (n - k)

/-- the geometry helpers name files and a first offset that yield exactly the expected piece
    length, and raise documented errors only.  A hypothesis on the parameter `c.geom`: the code's
    geometry helpers are the subject of property C11 (`C11_get_piece_spec`), whose model is not
    linked to `c.geom` by any theorem. -/
def GeomConsistent (c : Cfg α δ) : Prop :=
  ∀ n, match c.geom n with
    | .ok (rel, seekTo) => readLen c.sizes rel seekTo c.L = Handles.expLen c.L c.total n
    | .error e => e.documented = true

theorem size_of_openPath {d : Disk α} {j i : Nat} (h : openPath d j = .ok i) :
    d.size j = some (d.bytes i).length := by
  simp only [openPath] at h
  simp only [Disk.size]
  split at h <;> simp_all

/-- the loop's share of `GeomConsistent`; its errors are ReadError from `open` and VerifyFileSizeError -/
theorem specGetPieceLoop_ans (c : Cfg α δ) (d : Disk α) (base : Nat) (rel : List Nat) (seekTo n : Nat)
    (piece : List α) :
    (∀ p, specGetPieceLoop c d base rel seekTo n piece = .ok p →
        p.length = piece.length + readLen c.sizes rel seekTo n) ∧
      ∀ e, specGetPieceLoop c d base rel seekTo n piece = .error e → e.documented = true := by
  induction rel generalizing seekTo n piece with
  | nil => exact ⟨fun p h => by cases h; rfl, fun e h => nomatch h⟩
  | cons j js ih =>
    unfold specGetPieceLoop
    cases ho : openPath d (base + j) with
    | error e' =>
      refine ⟨fun p h => (nomatch h), fun e h => ?_⟩
      cases h
      simp only [openPath] at ho
      split at ho <;> cases ho <;> rfl
    | ok i =>
      simp only [size_of_openPath ho, Option.isSome_some, Bool.true_and]
      split
      · exact ⟨fun p h => (nomatch h), fun e h => by cases h; rfl⟩
      · rename_i hne
        -- the file has its recorded size, so the read is as long as the torrent says
        have hlen : (d.bytes i).length = Missing.sizeOf c.sizes j := by simpa using hne
        refine ⟨fun p h => ?_, (ih _ _ _).2⟩
        rw [(ih _ _ _).1 p h, readLen, List.length_append, List.length_take, List.length_drop, hlen,
          Nat.add_assoc]

theorem specGetPiece_documented (c : Cfg α δ) (hg : GeomConsistent c) (d : Disk α) (base : Nat)
    (i : Int) (e : Err) (h : specGetPiece c d base i = .error e) : e.documented = true := by
  unfold specGetPiece at h
  simp only at h
  split at h
  · cases h; rfl
  · have hgi := hg i.toNat
    cases hgeom : c.geom i.toNat with
    | error e' =>
      simp only [hgeom] at h hgi
      cases h
      exact hgi
    | ok r =>
      simp only [hgeom] at h hgi
      cases hl : specGetPieceLoop c d base r.1 r.2 c.L [] with
      | error e' =>
        simp only [hl] at h
        cases h
        exact (specGetPieceLoop_ans c d base _ _ _ _).2 _ hl
      | ok p =>
        simp only [hl] at h
        split at h
        · -- the assertion cannot fail: the loop collected what the geometry promises
          rename_i hne
          have := (specGetPieceLoop_ans c d base r.1 r.2 c.L []).1 p hl
          simp only [List.length_nil, Nat.zero_add] at this
          exact absurd (this.trans hgi) hne
        · cases h

/-- the specification never answers with an undocumented error, except `internal` from the loop of
    `iter_pieces` (excluded by `C10_no_internal_error` under C10's hypothesis) -/
theorem specOut_documented [BEq δ] [Inhabited α] (c : Cfg α δ) (hg : GeomConsistent c) (d : Disk α)
    (arg : Option Nat) (op : Handles.Op) (e : Err) (h : specOut c d arg op = .err e) :
    e.documented = true ∨ e = .internal := by
  cases shape c arg op with
  | refuse _ hspec => cases (hspec d).symm.trans h; exact Or.inl rfl
  | close _ hspec => cases (hspec d).symm.trans h
  | iter k _ hspec =>
    rw [hspec, iterOut] at h
    split at h <;> cases h
    exact Or.inr rfl
  | piece i post _ hspec _ _ herr =>
    exact Or.inl (specGetPiece_documented c hg d _ i e (herr _ e (hspec d ▸ h)))

/-! ### a fault surfaces as ReadError, or the operation does not get to it -/

theorem getPieceLoop_fault (c : Cfg α δ) (d : Disk α) (base : Nat) (f : Fault) (rel : List Nat)
    (seekTo n : Nat) (piece : List α) (o : Obj) :
    (getPieceLoop c d base (some f) rel seekTo n piece o).1 = .error .readOther ∨
      getPieceLoop c d base (some f) rel seekTo n piece o = getPieceLoop c d base none rel seekTo n piece o := by
  induction rel generalizing seekTo n piece o with
  | nil => exact Or.inr rfl
  | cons j js ih =>
    unfold getPieceLoop
    simp only
    split
    · exact Or.inr rfl
    · split
      · exact Or.inr rfl
      · cases hf : (faultAt (some f) j).isSome
        · exact ih _ _ _ _
        · exact Or.inl rfl

theorem getPiece_fault (c : Cfg α δ) (d : Disk α) (base : Nat) (f : Fault) (i : Int) (o : Obj) :
    (getPiece c d base (some f) i o).1 = .error .readOther ∨
      getPiece c d base (some f) i o = getPiece c d base none i o := by
  unfold getPiece
  simp only
  split
  · exact Or.inr rfl
  · split
    · exact Or.inr rfl
    · rename_i rel seekTo _
      rcases getPieceLoop_fault c d base f rel seekTo c.L [] o with h | h
      · left; simp only [h]
      · right; rw [h]

theorem iterStep_dead [Inhabited α] (c : Cfg α δ) (d : Disk α) (base : Nat) (fault : Option Fault)
    (k : Option Nat) (s : ISt α) (j : Nat) (h : s.io.isSome = true) : iterStep c d base fault k s j = s := by
  unfold iterStep
  simp [h]

theorem iterStep_fault [Inhabited α] (c : Cfg α δ) (d : Disk α) (base : Nat) (f : Fault) (k : Option Nat)
    (s : ISt α) (j : Nat) :
    (iterStep c d base (some f) k s j).io = some .readOther ∨
      iterStep c d base (some f) k s j = iterStep c d base none k s j := by
  unfold iterStep
  split
  · exact Or.inr rfl
  · simp only
    split
    · exact Or.inr rfl
    · split
      · cases hfa : faultAt (some f) j with
        | some b => exact Or.inl rfl
        | none => exact Or.inr rfl
      · exact Or.inr rfl

theorem foldl_iterStep_fault [Inhabited α] (c : Cfg α δ) (d : Disk α) (base : Nat) (f : Fault)
    (k : Option Nat) (js : List Nat) (s : ISt α) :
    (js.foldl (iterStep c d base (some f) k) s).io = some .readOther ∨
      js.foldl (iterStep c d base (some f) k) s = js.foldl (iterStep c d base none k) s :=
  -- the two runs go together until the fault hits; from then on the faulted one stands still
  List.foldl_rel (r := fun s s' : ISt α => s.io = some .readOther ∨ s = s') (Or.inr rfl) fun j _ s s' h => by
    rcases h with h | rfl
    · rw [iterStep_dead c d base (some f) k s j (by rw [h]; rfl)]
      exact Or.inl h
    · exact iterStep_fault c d base f k s j

theorem run_fault [BEq δ] [Inhabited α] (c : Cfg α δ) (d : Disk α) (arg : Option Nat) (f : Fault)
    (op : Handles.Op) (o : Obj) :
    (run c d arg (some f) op o).out = .err .readOther ∨
      ((run c d arg (some f) op o).out = (run c d arg none op o).out ∧
       (run c d arg (some f) op o).obj = (run c d arg none op o).obj) := by
  cases shape c arg op with
  | refuse hrun | close hrun => rw [hrun, hrun]; exact Or.inr ⟨rfl, rfl⟩
  | iter k hrun =>
    rw [hrun, hrun]
    rcases foldl_iterStep_fault c d (c.base arg) f k (List.range c.sizes.length) { obj := o } with h | h
    · left; simp only [iterRun, h]
    · right; simp only [iterRun, h, and_self]
  | piece i post hrun _ _ hfault =>
    rw [hrun, hrun]
    rcases getPiece_fault c d (c.base arg) f i o with h | h
    · left; rw [h]; exact hfault
    · right; rw [h]; exact ⟨rfl, rfl⟩

/-! ### sequential iteration = property C02's loop over path states on the description of the disk as it is now -/

theorem view_getD [Inhabited α] (d : Disk α) (base n j : Nat) (hj : j < n) :
    (d.view base n).getD j none =
      match d.entry (base + j) with
      | .absent => none
      | .file i => some (d.bytes i)
      | .dir s => some (List.replicate s default) := by
  rw [Disk.view, List.getD_eq_getElem?_getD, List.getElem?_map, List.getElem?_range hj]
  rfl

theorem view_getD_ge [Inhabited α] (d : Disk α) (base n j : Nat) (hj : ¬ j < n) :
    (d.view base n).getD j none = none := by
  have h2 : (d.view base n)[j]? = none := List.getElem?_eq_none (by simp [Disk.view]; omega)
  rw [List.getD_eq_getElem?_getD, h2]
  rfl

/-- the copy of the content at `base` as a description over C02's alphabet of path states
    (`VerifyFs.FState`): a directory can be stat'ed (its `st_size`) and not opened (EISDIR) -/
def Disk.states (d : Disk α) (base n : Nat) : List (VerifyFs.FState α) :=
  (List.range n).map fun j =>
    match d.entry (base + j) with
    | .absent => .gone VerifyFs.ENOENT
    | .file i => .file (d.bytes i)
    | .dir s => .noOpen s 21

theorem statDisk_states [Inhabited α] (d : Disk α) (base n : Nat) :
    VerifyFs.statDisk (d.states base n) = d.view base n := by
  unfold VerifyFs.statDisk Disk.states Disk.view
  rw [List.map_map]
  exact List.map_congr_left fun j _ => by
    simp only [Function.comp]
    cases d.entry (base + j) <;> rfl

theorem stateAt_states (d : Disk α) (base n j : Nat) (hj : j < n) :
    VerifyFs.stateAt (d.states base n) j =
      match d.entry (base + j) with
      | .absent => .gone VerifyFs.ENOENT
      | .file i => .file (d.bytes i)
      | .dir s => .noOpen s 21 := by
  rw [VerifyFs.stateAt, Disk.states, List.getD_eq_getElem?_getD, List.getElem?_map,
    List.getElem?_range hj]
  rfl

/-- no `read` fails in the description of a `Disk`: `fault` stays `none` -/
theorem specIterStep_eq_stepFs [Inhabited α] (c : Cfg α δ) (d : Disk α) (base : Nat)
    (st : Missing.St α) (j : Nat) (hj : j < c.sizes.length) :
    VerifyFs.stepFs c.L c.sizes (d.states base c.sizes.length) { st := st, fault := none } j =
      { st := specIterStep c d base none st j, fault := none } := by
  obtain ⟨tr, sk, seen, byc, out, failed⟩ := st
  unfold specIterStep VerifyFs.stepFs badFile
  simp only [live, Bool.not_true, Bool.false_or, Option.isSome_none, Bool.false_eq_true, if_false,
    stateAt_states d base _ j hj, statDisk_states]
  cases failed
  · cases hb : byc.contains j
    · simp only [Bool.or_self, Bool.false_eq_true, if_false]
      -- `stat`, then `open`, as `mainProbe` has them
      rcases he : d.entry (base + j) with _ | i | s
      · simp only [VerifyFs.mainProbe, VerifyFs.statSize, VerifyFs.getOpenFile, VerifyFs.osOpen,
          VerifyFs.openCaught, Disk.size, openPath, he, if_true]
        cases Missing.missingCall c.L c.sizes (d.view base c.sizes.length) seen byc j .read <;> rfl
      · by_cases hs : (d.bytes i).length = Missing.sizeOf c.sizes j
        · simp [VerifyFs.mainProbe, VerifyFs.statSize, VerifyFs.getOpenFile, VerifyFs.osOpen,
            VerifyFs.faultAt, VerifyFs.contentOf, Disk.size, openPath, he, hs, goodFile]
        · simp [VerifyFs.mainProbe, VerifyFs.statSize, Disk.size, he, hs]
          cases Missing.missingCall c.L c.sizes (d.view base c.sizes.length) seen byc j .size <;> rfl
      · by_cases hs : s = Missing.sizeOf c.sizes j
        · simp [VerifyFs.mainProbe, VerifyFs.statSize, VerifyFs.getOpenFile, VerifyFs.osOpen,
            VerifyFs.openCaught, Disk.size, openPath, he, hs]
          cases Missing.missingCall c.L c.sizes (d.view base c.sizes.length) seen byc j .read <;> rfl
        · simp [VerifyFs.mainProbe, VerifyFs.statSize, Disk.size, he, hs]
          cases Missing.missingCall c.L c.sizes (d.view base c.sizes.length) seen byc j .size <;> rfl
    · simp
  · simp

theorem fold_specIterStep [Inhabited α] (c : Cfg α δ) (d : Disk α) (base : Nat) :
    (List.range c.sizes.length).foldl
        (VerifyFs.stepFs c.L c.sizes (d.states base c.sizes.length)) {} =
      { st := (List.range c.sizes.length).foldl (specIterStep c d base none) {}, fault := none } :=
  List.foldl_rel (r := fun (a : VerifyFs.StFs α) b => a = { st := b, fault := none }) rfl
    fun j hj _ b h => h ▸ specIterStep_eq_stepFs c d base b j (List.mem_range.1 hj)

/-- The specification of a complete sequential iteration, for every disk: `iter_pieces` of property C02 over the
    full alphabet of path states (`VerifyFs.iterItemsFs`) on the description of the copy that the effective content
    path names.  So the theorems of C02Fs about the items — the first damaged file, which exceptions a stat-only
    by-catch probe drops — speak about it with no hypothesis on the disk. -/
theorem specOut_iterFull [BEq δ] [Inhabited α] (c : Cfg α δ) (d : Disk α) (arg : Option Nat) :
    specOut c d arg .iterFull =
      match VerifyFs.iterItemsFs c.L c.sizes (d.states (c.base arg) c.sizes.length) with
      | none => .err .internal
      | some run => .items run.items := by
  simp only [specOut, iterOut, VerifyFs.iterItemsFs_eq, fold_specIterStep, VerifyFs.runOf_nofault,
    Verify.itemsOf]
  split
  · rfl
  · split <;> rfl

theorem noReadErr_states (d : Disk α) (base n : Nat) : VerifyFs.NoReadErr (d.states base n) = true := by
  unfold VerifyFs.NoReadErr Disk.states
  rw [List.all_eq_true]
  intro s hs
  obtain ⟨j, _, rfl⟩ := List.mem_map.mp hs
  cases d.entry (base + j) <;> rfl

/-- no directory happens to have the recorded size of the file whose place it has taken -/
def NoDirClash (c : Cfg α δ) (d : Disk α) (base : Nat) : Prop :=
  ∀ j s, d.entry (base + j) = .dir s → s ≠ Missing.sizeOf c.sizes j

/-- the converse fails: `NoDirClash` also speaks of entries behind the last file -/
theorem noSilent_states (c : Cfg α δ) (d : Disk α) (base n : Nat) (hd : NoDirClash c d base) :
    VerifyFs.NoSilent c.sizes (d.states base n) = true := by
  unfold VerifyFs.NoSilent
  rw [List.all_eq_true]
  intro ⟨s, k⟩ hsk
  have hk := List.mem_zipIdx_iff_getElem?.mp hsk
  simp only [Disk.states, List.getElem?_map] at hk
  obtain ⟨j, hj, rfl⟩ := Option.map_eq_some_iff.mp hk
  obtain rfl : k = j := by
    have := List.getElem?_eq_some_iff.mp hj
    simpa using this.2
  cases he : d.entry (base + k) with
  | dir s => simpa using hd k s he
  | _ => rfl

/-! ### an abandoned iteration yields a prefix of the complete one -/

theorem specIterStep_out [Inhabited α] (c : Cfg α δ) (d : Disk α) (base : Nat) (st : Missing.St α) (j : Nat)
    (hj : j < c.sizes.length) : ∃ rest, (specIterStep c d base none st j).out = st.out ++ rest := by
  have h := VerifyFs.stepFs_out_prefix c.L c.sizes (d.states base c.sizes.length)
    { st := st, fault := none } j
  rw [specIterStep_eq_stepFs c d base st j hj] at h
  exact h.imp fun _ => Eq.symm

theorem specIterStep_live [Inhabited α] (c : Cfg α δ) (d : Disk α) (base k : Nat) (st : Missing.St α) (j : Nat)
    (h : live (some k) st = true) : specIterStep c d base (some k) st j = specIterStep c d base none st j := by
  unfold specIterStep
  rw [h]
  rfl

theorem specIterStep_dead [Inhabited α] (c : Cfg α δ) (d : Disk α) (base k : Nat) (st : Missing.St α) (j : Nat)
    (h : live (some k) st = false) : specIterStep c d base (some k) st j = st := by
  unfold specIterStep
  simp [h]

theorem specIterStep_failed [Inhabited α] (c : Cfg α δ) (d : Disk α) (base : Nat) (k : Option Nat) (st : Missing.St α)
    (j : Nat) (h : st.failed = true) : specIterStep c d base k st j = st := by
  unfold specIterStep
  simp [h]

/-- the state of the abandoned iteration is the state of the complete one, or it froze with at
    least `k` items that the complete one only extends -/
def Frozen (k : Nat) (g f : Missing.St α) : Prop :=
  g = f ∨ (k ≤ g.out.length ∧ g.failed = false ∧ ∃ rest, f.out = g.out ++ rest)

theorem specIterStep_frozen [Inhabited α] (c : Cfg α δ) (d : Disk α) (base k : Nat) (g f : Missing.St α)
    (j : Nat) (hj : j < c.sizes.length) (h : Frozen k g f) :
    Frozen k (specIterStep c d base (some k) g j) (specIterStep c d base none f j) := by
  rcases h with rfl | ⟨hk, hnf, rest, hr⟩
  · cases hl : live (some k) g
    · rw [specIterStep_dead c d base k g j hl]
      cases hf : g.failed
      · exact Or.inr ⟨by simpa [live] using hl, hf, specIterStep_out c d base g j hj⟩
      · exact Or.inl (specIterStep_failed c d base none g j hf).symm
    · exact Or.inl (specIterStep_live c d base k g j hl)
  · rw [specIterStep_dead c d base k g j (by simpa [live] using hk)]
    obtain ⟨r2, hr2⟩ := specIterStep_out c d base f j hj
    exact Or.inr ⟨hk, hnf, rest ++ r2, by rw [hr2, hr, List.append_assoc]⟩

end Torf.HandlesDisk
