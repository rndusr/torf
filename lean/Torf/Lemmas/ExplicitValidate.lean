/-
  The hypothesis "validation only accepts a metainfo whose `info` entry is a dict" of the C06
  theorems about the explicitly stored hash holds for the model of `Torrent.validate()` that C07
  proves things about (`Torf.Validate.validate`, any URL oracle, any file-system oracle).
-/
import Torf.Lemmas.ValidateTop
import Torf.Lemmas.Dump
import Torf.Model.ReadStream
namespace Torf.ReadStream
open Torf

/-- the C07 model of `Torrent.validate()` used as the `Env.validate` oracle -/
def validateOracle (urlOk : List UInt8 → Bool) (fs : Validate.FsOracle) : PyVal → Bool
  | .dict items => (Validate.validate urlOk fs items).toBool
  | _ => false

theorem validateOracle_info_dict (urlOk : List UInt8 → Bool) (fs : Validate.FsOracle)
    (md : List (PyVal × PyVal))
    (h : validateOracle urlOk fs (.dict (ensureInfo md)) = true) :
    ∃ ikvs, PyVal.lookupStr "info" (ensureInfo md) = some (.dict ikvs) := by
  obtain ⟨u, hu⟩ := exists_ok_of_toBool (x := Validate.validate urlOk fs (ensureInfo md)) h
  cases u
  obtain ⟨vf, _⟩ := Validate.validate_ok urlOk fs hu
  obtain ⟨info, _, cf, _⟩ := vf.ex
  exact ⟨info, cf.hinfo⟩

end Torf.ReadStream
