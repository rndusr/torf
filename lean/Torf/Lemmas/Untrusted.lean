/-
  What the entry points of C08's model (Torf/Model/Untrusted.lean) can raise, function by function: the error of a chain of
  stages is the error of the first stage that fails, so each lemma unfolds one function and refers to the lemmas of its stages.
  Two arguments are of another kind: `runU_spec`, the one induction over the wrapped decoder loop, from which everything about
  `parseU` follows, and `step_cost`, the potential argument (stack height) behind the linear step count.
-/
import Torf.Model.Untrusted
import Torf.Lemmas.BencodeParse
import Torf.Lemmas.Export
namespace Torf.Untrusted
open Torf Torf.Bencode Torf.Codec

/-- What the wrapped decoder raises apart from running out of fuel: DecodingError, and from its primitives ValueError,
    OverflowError and MemoryError, the last only for a length prefix in the window (memLimit, ssizeMax] — recorded here
    as: only if that window is not empty.  Indexed by the exception, so that `cases` on `Raised env .fuel` or, with a
    generous allocator, on `Raised env .memory` leaves nothing. -/
inductive Raised (env : Env) : Raise → Prop
  | decoding : Raised env .decoding
  | value : Raised env .value
  | overflow : Raised env .overflow
  | memory : env.memLimit < env.ssizeMax → Raised env .memory

theorem bufRead_kinds {env : Env} {n : Nat} {r : Raise} (h : bufRead env n = some r) : Raised env r := by
  unfold bufRead at h
  split at h
  · cases h; exact .overflow
  · split at h
    · cases h; exact .memory (by omega)
    · cases h

theorem intTokenRaise_kinds {lim : Nat} {s1 : Bytes} {r : Raise} (h : intTokenRaise lim s1 = some r) :
    r = .value := by
  unfold intTokenRaise at h
  split at h
  · split at h
    · cases h
    · split at h
      · cases h; rfl
      · cases h
  · cases h

theorem tokenRaise_kinds {env : Env} {inp : Bytes} {r : Raise} (h : tokenRaise env inp = some r) : Raised env r := by
  unfold tokenRaise at h
  split at h
  · cases h
  · split at h
    · cases h
    · split at h
      · cases intTokenRaise_kinds h; exact .value
      · unfold strTokenRaise at h
        split at h
        · split at h
          · cases h; exact .value
          · exact bufRead_kinds h
        · cases h

theorem stepU_ok {env : Env} {inp : Bytes} {st : List Item} {s : StepResult}
    (h : stepU env inp st = .ok s) : s = step env.lim inp st := by
  unfold stepU at h
  split at h
  · cases h
  · cases h; rfl

theorem stepU_err {env : Env} {inp : Bytes} {st : List Item} {r : Raise}
    (h : stepU env inp st = .error r) : tokenRaise env inp = some r := by
  unfold stepU at h
  split at h
  · rename_i r' hr; cases h; exact hr
  · cases h

/-- the fuel alternative carries `f ≤ |inp|`: every iteration consumes input (`step_length`), so `parseU`, which starts
    with `|input| + 1`, never meets it -/
theorem runU_spec (env : Env) : ∀ (f : Nat) (inp : Bytes) (st : List Item),
    (∀ v, runU env f inp st = .ok v → run env.lim f inp st = some v) ∧
    ∀ r, runU env f inp st = .error r → (r = .fuel ∧ f ≤ inp.length) ∨ Raised env r := by
  intro f
  induction f with
  | zero => exact fun _ _ => ⟨nofun, fun r h => by cases h; exact .inl ⟨rfl, Nat.zero_le _⟩⟩
  | succ f ih =>
    intro inp st
    unfold runU run
    cases hs : stepU env inp st with
    | error r => exact ⟨nofun, fun r' h => by cases h; exact .inr (tokenRaise_kinds (stepU_err hs))⟩
    | ok s =>
      rw [← stepU_ok hs]
      cases s with
      | done o =>
        cases o with
        | some v => exact ⟨fun v' h => by cases h; rfl, nofun⟩
        | none => exact ⟨nofun, fun r h => by cases h; exact .inr .decoding⟩
      | cont rest st' =>
        have hlen := step_length (stepU_ok hs).symm
        exact ⟨(ih rest st').1, fun r h => ((ih rest st').2 r h).imp_left fun ⟨hr, hf⟩ => ⟨hr, by omega⟩⟩

theorem parseU_err {env : Env} {bs : Bytes} {r : Raise} (h : parseU env bs = .error r) : Raised env r :=
  ((runU_spec env _ bs []).2 r h).elim (fun ⟨_, hf⟩ => absurd hf (by omega)) id

theorem parseU_fuel (env : Env) (bs : Bytes) : parseU env bs ≠ .error .fuel :=
  fun h => nomatch parseU_err h

theorem parseU_no_memory (env : Env) (hm : env.ssizeMax ≤ env.memLimit) (bs : Bytes) :
    parseU env bs ≠ .error .memory := fun h => by
  cases parseU_err h
  omega

theorem parseU_ok (env : Env) (bs : Bytes) (v : BVal) (h : parseU env bs = .ok v) :
    parse env.lim bs = some v :=
  (runU_spec env _ bs []).1 v h

theorem popUntil_length : ∀ (st : List Item) (acc : List BVal) (e : BVal) (st' : List Item),
    popUntil st acc = some (e, st') → st'.length + popCount st = st.length := by
  intro st
  induction st with
  | nil => intro acc e st' h; simp [popUntil] at h
  | cons x t ih =>
    intro acc e st' h
    cases x with
    | lst => simp [popUntil] at h; simp [popCount, h.2]
    | dct =>
      simp only [popUntil, Option.map_eq_some_iff] at h
      obtain ⟨_, _, h2⟩ := h
      simp only [Prod.mk.injEq] at h2
      simp [popCount, h2.2]
    | val v =>
      simp only [popUntil] at h
      have := ih _ _ _ h
      simp only [popCount, List.length_cons]; omega

theorem popCount_le (st : List Item) : popCount st ≤ st.length := by
  induction st with
  | nil => simp [popCount]
  | cons x t ih => cases x <;> simp [popCount] <;> omega

/-- potential argument: an iteration costs at most 2 plus what it takes off the stack -/
theorem step_cost {lim inp st inp' st'} (h : step lim inp st = .cont inp' st') :
    stepCost inp st + st'.length ≤ st.length + 2 := by
  rcases step_token lim inp st with hs | ⟨c, rest, rfl, ⟨hc, _, _, hp, hs⟩ | ⟨hc, hs⟩⟩
  · cases hs.symm.trans h
  · -- `e`: the inner loop pops down to the opening marker, the finished container is pushed
    have := popUntil_length _ _ _ _ hp
    rw [hs] at h
    rw [(deliver_cont h).2, stepCost, if_pos hc, List.length_cons]
    omega
  · -- every other token pushes one item
    rw [stepCost, if_neg hc]
    rcases hs with ⟨_, _, _, hs⟩ | hs | hs | ⟨_, _, _, hs⟩ <;> rw [hs] at h
    · rw [(deliver_cont h).2, List.length_cons]; omega
    · rw [← (StepResult.cont.inj h).2, List.length_cons]; omega
    · rw [← (StepResult.cont.inj h).2, List.length_cons]; omega
    · rw [(deliver_cont h).2, List.length_cons]; omega

theorem stepCost_le (inp : Bytes) (st : List Item) : stepCost inp st ≤ st.length + 1 := by
  unfold stepCost
  split
  · omega
  · split
    · have := popCount_le st; omega
    · omega

theorem runSteps_le (lim : Nat) : ∀ (f : Nat) (inp : Bytes) (st : List Item),
    runSteps lim f inp st ≤ 2 * inp.length + st.length + 1 := by
  intro f
  induction f with
  | zero => intro inp st; simp [runSteps]
  | succ f ih =>
    intro inp st
    unfold runSteps
    split
    · have := stepCost_le inp st; omega
    · rename_i rest st' hs
      have h1 := step_cost hs
      have h2 := step_length hs
      have h3 := ih rest st'
      omega

theorem assertInfo_err {md : Items} {v : Bool} {e : Codec.Err}
    (h : ReadStream.assertInfo md v = .error e) : e = .metainfo := by
  unfold ReadStream.assertInfo at h
  split at h
  · split at h <;> simp at h; exact h.symm
  · simp at h
  · simp at h; exact h.symm

theorem setCreationDateU_err {env : Env} {v : BVal} {md : Items} {r : Raise}
    (h : setCreationDateU env v md = .error r) : catchCreationDate r = .metainfo := by
  unfold setCreationDateU at h
  split at h
  · split at h <;> simp at h <;> subst h <;> rfl
  · split at h
    · simp at h; subst h; rfl
    · simp at h

theorem decodeTopU_err {env : Env} {enc : List (Bytes × BVal)} {r : Raise}
    (h : decodeTopU env enc = .error r) : catchRecursion r = .bdecode := by
  unfold decodeTopU at h
  split at h
  · simp at h; subst h; rfl
  · simp at h

/-- what C08 needs from C07 about `validate()` without a content path.  It is C07's theorem
    `C07_validate_only_metainfo_error` at `fs = noPath`; `Properties/C08.lean` imports
    `Torf.Properties.C07` and proves it (`C08_validate_documented`), so the lemmas below that take
    it as an argument are applied unconditionally there.  (A `Prop` argument here, so that this
    lemma file does not depend on C07's proof files.) -/
def ValidateDocumented : Prop :=
  ∀ (urlOk : Export.Bytes → Bool) (md : Items) (e : Export.ErrKind),
    Validate.filesNotMapping md = true →
    Validate.validate urlOk Validate.noPath md = .error e → e = .metainfo

theorem creationDateStep_err {env : Env} {enc : List (Bytes × BVal)} {md : Items} {e : Err}
    (h : creationDateStep env enc md = .error e) : e = .metainfo := by
  unfold creationDateStep at h
  split at h
  · split at h
    · simp at h
    · rename_i r hs
      simp at h; rw [← h]; exact setCreationDateU_err hs
  · simp at h

theorem assertInfo_false {md : Items} (h : ReadStream.assertInfo md true = .ok ()) :
    ReadStream.assertInfo md false = .ok () := by
  unfold ReadStream.assertInfo at h ⊢
  split <;> simp_all

theorem build_cases (env : Env) (enc : List (Bytes × BVal)) (validate : Bool) :
    (∃ t, build env enc validate = .ok t ∧ (validate = true → validateT env t = .ok ())) ∨
    build env enc validate = .error .bdecode ∨
    build env enc validate = .error .metainfo ∨
    (validate = true ∧ ∃ t e, build env enc false = .ok t ∧ validateT env t = .error e ∧
      build env enc true = .error e) := by
  unfold build
  cases hd : decodeTopU env enc with
  | error r => right; left; simp [decodeTopU_err hd]
  | ok md =>
    dsimp only
    cases ha : ReadStream.assertInfo md validate with
    | error e =>
      have := assertInfo_err ha; subst this
      right; right; left; rfl
    | ok u =>
      cases u
      dsimp only
      cases hc : creationDateStep env enc md with
      | error e =>
        have := creationDateStep_err hc; subst this
        right; right; left; rfl
      | ok md1 =>
        dsimp only
        cases validate with
        | false => left; exact ⟨_, rfl, by simp⟩
        | true =>
          rw [assertInfo_false ha, ha]
          dsimp only
          unfold finish
          simp only [if_true, Bool.false_eq_true, if_false]
          cases hv : validateT env (ReadStream.ensureInfo (ReadStream.setPrivate enc md1)) with
          | ok u => left; cases u; exact ⟨_, rfl, fun _ => hv⟩
          | error e =>
            right; right; right
            exact ⟨trivial, _, e, rfl, hv, rfl⟩

/-- outcome analysis of `readCore`: that of `build`, unless the decoder raises MemoryError (the only thing it raises
    that `read_stream` does not catch) -/
theorem readCore_cases (env : Env) (bs : Bytes) (validate : Bool) (hmem : parseU env bs ≠ .error .memory) :
    (∃ t, readCore env bs validate = .ok t ∧ (validate = true → validateT env t = .ok ())) ∨
    readCore env bs validate = .error .bdecode ∨
    readCore env bs validate = .error .metainfo ∨
    (validate = true ∧ ∃ t e, readCore env bs false = .ok t ∧ validateT env t = .error e ∧
      readCore env bs true = .error e) := by
  unfold readCore
  cases hp : parseU env bs with
  | error r =>
    right; left
    cases parseU_err hp with
    | memory => exact absurd hp hmem
    | _ => rfl
  | ok v =>
    cases v with
    | int i => right; left; rfl
    | bytes b => right; left; rfl
    | list l => right; left; rfl
    | dict enc => exact build_cases env enc validate

theorem validateT_doc (hV : ValidateDocumented) (env : Env) (t : Items)
    (hf : Validate.filesNotMapping t = true) :
    validateT env t = .ok () ∨ validateT env t = .error .metainfo := by
  unfold validateT
  cases h : Validate.validate env.urlOk Validate.noPath t with
  | ok u => left; cases u; rfl
  | error e => cases hV _ _ _ hf h; exact .inr rfl

theorem dumpT_novalidate (env : Env) (t : Items) :
    (∃ b, dumpT env t false = .ok b) ∨ dumpT env t false = .error .metainfo := by
  unfold dumpT
  simp only [Bool.false_eq_true, if_false]
  split
  · right; rfl
  · cases h : Validate.dumpNoValidate t with
    | ok b => left; exact ⟨b, rfl⟩
    | error e => cases Export.convertSer_err _ _ h; exact .inr rfl

/-- with validation: what `validate()` raises, or `dump(validate=False)` -/
theorem dumpT_validate (hV : ValidateDocumented) (env : Env) (t : Items)
    (hf : Validate.filesNotMapping t = true) :
    (∃ b, dumpT env t true = .ok b) ∨ dumpT env t true = .error .metainfo := by
  rcases validateT_doc hV env t hf with h | h
  · have : dumpT env t true = dumpT env t false := by simp only [dumpT, h, if_true, Bool.false_eq_true, if_false]
    rw [this]
    exact dumpT_novalidate env t
  · right; simp only [dumpT, h, if_true]

/-- too deep for the frames that are left: MetainfoError (regression of fix 19d011f) -/
theorem dumpT_deep (env : Env) (t : Items)
    (hdeep : env.encFuel < 3 + encFramesKvs (Validate.ensureInfo t)) :
    dumpT env t false = .error .metainfo := by
  unfold dumpT
  simp only [Bool.false_eq_true, if_false]
  rw [if_pos (by omega)]
  rfl

theorem setXt_err {v : String} {e : Err} (h : setXt v = .error e) : e = .magnet := by
  unfold setXt at h
  split at h
  · simp at h
  · split at h
    · split at h <;> simp at h; exact h.symm
    · simp at h; exact h.symm

theorem setXl_err {o : MagnetOracle} {v : String} {e : Err} (h : setXl o v = .error e) : e = .magnet := by
  unfold setXl at h
  split at h
  · simp at h; exact h.symm
  · split at h <;> simp at h; exact h.symm

theorem mkUrl_err {o : MagnetOracle} {v : String} {e : Err} (h : mkUrl o v = .error e) : e = .url := by
  unfold mkUrl at h
  split at h
  · split at h <;> simp at h; exact h.symm
  · simp at h; exact h.symm

theorem mkUrls_err {o : MagnetOracle} : ∀ {l : List String} {e : Err}, mkUrls o l = .error e → e = .url := by
  intro l
  induction l with
  | nil => intro e h; simp [mkUrls] at h
  | cons v t ih =>
    intro e h
    unfold mkUrls at h
    split at h
    · rename_i e' he; simp at h; subst h; exact mkUrl_err he
    · split at h
      · rename_i e' he; simp at h; subst h; exact ih he
      · simp at h

theorem optXl_err {o : MagnetOracle} {x : Option String} {e : Err} (h : optXl o x = .error e) : e = .magnet := by
  unfold optXl at h
  split at h
  · simp at h
  · split at h
    · simp at h
    · rename_i e' he; simp at h; subst h; exact setXl_err he

theorem optUrl_err {o : MagnetOracle} {x : Option String} {e : Err} (h : optUrl o x = .error e) : e = .url := by
  unfold optUrl at h
  split at h
  · simp at h
  · split at h
    · simp at h
    · rename_i e' he; simp at h; subst h; exact mkUrl_err he

/-- `parse_qs` never returns an empty value list -/
def QsNonempty (q : List (String × List String)) : Prop := ∀ k vs, qlookup k q = some vs → vs ≠ []

theorem single_err {q : List (String × List String)} {p : String} {e : Err} (hq : QsNonempty q)
    (h : single q p = .error e) : e = .magnet := by
  unfold single at h
  split at h
  · simp at h
  · rename_i vs hl
    split at h
    · simp at h; exact h.symm
    · split at h
      · simp at h
      · exact absurd rfl (hq _ _ hl)

/-- every stage passes an error on unchanged: the error of `params` is the error of the first stage that fails -/
theorem params_err {o : MagnetOracle} {q : List (String × List String)} {ih : String} {e : Err}
    (hq : QsNonempty q) (h : params o q ih = .error e) : e = .magnet ∨ e = .url := by
  unfold params at h
  split at h
  · cases h; exact .inl (single_err hq ‹_›)
  split at h
  · cases h; exact .inl (single_err hq ‹_›)
  split at h
  · cases h; exact .inl (optXl_err ‹_›)
  split at h
  · cases h; exact .inl (single_err hq ‹_›)
  split at h
  · cases h; exact .inr (optUrl_err ‹_›)
  split at h
  · cases h; exact .inl (single_err hq ‹_›)
  split at h
  · cases h; exact .inr (optUrl_err ‹_›)
  split at h
  · cases h; exact .inl (single_err hq ‹_›)
  split at h
  · cases h; exact .inr (mkUrls_err ‹_›)
  split at h
  · cases h; exact .inr (mkUrls_err ‹_›)
  · cases h

theorem withXt_err {o : MagnetOracle} {q : List (String × List String)} {e : Err}
    (hq : QsNonempty q) (h : withXt o q = .error e) : e = .magnet ∨ e = .url := by
  unfold withXt at h
  split at h
  · simp at h; exact .inl h.symm
  · rename_i xts hx
    split at h
    · simp at h; exact .inl h.symm
    · split at h
      · exact absurd rfl (hq _ _ hx)
      · split at h
        · rename_i e' he; simp at h; subst h; exact .inl (setXt_err he)
        · exact params_err hq h

theorem errIs_eq {α : Type} {r : Except Err α} {e : Err} (h : errIs r e = true) : r = .error e := by
  unfold errIs at h
  split at h
  · simp at h; rw [h]
  · simp at h

theorem isMemoryError_iff {α : Type} (r : Except Raise α) : isMemoryError r = true ↔ r = .error .memory := by
  unfold isMemoryError
  split <;> simp_all

end Torf.Untrusted
