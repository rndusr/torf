/-
  Helper lemmas for C18 (renaming): path resolution and everything the search asks the operating
  system commute with a renaming of directory entries and link targets (`Renaming ρ`); and a
  lower bound on what the search yields in a family of directories that branches twice per level
  (`find_branching`, behind finding D18f).
-/
import Torf.Model.ReuseLinks
import Torf.Lemmas.ReuseSearch
namespace Torf.Reuse
open Torf.Paths (PPath)

theorem lookup_rename (ρ : String → String) (hinj : ∀ a b, ρ a = ρ b → a = b) (c : String)
    (es : List (String × Nat)) :
    List.lookup (ρ c) (es.map fun e => (ρ e.1, e.2)) = es.lookup c := by
  induction es with
  | nil => rfl
  | cons e es ih =>
    obtain ⟨k, v⟩ := e
    by_cases h : c = k
    · subst h; simp [List.lookup]
    · have h' : ρ c ≠ ρ k := fun e => h (hinj _ _ e)
      have hb : (ρ c == ρ k) = false := by simp [h']
      have hb2 : (c == k) = false := by simp [h]
      simp only [List.map_cons, List.lookup_cons, hb, hb2]
      exact ih

theorem Renaming.beq_empty {ρ : String → String} (hρ : Renaming ρ) (c : String) :
    (ρ c == "") = (c == "") := by
  rw [Bool.eq_iff_iff]; simp [hρ.empty]

theorem Renaming.beq_dot {ρ : String → String} (hρ : Renaming ρ) (c : String) :
    (ρ c == ".") = (c == ".") := by
  rw [Bool.eq_iff_iff]; simp [hρ.dot]

theorem Renaming.beq_dotdot {ρ : String → String} (hρ : Renaming ρ) (c : String) :
    (ρ c == "..") = (c == "..") := by
  rw [Bool.eq_iff_iff]; simp [hρ.dotdot]

def Walk.rename (ρ : String → String) : Walk → Walk
  | .done l => .done l
  | .err e => .err e
  | .follow st t r => .follow st (renamePath ρ t) (r.map ρ)

theorem renameFS_getElem? (ρ : String → String) (fs : FS) (i : Nat) :
    (renameFS ρ fs)[i]? = (fs[i]?).map (renameNode ρ) := by
  simp [renameFS]

def Hop.rename (ρ : String → String) : Hop → Hop
  | .link t => .link (renamePath ρ t)
  | h => h

theorem searchable_rename (ρ : String → String) (fs : FS) (st : List Nat) :
    searchable (renameFS ρ fs) st = (searchable fs st).map fun es => es.map fun e => (ρ e.1, e.2) := by
  unfold searchable
  rw [renameFS_getElem?]
  cases fs[curIno st]? with
  | none => rfl
  | some nd => cases nd with
    | dir r x es => cases x <;> rfl
    | _ => rfl

theorem enter_rename (ρ : String → String) (fs : FS) (st : List Nat) (ino : Nat) :
    enter (renameFS ρ fs) st ino = (enter fs st ino).rename ρ := by
  unfold enter
  rw [renameFS_getElem?]
  cases fs[ino]? with
  | none => rfl
  | some nd => cases nd <;> rfl

theorem hop_rename {ρ : String → String} (hρ : Renaming ρ) (fs : FS) (st : List Nat) (c : String) :
    hop (renameFS ρ fs) st (ρ c) = (hop fs st c).rename ρ := by
  unfold hop
  rw [hρ.beq_empty, hρ.beq_dot, hρ.beq_dotdot, searchable_rename]
  cases searchable fs st with
  | error e => cases (c == "") <;> rfl
  | ok es =>
    simp only [Except.map, lookup_rename ρ hρ.inj, enter_rename, apply_ite (Hop.rename ρ)]
    cases es.lookup c <;> rfl

theorem walk1_rename {ρ : String → String} (hρ : Renaming ρ) (fs : FS) (cs : List String) :
    ∀ st : List Nat, walk1 (renameFS ρ fs) st (cs.map ρ) = (walk1 fs st cs).rename ρ := by
  induction cs with
  | nil => intro st; rfl
  | cons c cs ih =>
    intro st
    rw [List.map_cons, walk1_cons, walk1_cons, hop_rename hρ]
    cases hop fs st c with
    | goto st' => exact ih st'
    | file ino => cases cs <;> rfl
    | link t => rfl
    | err e => rfl

theorem walk_rename {ρ : String → String} (hρ : Renaming ρ) (fs : FS) (n : Nat) :
    ∀ (st : List Nat) (cs : List String), walk (renameFS ρ fs) n st (cs.map ρ) = walk fs n st cs := by
  induction n with
  | zero => intro st cs; rw [walk_eq, walk_eq fs, walk1_rename hρ]; cases walk1 fs st cs <;> rfl
  | succ m ih =>
    intro st cs
    rw [walk_eq, walk_eq fs, walk1_rename hρ]
    cases walk1 fs st cs with
    | done l => rfl
    | err e => rfl
    | follow s t r =>
      simp only [Walk.rename, renamePath, ← List.map_append]
      exact ih _ _

theorem resolve_rename {ρ : String → String} (hρ : Renaming ρ) (w : World) (p : PPath) :
    resolve (renameWorld ρ w) (renamePath ρ p) = resolve w p := by
  obtain ⟨a, cs⟩ := p
  unfold resolve
  simp only [renameWorld, renamePath, walk_rename hρ]
  cases cs with
  | nil => rfl
  | cons c cs => simp only [List.map_cons, List.headD_cons, hρ.beq_empty]; rfl

theorem isdir_rename {ρ : String → String} (hρ : Renaming ρ) (w : World) (p : PPath) :
    isdir (renameWorld ρ w) (renamePath ρ p) = isdir w p := by
  unfold isdir; rw [resolve_rename hρ]

theorem pexists_rename {ρ : String → String} (hρ : Renaming ρ) (w : World) (p : PPath) :
    pexists (renameWorld ρ w) (renamePath ρ p) = pexists w p := by
  unfold pexists; rw [resolve_rename hρ]

theorem getsize_rename {ρ : String → String} (hρ : Renaming ρ) (w : World) (p : PPath) :
    getsize (renameWorld ρ w) (renamePath ρ p) = getsize w p := by
  unfold getsize; rw [resolve_rename hρ]
  cases resolve w p with
  | error e => rfl
  | ok l =>
    cases l with
    | dir st => rfl
    | file ino =>
      simp only [renameWorld, renameFS_getElem?]
      cases hi : w.fs[ino]? with
      | none => rfl
      | some nd => cases nd <;> rfl

theorem listdir_rename {ρ : String → String} (hρ : Renaming ρ) (w : World) (p : PPath) :
    listdir (renameWorld ρ w) (renamePath ρ p) = (listdir w p).map (·.map ρ) := by
  unfold listdir; rw [resolve_rename hρ]
  cases resolve w p with
  | error e => rfl
  | ok l =>
    cases l with
    | file ino => rfl
    | dir st =>
      simp only [renameWorld, renameFS_getElem?]
      cases hi : w.fs[curIno st]? with
      | none => rfl
      | some nd =>
        cases nd with
        | file _ _ _ => rfl
        | link _ => rfl
        | dir r x es =>
          cases r with
          | false => rfl
          | true => simp [renameNode, Except.map, List.map_map, Function.comp_def]

theorem renamePath_push (ρ : String → String) (p : PPath) (n : String) :
    renamePath ρ (push p n) = push (renamePath ρ p) (ρ n) := by
  simp [renamePath, push]

theorem isTorrentName_basename_rename {ρ : String → String} (hρ : Renaming ρ) (p : PPath) :
    isTorrentName (basename (renamePath ρ p)) = isTorrentName (basename p) := by
  unfold basename renamePath
  simp only [List.getLast?_map]
  cases p.comps.getLast? with
  | none => rfl
  | some c => simp [hρ.suffix]

def Kind.rename (ρ : String → String) : Kind → Kind
  | .dir names => .dir (names.map ρ)
  | k => k

theorem kind_rename {ρ : String → String} (hρ : Renaming ρ) (w : World) (p : PPath) :
    kind (renameWorld ρ w) (renamePath ρ p) = (kind w p).rename ρ := by
  unfold kind
  rw [isdir_rename hρ, listdir_rename hρ, isTorrentName_basename_rename hρ, getsize_rename hρ,
    pexists_rename hρ]
  cases isdir w p with
  | true => cases listdir w p <;> rfl
  | false => cases isTorrentName (basename p) <;> cases getsize w p <;> cases pexists w p <;> rfl

theorem readAt_rename {ρ : String → String} (hρ : Renaming ρ) (w : World) (p : PPath) :
    readAt (renameWorld ρ w) (renamePath ρ p) = readAt w p := by
  unfold readAt; rw [resolve_rename hρ]
  cases resolve w p with
  | error e => rfl
  | ok l =>
    cases l with
    | dir st => rfl
    | file ino =>
      simp only [renameWorld, renameFS_getElem?]
      cases hi : w.fs[ino]? with
      | none => rfl
      | some nd =>
        cases nd with
        | file _ r _ => cases r <;> rfl
        | link _ => rfl
        | dir _ _ _ => rfl

theorem toItem_rename {ρ : String → String} (hρ : Renaming ρ) (w : World) (x : Found) :
    Found.toItem (renameWorld ρ w) (x.rename ρ) = Found.toItem w x := by
  cases x with
  | pathError p => rfl
  | overflow => rfl
  | tfile p ok => simp only [Found.rename, Found.toItem, readAt_rename hρ]

theorem overflow_mem_rename (ρ : String → String) (l : List Found) :
    Found.overflow ∈ l.map (Found.rename ρ) ↔ Found.overflow ∈ l := by
  simp only [List.mem_map]
  constructor
  · rintro ⟨x, hx, he⟩
    cases x with
    | overflow => exact hx
    | pathError p => cases he
    | tfile p ok => cases he
  · intro h; exact ⟨_, h, rfl⟩

theorem length_flatMap_sublist {α β : Type} (f : α → List β) {l₁ l₂ : List α} (h : l₁.Sublist l₂) :
    (l₁.flatMap f).length ≤ (l₂.flatMap f).length := by
  induction h with
  | slnil => simp
  | cons a _ ih => simp only [List.flatMap_cons, List.length_append]; omega
  | cons_cons a _ ih => simp only [List.flatMap_cons, List.length_append]; omega

/-- `G m p`: the spelling `p` belongs to a family that branches twice per level (at the listed names
    `a`, `b`), with `m` levels to go -/
theorem find_branching (w : World) (a b : String) (listing : List String)
    (hab : [a, b].Sublist listing) (G : Nat → PPath → Prop)
    (hdir : ∀ m p, G m p → listdir w p = .ok listing)
    (hstep : ∀ m p, G (m + 1) p → G m (push p a) ∧ G m (push p b))
    (hbase : ∀ p fuel, G 0 p → 1 ≤ (find w fuel p).length) :
    ∀ (m fuel : Nat) (p : PPath), G m p → m < fuel → 2 ^ m ≤ (find w fuel p).length := by
  intro m
  induction m with
  | zero => intro fuel p hg _; exact hbase p fuel hg
  | succ m ih =>
    intro fuel p hg hf
    cases fuel with
    | zero => omega
    | succ f =>
      obtain ⟨ga, gb⟩ := hstep _ _ hg
      have h1 := ih f _ ga (by omega)
      have h2 := ih f _ gb (by omega)
      -- the directory yields at least what it yields for the two names
      have h3 := length_flatMap_sublist (fun n => find w f (push p n)) hab
      simp only [List.flatMap_cons, List.flatMap_nil, List.append_nil, List.length_append] at h3
      rw [find_dir (hdir _ _ hg), Nat.pow_succ]
      omega

end Torf.Reuse
