/-
  `verifySeq` in closed form (under the hypotheses of C02): result and callback trace in terms of
  the items of `iter_pieces` (`verifySeq_run`), and the link between the collected digests and
  `SpecOk` (`Run.ok_iff`).  Without those hypotheses, the two halves of `C02_iff`: all files good
  (`verifySeq_good_iff`), some file bad (`verifySeq_damaged_nocb`).
-/
import Torf.Lemmas.VerifyCb
import Torf.Lemmas.Verify
import Torf.Lemmas.Missing
namespace Torf.Verify
open Torf Torf.Missing

variable {α δ : Type} [DecidableEq δ]

omit [DecidableEq δ] in
theorem length_hashes_lt (H : List α → δ) (items : List (Item α))
    (h : ∃ it ∈ items, it.excs ≠ []) :
    (items.flatMap (itemHashes H)).length < items.length := by
  obtain ⟨it, hmem, hne⟩ := h
  rw [hashes_eq_filterMap, List.length_filterMap_lt_length_iff_exists]
  exact ⟨it, hmem, by simp [hne]⟩

theorem iterItems_all_good (L : Nat) (hL : 0 < L) (sizes : List Nat) (disk : List (Option (List α)))
    (hgood : AllGood sizes disk = true) :
    iterItems L sizes disk = some ((chunks L (diskStream sizes disk)).map dataItem) :=
  iterItems_of_good L hL sizes disk (fileError_of_allGood sizes disk hgood)

theorem badFiles_eq_nil_iff (sizes : List Nat) (disk : List (Option (List α))) :
    badFiles sizes disk = [] ↔ AllGood sizes disk = true := by
  unfold badFiles AllGood
  rw [List.filterMap_eq_nil_iff, List.all_eq_true]
  refine forall₂_congr fun k _ => ?_
  cases fileError sizes disk k <;> simp

theorem badFiles_eq_nil_of_good (sizes : List Nat) (disk : List (Option (List α)))
    (h : AllGood sizes disk = true) : badFiles sizes disk = [] :=
  (badFiles_eq_nil_iff sizes disk).mpr h

theorem exists_excs_of_reported_ne_nil (items : List (Item α)) (h : reported items ≠ []) :
    ∃ it ∈ items, it.excs ≠ [] := by
  obtain ⟨l, hl, hne⟩ := List.flatten_ne_nil_iff.mp h
  obtain ⟨it, hit, rfl⟩ := List.mem_map.mp hl
  exact ⟨it, hit, hne⟩

theorem excs_dataItems_eq_nil_iff (H : List α → δ) (L : Nat) (sizes : List Nat) (stored : List δ)
    (ps : List (List α)) (hlen : ps.length = stored.length) :
    excsOf (callsOf H L sizes stored (ps.map dataItem)) = [] ↔ ps.map H = stored := by
  have item : ∀ p i, excsOf (itemCalls H L sizes stored (dataItem p, i)) = [] ↔
      stored[i]? = some (H p) := by
    intro p i
    unfold itemCalls excsOf C02.kindOf dataItem
    by_cases h : stored[i]? = some (H p) <;> simp [h]
  unfold excsOf at item ⊢
  unfold callsOf
  rw [List.filterMap_flatMap, List.flatMap_eq_nil_iff, List.map_eq_iff]
  constructor
  · intro h i
    cases hp : ps[i]? with
    | none => exact List.getElem?_eq_none (hlen ▸ List.getElem?_eq_none_iff.mp hp)
    | some p => exact (item p i).mp (h _ (List.mem_zipIdx_iff_getElem?.mpr (by simp [hp])))
  · rintro h ⟨it, i⟩ hx
    rw [List.mem_zipIdx_iff_getElem?, List.getElem?_map] at hx
    obtain ⟨p, hp, rfl⟩ := Option.map_eq_some_iff.mp hx
    exact (item p i).mpr (by rw [h i]; exact congrArg (Option.map H) hp)

/-- one run of `verify` on a classic disk: the items the reader yields, with what C10 says of
    them -/
structure Run (H : List α → δ) (L : Nat) (sizes : List Nat) (disk : List (Option (List α)))
    (stored : List δ) (items : List (Item α)) : Prop
    extends Trace H L sizes disk stored (SpecOk H L sizes disk stored) items where
  hit : iterItems L sizes disk = some items
  rep : reported items = badFiles sizes disk
  good : AllGood sizes disk = true → items = (chunks L (diskStream sizes disk)).map dataItem

theorem mem_excs_of_item (H : List α → δ) (L : Nat) (sizes : List Nat) (stored : List δ)
    (items : List (Item α)) (it : Item α) (e : Nat × ErrKind) (hit : it ∈ items)
    (he : e ∈ it.excs) :
    excOf e ∈ excsOf (callsOf H L sizes stored items) := by
  have : excOf e ∈ (reported items).map excOf :=
    List.mem_map_of_mem (List.mem_flatten.mpr ⟨_, List.mem_map_of_mem hit, he⟩)
  rw [← excs_file H L sizes stored items 0] at this
  exact (List.mem_filter.mp this).1

/-- A run with an item that carries an exception: that item has no digest, so there are fewer
    digests than `stored` has entries, and its exception is handed over. -/
theorem Trace.of_exc {H : List α → δ} {L : Nat} {sizes : List Nat} {disk : List (Option (List α))}
    {stored : List δ} {items : List (Item α)} (hlen : stored.length = nPieces L sizes.sum)
    (len : items.length = nPieces L sizes.sum) (data : items.map (·.data) = specData L sizes disk)
    (clean : ∀ it ∈ items, it.data.isSome → it.excs = []) (hex : ∃ it ∈ items, it.excs ≠ []) :
    Trace H L sizes disk stored false items := by
  refine ⟨len, data, clean, beq_eq_false_iff_ne.mpr fun heq => ?_, fun _ => ?_⟩
  · have hlt := length_hashes_lt H items hex
    rw [heq] at hlt
    omega
  · obtain ⟨it, hmem, hne⟩ := hex
    obtain ⟨e, he⟩ := List.exists_mem_of_ne_nil _ hne
    exact List.ne_nil_of_mem (mem_excs_of_item H L sizes stored items it e hmem he)

theorem run_exists (H : List α → δ) (L : Nat) (hL : 0 < L) (sizes : List Nat)
    (disk : List (Option (List α))) (stored : List δ)
    (hyp : NoBadEmpty sizes disk = true) (hlen : stored.length = nPieces L sizes.sum) :
    ∃ items, Run H L sizes disk stored items := by
  obtain ⟨items, hit, hdata, hclean, hrep⟩ := iterItems_spec L hL sizes disk hyp
  have hcount : items.length = nPieces L sizes.sum := by
    have := congrArg List.length hdata
    rwa [List.length_map, length_specData L hL] at this
  refine ⟨items, ?_, hit, hrep, fun hg => ?_⟩
  · by_cases hg : AllGood sizes disk = true
    · -- every piece carries data, so a digest that differs is handed over
      cases Option.some.inj ((iterItems_all_good L hL sizes disk hg).symm.trans hit)
      have hl : (chunks L (diskStream sizes disk)).length = stored.length := by
        rw [← List.length_map (f := dataItem), hcount, hlen]
      refine ⟨hcount, hdata, fun it h1 h2 => (hclean it h1 h2).1, ?_, fun hs hnil => ?_⟩
      · rw [hashes_dataItems]
        simp [SpecOk, hg]
      · rw [excs_dataItems_eq_nil_iff H L sizes stored _ hl] at hnil
        simp [SpecOk, hg, hnil] at hs
    · rw [show SpecOk H L sizes disk stored = false by simp [SpecOk, hg]]
      exact .of_exc hlen hcount hdata (fun it h1 h2 => (hclean it h1 h2).1)
        (exists_excs_of_reported_ne_nil items
          (by rw [hrep]; exact fun h => hg ((badFiles_eq_nil_iff sizes disk).mp h)))
  · exact Option.some.inj ((iterItems_all_good L hL sizes disk hg).symm.trans hit).symm

theorem Run.ok_iff {H : List α → δ} {L : Nat} {sizes : List Nat} {disk : List (Option (List α))}
    {stored : List δ} {items : List (Item α)} (run : Run H L sizes disk stored items) :
    SpecOk H L sizes disk stored = true ↔ excsOf (callsOf H L sizes stored items) = [] := by
  constructor
  · intro hs
    obtain ⟨hg, heq⟩ : AllGood sizes disk = true ∧ (chunks L (diskStream sizes disk)).map H = stored := by
      simpa [SpecOk] using hs
    rw [run.good hg]
    exact (excs_dataItems_eq_nil_iff H L sizes stored _
      (by rw [← heq, List.length_map])).mpr heq
  · intro hnil
    cases hs : SpecOk H L sizes disk stored with
    | true => rfl
    | false => exact absurd hnil (run.exc hs)

theorem verifySeq_run (H : List α → δ) (L : Nat) (hL : 0 < L) (sizes : List Nat)
    (disk : List (Option (List α))) (stored : List δ) (single pathIsDir : Bool)
    (hp : single = !pathIsDir) (hyp : NoBadEmpty sizes disk = true)
    (hlen : stored.length = nPieces L sizes.sum) :
    ∃ items, Run H L sizes disk stored items ∧
      verifySeq H L sizes disk stored true single pathIsDir =
        (.ok (SpecOk H L sizes disk stored), callsOf H L sizes stored items) ∧
      verifySeq H L sizes disk stored false single pathIsDir =
        (match (excsOf (callsOf H L sizes stored items)).head? with
          | some e => .error e
          | none => .ok true, []) := by
  obtain ⟨items, run⟩ := run_exists H L hL sizes disk stored hyp hlen
  refine ⟨items, run, ?_, ?_⟩ <;> rw [verifySeq_eq_collect _ _ _ _ _ _ _ _ hp, run.hit]
  · exact run.toTrace.collect_cb hlen
  · exact run.toTrace.collect_nocb hlen

theorem verifySeq_good_iff (H : List α → δ) (L : Nat) (hL : 0 < L) (sizes : List Nat)
    (disk : List (Option (List α))) (stored : List δ) (single pathIsDir : Bool)
    (hp : single = !pathIsDir) (hgood : AllGood sizes disk = true) :
    (verifySeq H L sizes disk stored false single pathIsDir).1 = .ok true ↔
      SpecOk H L sizes disk stored = true := by
  rw [verifySeq_eq_collect _ _ _ _ _ _ _ _ hp, iterItems_all_good L hL sizes disk hgood]
  simp only [collect_dataItems_iff, SpecOk, hgood, Bool.true_and, beq_iff_eq]

theorem verifySeq_damaged_nocb (H : List α → δ) (L : Nat) (sizes : List Nat)
    (disk : List (Option (List α))) (stored : List δ) (single pathIsDir : Bool)
    (hp : single = !pathIsDir) (hg : AllGood sizes disk = false) :
    (verifySeq H L sizes disk stored false single pathIsDir).1 ≠ .ok true := by
  obtain ⟨j0, kind, hj0, hbad, hfirst⟩ := exists_first_some (fileError sizes disk) _ hg
  have h := VerifyFs.fold_step2_first_bad L sizes disk disk sizes.length j0 kind hj0 hbad hfirst
  rw [VerifyFs.step2_self] at h
  rw [verifySeq_eq_collect _ _ _ _ _ _ _ _ hp]
  cases hit : iterItems L sizes disk with
  | none => simp
  | some items =>
    obtain ⟨hnf, tl, rfl⟩ := itemsOf_eq_some _ items hit
    rcases h with hf | ⟨pre, es, rest, hout⟩
    · rw [hf] at hnf; cases hnf
    · -- the fake item of `j0` is among the items, so something is raised
      rw [hout]
      exact collect_nocb_of_exc H L sizes stored _ none ⟨none, j0, (j0, kind) :: es⟩ (by simp)
        (List.cons_ne_nil _ _)

end Torf.Verify
