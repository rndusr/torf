/-
  The building blocks of `Torf.Model.Validate` (`getItem`, `keyExists`, `assertFinal`, `assertType`, lookups) and the
  form in which every stage of `validate()` is analysed: `Checks X P r`.
-/
import Torf.Lemmas.Export
import Torf.Lemmas.Lookup
namespace Torf.Validate
open Torf Torf.Export

/-- The result `r` of a stage of `validate()`: success establishes `P`, and a failure is MetainfoError — the latter
    outside the class of finding D07f only, which is what `X` stands for (a stage that can raise nothing else is a
    `Checks X` for every `X`). -/
structure Checks (X P : Prop) (r : Except ErrKind Unit) : Prop where
  ok : r = .ok () → P
  err : X → ∀ e, r = .error e → e = .metainfo

section
variable {X X' P Q : Prop} {r x y : Except ErrKind Unit}

theorem Checks.done (h : P) : Checks X P (.ok ()) := ⟨fun _ => h, fun _ _ he => nomatch he⟩

theorem Checks.metainfo : Checks X P (.error .metainfo) :=
  ⟨nofun, fun _ _ he => (Except.error.inj he).symm⟩

theorem Checks.imp (h : Checks X P r) (hpq : P → Q) : Checks X Q r := ⟨fun hr => hpq (h.ok hr), h.err⟩

theorem Checks.mono (h : Checks X P r) (hx : X' → X) : Checks X' P r := ⟨h.ok, fun hX => h.err (hx hX)⟩

theorem Checks.of_cases (h : (r = .ok () ∧ P) ∨ r = .error .metainfo) : Checks X P r := by
  rcases h with ⟨rfl, hp⟩ | rfl
  · exact Checks.done hp
  · exact Checks.metainfo

theorem Checks.bind (hx : Checks X P x) (hy : P → Checks X Q y) : Checks X Q (x >>= fun _ => y) := by
  cases x with
  | error e => exact ⟨nofun, hx.err⟩
  | ok u => exact hy (hx.ok rfl)

theorem Checks.ite {c : Prop} [Decidable c] (hx : c → Checks X P x) (hy : ¬ c → Checks X P y) :
    Checks X P (if c then x else y) := by
  split
  · exact hx ‹_›
  · exact hy ‹_›

/-- `if c: raise MetainfoError` -/
theorem Checks.guard {c : Prop} [Decidable c] :
    Checks X (¬ c) (if c then throw .metainfo else pure ()) :=
  Checks.ite (fun _ => Checks.metainfo) Checks.done

theorem Checks.forM {α : Type} {l : List α} {f : α → Except ErrKind Unit} {R : α → Prop}
    (h : ∀ a ∈ l, Checks X (R a) (f a)) : Checks X (∀ a ∈ l, R a) (l.forM f) := by
  induction l with
  | nil => exact Checks.done (fun _ h => nomatch h)
  | cons a t ih =>
    refine ((h a List.mem_cons_self).bind fun ha =>
      (ih fun b hb => h b (List.mem_cons_of_mem _ hb)).imp ?_ : Checks X _ (f a >>= fun _ => t.forM f))
    intro ht b hb
    rcases List.mem_cons.mp hb with rfl | hb
    · exact ha
    · exact ht b hb

theorem forEnum_eq (f : Nat → PyVal → Except ErrKind Unit) : ∀ (l : List PyVal) (i : Nat),
    forEnum f i l = (l.zipIdx i).forM fun p => f p.2 p.1
  | [], _ => rfl
  | x :: r, i => by rw [forEnum, forEnum_eq f r (i + 1)]; rfl

theorem Checks.forEnum {f : Nat → PyVal → Except ErrKind Unit} {R : Nat → PyVal → Prop} {l : List PyVal}
    (h : ∀ j x, l[j]? = some x → Checks X (R j x) (f j x)) :
    Checks X (∀ j x, l[j]? = some x → R j x) (Validate.forEnum f 0 l) := by
  rw [forEnum_eq]
  exact (Checks.forM fun p hp => h p.2 p.1 (List.mem_zipIdx_iff_getElem?.mp hp)).imp fun H j x hx =>
    H (x, j) (List.mem_zipIdx_iff_getElem?.mpr hx)

theorem forEnum_ok {f : Nat → PyVal → Except ErrKind Unit} {l : List PyVal} (h : forEnum f 0 l = .ok ()) :
    ∀ j x, l[j]? = some x → f j x = .ok () :=
  (Checks.forEnum (X := False) (R := fun j x => f j x = .ok ()) fun _ _ _ => ⟨id, nofun⟩).ok h

end

/-- a `str` key against a sequence is the only way `key_exists_in_list_or_dict` raises -/
def keyFits (obj : PyVal) (k : Key) : Bool :=
  match k, obj with
  | .s _, .list _ | .s _, .tuple _ | .s _, .bytes _ | .s _, .str _ => false
  | _, _ => true

theorem keyFits_i (obj : PyVal) (n : Nat) : keyFits obj (.i n) = true := by cases obj <;> rfl
theorem keyFits_dict (kvs : Items) (k : Key) : keyFits (.dict kvs) k = true := by cases k <;> rfl

def Get.isVal : Get → Bool
  | .val _ => true
  | _ => false

theorem keyExists_of_fits {obj : PyVal} {k : Key} (hf : keyFits obj k = true) :
    keyExists k obj = .ok (getItem obj k).isVal := by
  cases obj with
  | dict kvs =>
    simp only [keyExists, Validate.getItem, pure, Except.pure]
    cases lookupKey k kvs <;> rfl
  | list l | tuple l | bytes l =>
    cases k with
    | s _ => cases hf
    | i n => by_cases hn : n < l.length <;> simp [keyExists, Validate.getItem, pure, Except.pure, pyLen, Get.isVal, hn]
  | str s =>
    cases k with
    | s _ => cases hf
    | i n =>
      by_cases hn : n < s.toList.length <;>
        simp [keyExists, Validate.getItem, pure, Except.pure, pyLen, Get.isVal, hn, ← String.length_toList]
  | _ => cases k <;> rfl

theorem checkVal_cases (r : Rule) (v : PyVal) : checkVal r v = .ok () ∨ checkVal r v = .error .metainfo := by
  unfold checkVal
  split
  · exact .inl rfl
  · exact .inr rfl

theorem assertFinal_eq {obj : PyVal} {k : Key} (hf : keyFits obj k = true) (r : Rule) :
    assertFinal obj k r =
      match getItem obj k with
      | .val v => checkVal r v
      | _ => if r.mustExist then throw .metainfo else pure () := by
  simp only [assertFinal, keyExists_of_fits hf, bind, Except.bind]
  cases getItem obj k <;> rfl

/-- the value satisfies the rule, said of the rule's two components: for a rule that is written out, the facts about
    the value are its projections -/
def Rule.Holds (r : Rule) (v : PyVal) : Prop := r.types v = true ∧ ∀ c, r.check = some c → c v = true

theorem passes_iff {r : Rule} {v : PyVal} : passes r v = true ↔ r.Holds v := by
  unfold passes Rule.Holds
  cases r.check <;> simp

/-- `assert_type` raises nothing but MetainfoError when the key fits the container (whatever the offending value
    is: the message is built with `safe_repr`) -/
theorem assertFinal_checks {X : Prop} {obj : PyVal} {k : Key} (hf : keyFits obj k = true) (r : Rule) :
    Checks X ((∀ v, getItem obj k = .val v → r.Holds v) ∧
        (r.mustExist = true → ∃ v, getItem obj k = .val v ∧ r.Holds v))
      (assertFinal obj k r) := by
  rw [assertFinal_eq hf]
  cases getItem obj k with
  | val v =>
    show Checks X _ (if passes r v then pure () else throw .metainfo)
    refine Checks.ite (fun hp => ?_) fun _ => Checks.metainfo
    have hp := passes_iff.mp hp
    exact Checks.done ⟨fun v' hv' => by cases hv'; exact hp, fun _ => ⟨v, rfl, hp⟩⟩
  | missing | typeError => exact Checks.guard.imp fun hm => ⟨nofun, fun h => absurd h hm⟩

theorem getItem_dict_s (kvs : Items) (s : String) :
    getItem (.dict kvs) (.s s) =
      match PyVal.lookupStr s kvs with | some v => .val v | none => .missing := by
  simp only [Validate.getItem, lookupKey]
  cases PyVal.lookupStr s kvs <;> rfl

theorem getItem_dict_s_iff {kvs : Items} {s : String} {v : PyVal} :
    getItem (.dict kvs) (.s s) = .val v ↔ PyVal.lookupStr s kvs = some v := by
  rw [getItem_dict_s]
  cases PyVal.lookupStr s kvs <;> simp

theorem getItem_dict_s_some {kvs : Items} {s : String} {v : PyVal}
    (h : PyVal.lookupStr s kvs = some v) : getItem (.dict kvs) (.s s) = .val v :=
  getItem_dict_s_iff.mpr h

theorem assertFinal_dict_checks {X : Prop} {kvs : Items} {s : String} (r : Rule) :
    Checks X ((∀ v, PyVal.lookupStr s kvs = some v → r.Holds v) ∧
        (r.mustExist = true → ∃ v, PyVal.lookupStr s kvs = some v ∧ r.Holds v))
      (assertFinal (.dict kvs) (.s s) r) :=
  (assertFinal_checks (keyFits_dict kvs _) r).imp fun ⟨h1, h2⟩ =>
    ⟨fun v hv => h1 v (getItem_dict_s_some hv), fun hm =>
      let ⟨v, hv, hp⟩ := h2 hm; ⟨v, getItem_dict_s_iff.mp hv, hp⟩⟩

theorem assertType_single (obj : PyVal) (k : Key) (r : Rule) :
    assertType obj [k] r = assertFinal obj k r := by simp only [assertType]

theorem assertType_step {obj v : PyVal} {k k' : Key} {rest : List Key} {r : Rule}
    (h : getItem obj k = .val v) :
    assertType obj (k :: k' :: rest) r = assertType v (k' :: rest) r := by
  simp only [assertType, h]

theorem getE_ok_iff {obj v : PyVal} {k : Key} : getE obj k = .ok v ↔ getItem obj k = .val v := by
  unfold getE
  cases getItem obj k <;> simp [pure, Except.pure, throw, throwThe, MonadExceptOf.throw]

theorem getE_ok {obj v : PyVal} {k : Key} (h : getItem obj k = .val v) : getE obj k = .ok v :=
  getE_ok_iff.mpr h

theorem getE_dict {kvs : Items} {s : String} {v : PyVal} (h : PyVal.lookupStr s kvs = some v) :
    getE (.dict kvs) (.s s) = .ok v :=
  getE_ok (getItem_dict_s_some h)

theorem lookupNat_eq_firstWith (n : Nat) : ∀ a : Items, lookupNat n a = firstWith (keyEqNat n) a
  | [] => rfl
  | (key, v) :: t => by simp only [lookupNat, firstWith, lookupNat_eq_firstWith n t]

theorem ensureInfo_cases (md0 : Items) :
    (ensureInfo md0 = md0 ∧ ∃ iv, PyVal.lookupStr "info" md0 = some iv) ∨
      PyVal.lookupStr "info" (ensureInfo md0) = some (.dict []) := by
  unfold ensureInfo
  split
  · rename_i v h; exact .inl ⟨rfl, v, h⟩
  · rename_i h; right; rw [lookupStr_append, h]; simp [PyVal.lookupStr]

theorem ensureInfo_lookup (md0 : Items) : ∃ iv, PyVal.lookupStr "info" (ensureInfo md0) = some iv := by
  rcases ensureInfo_cases md0 with ⟨he, iv, h⟩ | h
  · exact ⟨iv, he.symm ▸ h⟩
  · exact ⟨_, h⟩

end Torf.Validate
