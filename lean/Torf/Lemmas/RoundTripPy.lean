/-
  From the Python-level export hypotheses on a torrent (`PyPiecesOk`, `PyPrivateOk`, `PyDateOk`)
  to the document-level hypotheses on what `dump()` writes.
-/
import Torf.Lemmas.RoundTripBack
namespace Torf.ReadStream
open Torf Torf.Bencode Torf.Codec

/-- `info['pieces']`, if present, is `bytes` (or a `str`, which is written as its UTF-8 bytes) -/
def PyPiecesOk (t : List (PyVal × PyVal)) : Prop :=
  ∀ ikvs m, PyVal.lookupStr "info" (ensureInfo t) = some (.dict ikvs) →
    PyVal.lookupStr "pieces" ikvs = some m → ∃ b, encodeValue m = .ok (.bytes b)

/-- `info['private']`, if present, is written as `i0e` or `i1e` (a bool, or the int 0/1) -/
def PyPrivateOk (t : List (PyVal × PyVal)) : Prop :=
  ∀ ikvs m, PyVal.lookupStr "info" (ensureInfo t) = some (.dict ikvs) →
    PyVal.lookupStr "private" ikvs = some m →
    encodeValue m = .ok (.int 0) ∨ encodeValue m = .ok (.int 1)

/-- `metainfo['creation date']`, if present, is written as an integer `i` that
    `datetime.fromtimestamp` maps to a datetime whose `int(timestamp())` is `i` again -/
def PyDateOk (env : Env) (t : List (PyVal × PyVal)) : Prop :=
  ∀ m, PyVal.lookupStr "creation date" (ensureInfo t) = some m →
    ∃ i, encodeValue m = .ok (.int i) ∧ env.fromTs i = some (.datetime (some i))

/- Introduction rules, for a torrent given explicitly (`pyT` in `Properties/C05.lean`). -/

theorem PyPiecesOk.of_lookup {t I : List (PyVal × PyVal)} {m : PyVal} {b : Bytes}
    (hi : PyVal.lookupStr "info" (ensureInfo t) = some (.dict I))
    (hp : PyVal.lookupStr "pieces" I = some m) (hm : encodeValue m = .ok (.bytes b)) :
    PyPiecesOk t := fun ikvs m' h1 h2 => by
  obtain rfl : I = ikvs := PyVal.dict.inj (Option.some.inj (hi.symm.trans h1))
  exact ⟨b, Option.some.inj (hp.symm.trans h2) ▸ hm⟩

theorem PyPrivateOk.of_lookup {t I : List (PyVal × PyVal)} {m : PyVal}
    (hi : PyVal.lookupStr "info" (ensureInfo t) = some (.dict I))
    (hp : PyVal.lookupStr "private" I = some m)
    (hm : encodeValue m = .ok (.int 0) ∨ encodeValue m = .ok (.int 1)) :
    PyPrivateOk t := fun ikvs m' h1 h2 => by
  obtain rfl : I = ikvs := PyVal.dict.inj (Option.some.inj (hi.symm.trans h1))
  exact Option.some.inj (hp.symm.trans h2) ▸ hm

theorem PyDateOk.of_lookup {env : Env} {t : List (PyVal × PyVal)} {m : PyVal} {i : Int}
    (h : PyVal.lookupStr "creation date" (ensureInfo t) = some m)
    (hm : encodeValue m = .ok (.int i)) (hts : env.fromTs i = some (.datetime (some i))) :
    PyDateOk env t := fun _ h' => ⟨i, Option.some.inj (h.symm.trans h') ▸ hm, hts⟩

/-- an entry of the parsed dump comes from an entry of the Python dict -/
theorem lookup_norm_encodeDict {D : List (PyVal × PyVal)} {ukvs : List (Bytes × BVal)}
    {k : String} {w' : BVal}
    (hw : wf (.dict D) = true) (hu : encodeDict D = .ok (.dict ukvs))
    (hl : lookup (utf8Enc k) (isort keyLe (normKvs ukvs)) = some w') :
    ∃ m w, PyVal.lookupStr k D = some m ∧ encodeValue m = .ok w ∧ w' = norm w := by
  rcases encodeDict_lookup_cases (wf_dict hw).1 hu k with ⟨_, h⟩ | ⟨m, w, hm, hew, h⟩
  · exact nomatch h.symm.trans hl
  · exact ⟨m, w, hm, hew, Option.some.inj (hl.symm.trans h)⟩

section
variable {t : List (PyVal × PyVal)} {ukvs : List (Bytes × BVal)}
  (hw : wf (.dict (ensureInfo t)) = true) (hu : encodeDict (ensureInfo t) = .ok (.dict ukvs))
include hw hu

theorem dateOk_of_py {env : Env} (h : PyDateOk env t) :
    DateOk env (isort keyLe (normKvs ukvs)) := by
  intro cd hcd
  rw [← kCreationDate_eq] at hcd
  obtain ⟨m, w, hm, hew, rfl⟩ := lookup_norm_encodeDict hw hu hcd
  obtain ⟨i, hi, hts⟩ := h m hm
  obtain rfl := Except.ok.inj (hi.symm.trans hew)
  exact ⟨i, rfl, hts⟩

variable {ikvs : List (PyVal × PyVal)}
  (hli : PyVal.lookupStr "info" (ensureInfo t) = some (.dict ikvs))
include hli

theorem lookup_info_norm {ienc : List (Bytes × BVal)} {k : String} {p : BVal}
    (h1 : lookup kInfo (isort keyLe (normKvs ukvs)) = some (.dict ienc))
    (h2 : lookup (utf8Enc k) ienc = some p) :
    ∃ m w, PyVal.lookupStr k ikvs = some m ∧ encodeValue m = .ok w ∧ p = norm w := by
  rw [← kInfo_eq] at h1
  obtain ⟨m, w, hm, hew, hnw⟩ := lookup_norm_encodeDict hw hu h1
  obtain rfl := Option.some.inj (hli.symm.trans hm)
  obtain ⟨_, _, rfl⟩ := encodeValue_dict_ok hew
  obtain rfl := BVal.dict.inj hnw
  exact lookup_norm_encodeDict (wf_of_lookupStr (wf_dict hw).2 hli) hew h2

theorem piecesOk_of_py (h : PyPiecesOk t) : PiecesOk (isort keyLe (normKvs ukvs)) := by
  intro ienc p h1 h2
  rw [← kPieces_eq] at h2
  obtain ⟨m, w, hm, hew, rfl⟩ := lookup_info_norm hw hu hli h1 h2
  obtain ⟨b, hb⟩ := h ikvs m hli hm
  obtain rfl := Except.ok.inj (hb.symm.trans hew)
  exact ⟨b, rfl⟩

theorem privateOk_of_py (h : PyPrivateOk t) : PrivateOk (isort keyLe (normKvs ukvs)) := by
  intro ienc p h1 h2
  rw [← kPrivate_eq] at h2
  obtain ⟨m, w, hm, hew, rfl⟩ := lookup_info_norm hw hu hli h1 h2
  rcases h ikvs m hli hm with hb | hb <;> obtain rfl := Except.ok.inj (hb.symm.trans hew)
  · exact .inl rfl
  · exact .inr rfl

end

end Torf.ReadStream
