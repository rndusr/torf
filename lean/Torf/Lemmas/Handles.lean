/-
  Lemmas about `Torf.Model.Handles` (C19): the table stays within `cap + 1`, and what `get_piece`
  answers does not depend on the handle table it starts from (the iteration: Lemmas/HandlesSpec).
  What is read never depends on the table because the readers meet it only as `Unread`: a handle
  that `_get_open_file` + `seek` have just put where it is wanted, and that `read` moves on.
-/
import Torf.Model.Handles
import Torf.Lemmas.Stream
import Torf.Lemmas.Fold
namespace Torf.Handles
open Torf

theorem evict_eq_drop (cap : Nat) (t : Table) : evict cap t = t.drop (t.length - cap) :=
  Torf.evict_eq_drop rfl (fun _ _ => rfl) t

theorem length_evict_le (cap : Nat) (t : Table) : (evict cap t).length ≤ cap := by
  rw [evict_eq_drop, List.length_drop]; omega

theorem length_getOpenFile_le (cap : Nat) (t : Table) (j : Nat) (h : t.length ≤ cap + 1) :
    (getOpenFile cap t j).length ≤ cap + 1 := by
  unfold getOpenFile
  split
  · exact h
  · rw [List.length_append]
    exact Nat.succ_le_succ (length_evict_le cap t)

@[simp] theorem length_seek (t : Table) (j o : Nat) : (seek t j o).length = t.length := by
  simp [seek]

@[simp] theorem length_read (files : List (List α)) (t : Table) (j n : Nat) :
    (read files t j n).2.1.length = t.length := by
  unfold read
  cases offsetOf t j <;> simp

theorem offsetOf_seek_self (t : Table) (j o o' : Nat) (h : offsetOf t j = some o') :
    offsetOf (seek t j o) j = some o := by
  induction t with
  | nil => simp [offsetOf] at h
  | cons e t ih =>
    simp only [seek, List.map_cons, offsetOf] at h ih ⊢
    by_cases he : e.1 = j
    · simp [he]
    · simp only [beq_iff_eq, he, if_false] at h ⊢
      simpa using ih h

theorem offsetOf_of_hasKey (t : Table) (j : Nat) (h : hasKey t j = true) :
    ∃ o, offsetOf t j = some o := by
  induction t with
  | nil => simp [hasKey] at h
  | cons e t ih =>
    by_cases he : e.1 == j
    · exact ⟨e.2, by simp [offsetOf, he]⟩
    · have : hasKey t j = true := by
        simp only [hasKey, List.any_cons, he, Bool.false_or] at h
        exact h
      obtain ⟨o, ho⟩ := ih this
      exact ⟨o, by simp [offsetOf, he, ho]⟩

theorem offsetOf_getOpenFile (cap : Nat) (t : Table) (j : Nat) :
    ∃ o, offsetOf (getOpenFile cap t j) j = some o := by
  unfold getOpenFile
  by_cases hk : hasKey t j
  · simp only [hk, if_true]; exact offsetOf_of_hasKey t j hk
  · simp only [hk, Bool.false_eq_true, if_false]; exact offsetOf_of_hasKey _ j (by simp [hasKey])

theorem offsetOf_open_seek (cap : Nat) (t : Table) (j o : Nat) :
    offsetOf (seek (getOpenFile cap t j) j o) j = some o := by
  obtain ⟨o', ho⟩ := offsetOf_getOpenFile cap t j
  exact offsetOf_seek_self _ j o o' ho

theorem read_of_offset (files : List (List α)) (t : Table) (j n o : Nat)
    (h : offsetOf t j = some o) :
    read files t j n =
      (((files.getD j []).drop o).take n,
        seek t j (o + (((files.getD j []).drop o).take n).length), true) := by
  simp only [read, h]

/-- What a reader sees of the table: the handle of file `j` is open, and `rest` is what it has not
    read yet.  The two lemmas below are all the iteration and `get_piece` use of the table. -/
def Unread (files : List (List α)) (t : Table) (j : Nat) (rest : List α) : Prop :=
  ∃ o, offsetOf t j = some o ∧ (files.getD j []).drop o = rest

/-- Every read of the code is preceded, in the same operation, by `_get_open_file` and `seek` on the
    same file: the handle is there and stands at the offset asked for, whatever the table was. -/
theorem unread_open_seek (files : List (List α)) (cap : Nat) (t : Table) (j o : Nat) :
    Unread files (seek (getOpenFile cap t j) j o) j ((files.getD j []).drop o) :=
  ⟨o, offsetOf_open_seek cap t j o, rfl⟩

theorem read_unread {files : List (List α)} {t : Table} {j : Nat} {rest : List α}
    (h : Unread files t j rest) (n : Nat) :
    ∃ t', read files t j n = (rest.take n, t', true) ∧ Unread files t' j (rest.drop n) := by
  obtain ⟨o, ho, rfl⟩ := h
  refine ⟨_, read_of_offset files t j n o ho, _, offsetOf_seek_self t j _ o ho, ?_⟩
  rw [← List.drop_drop, List.length_take]
  by_cases hn : n ≤ ((files.getD j []).drop o).length
  · rw [Nat.min_eq_left hn]
  · rw [List.drop_eq_nil_of_le (by omega), List.drop_eq_nil_of_le (by omega)]

@[simp] theorem bad_emit (x : List α) (p : IterP α) : (emit x p).bad = p.bad := rfl

/-! ### `iter_pieces` moves offsets only: the table keeps its length -/

theorem length_readLoop (files : List (List α)) (L j fuel : Nat) (p : IterP α) (t : Table) :
    (readLoop files L j fuel p t).2.length = t.length := by
  induction fuel generalizing p t with
  | zero => simp [readLoop]
  | succ fuel ih =>
    unfold readLoop
    split
    · rfl
    · simp only
      split
      · simp
      · rw [ih]; simp

theorem length_afterPrepend (files : List (List α)) (L j : Nat) (r : IterP α × List α) (t : Table) :
    (afterPrepend files L j r t).2.length = t.length := by
  unfold afterPrepend
  simp only
  split
  · rfl
  · split
    · rw [length_readLoop]
    · rw [length_readLoop, length_read]

theorem length_fromHandle (files : List (List α)) (L j : Nat) (p : IterP α) (t : Table) :
    (fromHandle files L j p t).2.length = t.length := by
  unfold fromHandle; exact length_afterPrepend _ _ _ _ _

theorem length_fileStep (fix : Bool) (files : List (List α)) (cap L j : Nat) (pt : IterP α × Table)
    (h : pt.2.length ≤ cap + 1) : (fileStep fix files cap L pt j).2.length ≤ cap + 1 := by
  unfold fileStep
  split
  · exact h
  · simp only
    rw [length_fromHandle]
    have := length_getOpenFile_le cap pt.2 j h
    split
    · simpa using this
    · exact this

theorem length_iterRun (fix : Bool) (files : List (List α)) (cap L : Nat) (k : Option Nat) (t : Table)
    (h : t.length ≤ cap + 1) : (iterRun fix files cap L k t).2.length ≤ cap + 1 := by
  have hr : ((List.range files.length).foldl (fileStep fix files cap L) (iterInit k, t)).2.length ≤ cap + 1 :=
    List.foldlRecOn (motive := fun pt : IterP α × Table => pt.2.length ≤ cap + 1) _ _ h
      fun pt h j _ => length_fileStep fix files cap L j pt h
  -- the final `yield` leaves the table alone
  unfold iterRun
  simp only
  split
  · exact hr
  · exact hr

/-- one answer from every table; `bad`, the flag for a read on a closed handle, comes back unchanged -/
theorem getPieceLoop_indep (files : List (List α)) (cap : Nat) (js : List Nat) (seekTo n : Nat)
    (piece : List α) (bad : Bool) :
    ∃ p, ∀ t, (getPieceLoop files cap js seekTo n piece bad t).1 = (p, bad) := by
  induction js generalizing seekTo n piece with
  | nil => exact ⟨piece, fun _ => rfl⟩
  | cons j js ih =>
    obtain ⟨p, hp⟩ := ih 0 (n - (((files.getD j []).drop seekTo).take n).length)
      (piece ++ ((files.getD j []).drop seekTo).take n)
    refine ⟨p, fun t => ?_⟩
    unfold getPieceLoop
    simp only
    obtain ⟨u, hr, _⟩ := read_unread (unread_open_seek files cap t j seekTo) n
    rw [hr]
    simp only [Bool.not_true, Bool.or_false]
    exact hp u

theorem length_getPieceLoop (files : List (List α)) (cap : Nat) (js : List Nat) (seekTo n : Nat)
    (piece : List α) (bad : Bool) (t : Table) (h : t.length ≤ cap + 1) :
    (getPieceLoop files cap js seekTo n piece bad t).2.length ≤ cap + 1 := by
  induction js generalizing seekTo n piece bad t with
  | nil => simpa [getPieceLoop] using h
  | cons j js ih =>
    unfold getPieceLoop
    simp only
    apply ih
    simpa using length_getOpenFile_le cap t j h

/-- `get_piece` never reads from a handle it has not just obtained, so the branch for a closed
    handle is dead: a failed range check or geometry helper, or the loop and the length check -/
theorem getPiece_eq (c : Cfg α δ) (i : Int) (t : Table) :
    getPiece c i t =
      if ¬ (0 ≤ i ∧ i ≤ ((c.total : Int) - 1) / (c.L : Int)) then (.error .value, t) else
      match c.geom i.toNat with
      | .error e => (.error e, t)
      | .ok (rel, seekTo) =>
        let r := getPieceLoop c.files c.cap rel seekTo c.L [] false t
        (if r.1.1.length ≠ expLen c.L c.total i.toNat then .error .assertion else .ok r.1.1, r.2) := by
  unfold getPiece
  refine ite_congr rfl (fun _ => rfl) fun _ => ?_
  cases c.geom i.toNat with
  | error e => rfl
  | ok r =>
    obtain ⟨p, hp⟩ := getPieceLoop_indep c.files c.cap r.1 r.2 c.L [] false
    simp only [hp t, Bool.false_eq_true, if_false]
    split <;> rfl

theorem getPiece_indep (c : Cfg α δ) (i : Int) (t t' : Table) :
    (getPiece c i t).1 = (getPiece c i t').1 := by
  rw [getPiece_eq, getPiece_eq]
  split
  · rfl
  · split
    · rfl
    · rename_i rel seekTo _
      obtain ⟨p, hp⟩ := getPieceLoop_indep c.files c.cap rel seekTo c.L [] false
      simp only [hp t, hp t']

theorem length_getPiece (c : Cfg α δ) (i : Int) (t : Table) (h : t.length ≤ c.cap + 1) :
    (getPiece c i t).2.length ≤ c.cap + 1 := by
  rw [getPiece_eq]
  split
  · exact h
  · split
    · exact h
    · exact length_getPieceLoop c.files c.cap _ _ c.L [] false t h

theorem closeAll_eq (snap cur : Table) :
    closeAll snap cur = cur.filter fun x => snap.all fun e => x.1 != e.1 := by
  induction snap generalizing cur with
  | nil => simp [closeAll, List.filter_eq_self.2]
  | cons e snap ih =>
    rw [closeAll, ih]
    simp only [List.filter_filter, List.all_cons, Bool.and_comm]

theorem closeAll_self (t : Table) : closeAll t t = [] := by
  rw [closeAll_eq]
  exact List.filter_eq_nil_iff.2 fun x hx hall => by simpa using List.all_eq_true.1 hall x hx

theorem run_getPiece [BEq δ] (c : Cfg α δ) (i : Int) (t : Table) :
    run c (.getPiece i) t =
      ⟨match (getPiece c i t).1 with | .ok p => .piece p | .error e => .err e, (getPiece c i t).2⟩ := by
  rw [run]
  rcases getPiece c i t with ⟨x | x, u⟩ <;> rfl

theorem run_getPieceHash [BEq δ] (c : Cfg α δ) (i : Int) (t : Table) :
    run c (.getPieceHash i) t =
      ⟨match (getPiece c i t).1 with | .ok p => .digest (c.H p) | .error e => .err e,
        (getPiece c i t).2⟩ := by
  rw [run]
  rcases getPiece c i t with ⟨x | x, u⟩ <;> rfl

theorem run_verifyPiece [BEq δ] (c : Cfg α δ) (i : Int) (t : Table) {st : δ}
    (hst : pyIndex c.stored i = some st) :
    run c (.verifyPiece i) t =
      ⟨match (getPiece c i t).1 with | .ok p => .bool (st == c.H p) | .error e => .err e,
        (getPiece c i t).2⟩ := by
  rw [run, hst]
  rcases getPiece c i t with ⟨x | x, u⟩ <;> rfl

theorem run_bound [BEq δ] (c : Cfg α δ) (op : Op) (t : Table) (h : t.length ≤ c.cap + 1) :
    (run c op t).tbl.length ≤ c.cap + 1 := by
  have hg : ∀ i, (getPiece c i t).2.length ≤ c.cap + 1 := fun i => length_getPiece c i t h
  cases op with
  | iterFull => exact length_iterRun _ _ _ _ _ _ h
  | iterAbandon k => exact length_iterRun _ _ _ _ _ _ h
  | getPiece i => rw [run_getPiece]; exact hg i
  | getPieceHash i => rw [run_getPieceHash]; exact hg i
  | verifyPiece i =>
    cases hst : pyIndex c.stored i with
    | none => simp only [run, hst]; exact h
    | some st => rw [run_verifyPiece c i t hst]; exact hg i
  | close => simp [run, closeAll_self]
  | ctxExit => simp [run, closeAll_self]

theorem runAll_bound [BEq δ] (c : Cfg α δ) (ops : List Op) (t : Table) (h : t.length ≤ c.cap + 1) :
    ∀ r ∈ runAll c ops t, r.2 ≤ c.cap + 1 := by
  induction ops generalizing t with
  | nil => intro r hr; simp [runAll] at hr
  | cons op ops ih =>
    intro r hr
    simp only [runAll, List.mem_cons] at hr
    have hb := run_bound c op t h
    rcases hr with rfl | hr
    · exact hb
    · exact ih _ hb r hr

theorem runAllS_bound [BEq δ] (c : Cfg α δ) (ss : List (Step δ)) (t : Table)
    (h : t.length ≤ c.cap + 1) : ∀ r ∈ runAllS c ss t, r.2 ≤ c.cap + 1 := by
  induction ss generalizing c t with
  | nil => intro r hr; simp [runAllS] at hr
  | cons s ss ih =>
    intro r hr
    cases s with
    | op o =>
      simp only [runAllS, List.mem_cons] at hr
      have hb := run_bound c o t h
      rcases hr with rfl | hr
      · exact hb
      · exact ih c _ hb r hr
    | setStored hs =>
      simp only [runAllS, List.mem_cons] at hr
      rcases hr with rfl | hr
      · exact h
      · exact ih { c with stored := hs } t h r hr

/-- with a record per call the answer is `Missing.iterItems`, whatever record the object holds,
    and the object's record is left alone -/
theorem iterDamaged_perCall (L : Nat) (sizes : List Nat) (disk : List (Option (List α))) (m : MRec) :
    iterDamaged true L sizes disk m = (Missing.iterItems L sizes disk, m) := rfl

end Torf.Handles
