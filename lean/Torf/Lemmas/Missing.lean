/-
  Lemmas for C10: the invariant over the whole main loop, the final
  `if trailing_bytes: yield …`, and the resulting specification of `iterItems`.
-/
import Torf.Lemmas.MissingStep
namespace Torf.Missing
open Torf

/-- Invariant at the head of iteration `j` of `for file in files`: the files `j .. m-1` are
    by-catch files (they will be skipped) and `Core` holds for `m`. -/
def Inv (L : Nat) (sizes : List Nat) (disk : List (Option (List α))) (j : Nat) (st : St α) : Prop :=
  ∃ m, j ≤ m ∧ m ≤ sizes.length ∧ (∀ k, j ≤ k → k < m → k ∈ st.bycatch) ∧ Core L sizes disk m st

variable {α : Type} {L : Nat} {sizes : List Nat} {disk : List (Option (List α))} {j : Nat} {st : St α}

theorem Inv.init (hL : 0 < L) : Inv L sizes disk 0 ({} : St α) :=
  ⟨0, Nat.le_refl _, Nat.zero_le _, fun k _ h => absurd h (Nat.not_lt_zero k), Core.init hL⟩

theorem Inv.succ (h : Inv L sizes disk j st) (hL : 0 < L) (hyp : NoBadEmpty sizes disk = true)
    (hj : j < sizes.length) : Inv L sizes disk (j + 1) (step L sizes disk st j) := by
  obtain ⟨m, hjm, hmn, hby, hc⟩ := h
  rcases Nat.eq_or_lt_of_le hjm with rfl | hlt
  · cases hfe : fileError sizes disk j with
    | none =>
      exact ⟨j + 1, Nat.le_refl _, hj, fun k h1 h2 => absurd h2 (Nat.not_lt_of_le h1),
        hc.step_good hL hj hfe⟩
    | some reason =>
      obtain ⟨m', h1, h2, hc', hby'⟩ := hc.step_bad hL hyp hj hfe
      exact ⟨m', h1, h2, hby', hc'⟩
  · -- a by-catch file is passed over
    have hst : step L sizes disk st j = st := by
      unfold step
      simp only [hc.nofail, List.contains_iff_mem.mpr (hby j (Nat.le_refl j) hlt),
        Bool.false_eq_true, if_false, if_true]
    rw [hst]
    exact ⟨m, hlt, hmn, fun k hk => hby k (Nat.le_of_succ_le hk), hc⟩

theorem Inv.fold (h : Inv L sizes disk j st) (hL : 0 < L) (hyp : NoBadEmpty sizes disk = true)
    (d : Nat) (hjd : j + d ≤ sizes.length) :
    Inv L sizes disk (j + d) ((List.range' j d).foldl (step L sizes disk) st) := by
  induction d generalizing j st with
  | zero => simpa using h
  | succ d ih =>
    rw [List.range'_succ, List.foldl_cons]
    have := ih (h.succ hL hyp (by omega)) (by omega)
    rw [show j + (d + 1) = j + 1 + d by omega]
    exact this

theorem iterItems_spec (L : Nat) (hL : 0 < L) (sizes : List Nat) (disk : List (Option (List α)))
    (hyp : NoBadEmpty sizes disk = true) :
    ∃ items, iterItems L sizes disk = some items ∧
      items.map (·.data) = specData L sizes disk ∧
      (∀ it ∈ items, it.data.isSome → it.excs = [] ∧ it.file = 0) ∧
      reported items = badFiles sizes disk := by
  have hinv := (Inv.init hL).fold hL hyp sizes.length (by omega)
  rw [Nat.zero_add, ← List.range_eq_range'] at hinv
  unfold iterItems
  generalize (List.range sizes.length).foldl (step L sizes disk) {} = st at hinv
  obtain ⟨m, hm1, hm2, _, hc⟩ := hinv
  obtain rfl : m = sizes.length := Nat.le_antisymm hm2 hm1
  have hskip : st.skip = 0 :=
    Nat.eq_zero_of_not_pos fun h0 => Nat.lt_irrefl _ (hc.head.skipc h0).1
  -- the carried bytes are the rest of the expected stream, less than a piece
  have hcarry := hc.carry
  have hlt := hc.head.lt
  rw [hskip, Nat.add_zero, pos_length] at hcarry hlt
  rw [List.take_of_length_le (Nat.le_of_eq (length_expStream sizes disk))] at hcarry
  have hshort : st.trailing.length < L := by
    have h1 := congrArg List.length hcarry
    rw [List.length_map, List.length_drop, length_expStream] at h1
    omega
  -- the final `if trailing_bytes: yield …` yields the chunks of the carried bytes
  refine ⟨st.out ++ (chunks L st.trailing).map dataItem, ?_, ?_, ?_, ?_⟩
  · simp only [hc.nofail, Bool.false_eq_true, if_false]
    rw [chunks_short L _ (Nat.le_of_lt hshort) hL]
    split <;> simp
  · rw [List.map_append, map_data_chunks L hL, hcarry, ← specData_drop L hL, hc.emitted.data,
      List.take_append_drop]
  · intro it hit
    rcases List.mem_append.mp hit with h | h
    · exact hc.emitted.clean it h
    · obtain ⟨p, _, rfl⟩ := List.mem_map.mp h
      exact fun _ => ⟨rfl, rfl⟩
  · rw [reported_append, hc.emitted.rep, badUpTo_length]
    simp [reported, dataItem]

theorem items_eq_of_data (items : List (Item α)) (ds : List (List α))
    (h1 : items.map (·.data) = ds.map some)
    (h2 : ∀ it ∈ items, it.data.isSome → it.excs = [] ∧ it.file = 0) :
    items = ds.map dataItem := by
  -- an item with data is determined by its data
  have h : ∀ it ∈ items, dataItem (it.data.getD []) = it := by
    intro it hit
    obtain ⟨d, _, hd⟩ := List.mem_map.mp (h1 ▸ List.mem_map_of_mem (f := Item.data) hit)
    obtain ⟨he, hf⟩ := h2 it hit (hd ▸ rfl)
    cases it
    simp only at hd he hf
    subst hd he hf
    rfl
  calc items = (items.map (·.data)).map fun o => dataItem (o.getD []) := by
        rw [List.map_map]
        exact ((List.map_congr_left (g := id) h).trans (List.map_id items)).symm
    _ = ds.map dataItem := by rw [h1, List.map_map]; rfl

/-- on an undamaged disk the reader yields the chunks of what is on the disk: every chunk is known,
    so every item has data, and such an item is determined by its data -/
theorem iterItems_of_good (L : Nat) (hL : 0 < L) (sizes : List Nat) (disk : List (Option (List α)))
    (hgood : ∀ k < sizes.length, fileError sizes disk k = none) :
    iterItems L sizes disk = some ((chunks L
      ((List.range sizes.length).map fun k => (disk.getD k none).getD []).flatten).map dataItem) := by
  obtain ⟨items, hit, hdata, hclean, _⟩ :=
    iterItems_spec L hL sizes disk (noBadEmpty_of_good sizes disk hgood)
  rw [hit, items_eq_of_data items _ (hdata.trans (specData_of_good L hL sizes disk hgood)) hclean]

end Torf.Missing
