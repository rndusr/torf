/-
  The association lists of the bencode model.  `dictSet` is Python's `d[k] = v` on an insertion-ordered
  dict, `lookup` and `erase` read one (they are core's `List.lookup` and `List.eraseP`; what core proves
  of those is taken from there).
  `list_to_dict` takes the items popped at the `e` of a dict: it pairs them up (`toPairs`), wants a byte
  string in every key position (`mapM_bytesKey_iff`) and inserts the pairs one by one.  The result has
  its keys and values among the items (`mem_listToDict`); from the keys and values of a dict with
  distinct keys, in order (`flatPairs`), it is that dict again (`listToDict_flatPairs`).
-/
import Torf.Model.Bencode
namespace Torf.Bencode

theorem dictSet_fresh (k : Bytes) (v : BVal) (d : List (Bytes × BVal))
    (h : k ∉ d.map (·.1)) : dictSet k v d = d ++ [(k, v)] := by
  induction d with
  | nil => rfl
  | cons p t ih =>
    simp only [List.map_cons, List.mem_cons, not_or] at h
    have hne : (p.1 == k) = false := by
      simp only [beq_eq_false_iff_ne, ne_eq]; exact fun e => h.1 e.symm
    simp only [dictSet, hne, Bool.false_eq_true, if_false, List.cons_append, ih h.2]

theorem mem_dictSet {k : Bytes} {w : BVal} {p : Bytes × BVal} : ∀ {l : List (Bytes × BVal)},
    p ∈ dictSet k w l → p ∈ l ∨ p = (k, w)
  | [], h => .inr (List.mem_singleton.mp h)
  | (k', v') :: t, h => by
    simp only [dictSet] at h
    split at h
    · rename_i hk
      rcases List.mem_cons.mp h with rfl | h
      · exact .inr (by rw [eq_of_beq hk])
      · exact .inl (List.mem_cons_of_mem _ h)
    · rcases List.mem_cons.mp h with rfl | h
      · exact .inl List.mem_cons_self
      · exact (mem_dictSet h).imp (List.mem_cons_of_mem _) id

theorem forall_mem_dictSet {P : Bytes × BVal → Prop} {k : Bytes} {w : BVal}
    {l : List (Bytes × BVal)} (hl : ∀ p ∈ l, P p) (hw : P (k, w)) : ∀ p ∈ dictSet k w l, P p :=
  fun p hp => (mem_dictSet hp).elim (hl p) (· ▸ hw)

theorem foldl_dictSet (ps d : List (Bytes × BVal)) (h : ((d ++ ps).map (·.1)).Nodup) :
    ps.foldl (fun d p => dictSet p.1 p.2 d) d = d ++ ps := by
  induction ps generalizing d with
  | nil => simp
  | cons p t ih =>
    simp only [List.foldl_cons]
    have hfresh : p.1 ∉ d.map (·.1) := by
      simp only [List.map_append, List.map_cons] at h
      have := (List.nodup_append.mp h).2.2
      intro hm
      exact this _ hm _ (by simp) rfl
    rw [dictSet_fresh _ _ _ hfresh, ih]
    · simp
    · simpa using h

theorem forall_mem_foldl_dictSet {P : Bytes × BVal → Prop} (ps : List (Bytes × BVal)) :
    ∀ (d : List (Bytes × BVal)), (∀ p ∈ ps, P p) → (∀ p ∈ d, P p) →
    ∀ p ∈ ps.foldl (fun d p => dictSet p.1 p.2 d) d, P p := by
  induction ps with
  | nil => exact fun d _ hd => hd
  | cons q t ih =>
    exact fun d hps hd => ih _ (fun p hp => hps p (List.mem_cons_of_mem _ hp))
      (forall_mem_dictSet hd (hps q List.mem_cons_self))

theorem dictSet_dictSet {k : Bytes} {w w' : BVal} : ∀ (l : List (Bytes × BVal)),
    dictSet k w (dictSet k w' l) = dictSet k w l
  | [] => by simp only [dictSet, beq_self_eq_true, if_true]
  | (k', v') :: t => by
    simp only [dictSet]
    by_cases hk : (k' == k) = true
    · rw [if_pos hk, if_pos hk, dictSet, if_pos hk]
    · rw [if_neg hk, if_neg hk, dictSet, if_neg hk, dictSet_dictSet t]

/-- the model compares `k' = k`, core `k == k'`; `Spec/Sound`'s `lookupB` is core's -/
theorem lookup_eq_list_lookup (k : Bytes) : ∀ l : List (Bytes × BVal),
    lookup k l = l.lookup k
  | [] => rfl
  | (k', v) :: t => by
    rw [lookup, List.lookup_cons, lookup_eq_list_lookup k t]
    by_cases h : k' = k
    · rw [if_pos h, beq_iff_eq.mpr h.symm]
    · rw [if_neg h, beq_eq_false_iff_ne.mpr (Ne.symm h)]

theorem mem_of_lookup {k : Bytes} {w : BVal} {l : List (Bytes × BVal)}
    (h : lookup k l = some w) : (k, w) ∈ l := by
  obtain ⟨l₁, l₂, rfl, _⟩ := List.lookup_eq_some_iff.mp (lookup_eq_list_lookup k l ▸ h)
  exact List.mem_append_right _ List.mem_cons_self

theorem lookup_of_mem (k : Bytes) (v : BVal) (kvs : List (Bytes × BVal))
    (hn : (kvs.map (·.1)).Nodup) (h : (k, v) ∈ kvs) : lookup k kvs = some v := by
  obtain ⟨l₁, l₂, rfl⟩ := List.append_of_mem h
  rw [List.map_append, List.map_cons] at hn
  exact lookup_eq_list_lookup k _ ▸ List.lookup_eq_some_iff.mpr ⟨l₁, l₂, rfl, fun p hp =>
    bne_iff_ne.mpr fun e => (List.nodup_append.mp hn).2.2 _ (List.mem_map_of_mem hp) _
      List.mem_cons_self e.symm⟩

theorem lookup_iff_mem {k : Bytes} {w : BVal} {l : List (Bytes × BVal)} (hn : (l.map (·.1)).Nodup) :
    lookup k l = some w ↔ (k, w) ∈ l :=
  ⟨mem_of_lookup, lookup_of_mem k w l hn⟩

theorem lookup_perm {l₁ l₂ : List (Bytes × BVal)} (hp : l₁.Perm l₂) (hn : (l₁.map (·.1)).Nodup)
    (k : Bytes) : lookup k l₁ = lookup k l₂ :=
  Option.ext fun w => by
    rw [lookup_iff_mem hn, lookup_iff_mem ((hp.map (·.1)).nodup_iff.mp hn), hp.mem_iff]

theorem dictSet_of_lookup {k : Bytes} {w : BVal} : ∀ {l : List (Bytes × BVal)},
    lookup k l = some w → dictSet k w l = l
  | (k', v') :: t, h => by
    simp only [lookup] at h
    simp only [dictSet]
    by_cases hk : k' = k
    · rw [if_pos (beq_iff_eq.mpr hk), ← Option.some.inj ((if_pos hk).symm.trans h)]
    · rw [if_neg (mt beq_iff_eq.mp hk), dictSet_of_lookup ((if_neg hk).symm.trans h)]

theorem lookup_dictSet {k : Bytes} {w : BVal} : ∀ (l : List (Bytes × BVal)),
    lookup k (dictSet k w l) = some w
  | [] => if_pos rfl
  | (k', v') :: t => by
    simp only [dictSet]
    by_cases hk : k' = k
    · rw [if_pos (beq_iff_eq.mpr hk), lookup, if_pos hk]
    · rw [if_neg (mt beq_iff_eq.mp hk), lookup, if_neg hk, lookup_dictSet t]

theorem lookup_dictSet_ne {k k2 : Bytes} {w : BVal} (hne : k2 ≠ k) : ∀ (l : List (Bytes × BVal)),
    lookup k2 (dictSet k w l) = lookup k2 l
  | [] => if_neg (Ne.symm hne)
  | (k', v') :: t => by
    simp only [dictSet]
    by_cases hk : k' = k
    · rw [if_pos (beq_iff_eq.mpr hk), lookup, lookup, hk, if_neg (Ne.symm hne),
        if_neg (Ne.symm hne)]
    · rw [if_neg (mt beq_iff_eq.mp hk), lookup, lookup, lookup_dictSet_ne hne t]

theorem mem_dictSet_or {k : Bytes} {w : BVal} {q : Bytes × BVal} : ∀ {l : List (Bytes × BVal)},
    q ∈ l → q ∈ dictSet k w l ∨ (q.1 = k ∧ lookup k l = some q.2)
  | (k', v') :: t, h => by
    simp only [dictSet, lookup]
    by_cases hk : k' = k
    · rw [if_pos (beq_iff_eq.mpr hk), if_pos hk]
      exact (List.mem_cons.mp h).elim (fun e => .inr (e ▸ ⟨hk, rfl⟩))
        fun h => .inl (List.mem_cons_of_mem _ h)
    · rw [if_neg (mt beq_iff_eq.mp hk), if_neg hk]
      rcases List.mem_cons.mp h with rfl | h
      · exact .inl List.mem_cons_self
      · exact (mem_dictSet_or (k := k) (w := w) h).imp (List.mem_cons_of_mem _) id

theorem erase_eq_eraseP (k : Bytes) : ∀ l : List (Bytes × BVal),
    erase k l = l.eraseP (·.1 == k)
  | [] => rfl
  | (k', v) :: t => by
    simp only [erase, List.eraseP_cons, erase_eq_eraseP k t, cond_eq_ite, beq_iff_eq]

theorem erase_sublist (k : Bytes) (l : List (Bytes × BVal)) : (erase k l).Sublist l :=
  erase_eq_eraseP k l ▸ List.eraseP_sublist

theorem erase_perm {k : Bytes} {w : BVal} {l : List (Bytes × BVal)}
    (h : lookup k l = some w) : ((k, w) :: erase k l).Perm l := by
  -- `l` is `l₁ ++ (k, w) :: l₂` with no `k` in `l₁`, and `erase` takes out exactly that entry
  obtain ⟨l₁, l₂, rfl, hn⟩ := List.lookup_eq_some_iff.mp (lookup_eq_list_lookup k l ▸ h)
  have h1 : ∀ b ∈ l₁, ¬ (b.1 == k) = true := fun b hb hb' =>
    bne_iff_ne.mp (hn b hb) (beq_iff_eq.mp hb').symm
  simp only [erase_eq_eraseP, List.eraseP_append_right _ h1, List.eraseP_cons, beq_self_eq_true,
    cond_true]
  exact List.perm_middle.symm

theorem not_mem_keys_erase {k : Bytes} (l : List (Bytes × BVal)) (hn : (l.map (·.1)).Nodup) :
    k ∉ (erase k l).map (·.1) := by
  have := hn.not_mem_erase (a := k)
  rw [List.erase_eq_eraseP', List.eraseP_map] at this
  rw [erase_eq_eraseP]
  exact this

theorem bytesKey_iff {q : BVal × BVal} {p : Bytes × BVal} :
    bytesKey q = some p ↔ q = (.bytes p.1, p.2) := by
  obtain ⟨a, v⟩ := q
  cases a <;> simp [bytesKey, Prod.ext_iff]

theorem mapM_bytesKey_iff {qs : List (BVal × BVal)} : ∀ {ps : List (Bytes × BVal)},
    qs.mapM bytesKey = some ps ↔ qs = ps.map fun p => (.bytes p.1, p.2) := by
  induction qs with
  | nil => intro ps; cases ps <;> simp
  | cons q t ih =>
    intro ps
    simp only [List.mapM_cons, Option.bind_eq_bind, Option.bind_eq_some_iff, Option.pure_def,
      Option.some.injEq, bytesKey_iff, ih]
    constructor
    · rintro ⟨a, rfl, b, rfl, rfl⟩; rfl
    · cases ps with
      | nil => exact fun h => nomatch h
      | cons p ps' => exact fun h => ⟨p, (List.cons.inj h).1, ps', (List.cons.inj h).2, rfl⟩

theorem mem_toPairs {a b : BVal} : ∀ {l : List BVal}, (a, b) ∈ toPairs l → a ∈ l ∧ b ∈ l
  | [], h => by simp [toPairs] at h
  | [_], h => by simp [toPairs] at h
  | x :: y :: t, h => by
    simp only [toPairs, List.mem_cons, Prod.mk.injEq] at h
    rcases h with ⟨rfl, rfl⟩ | h
    · simp
    · have := mem_toPairs h
      exact ⟨List.mem_cons_of_mem _ (List.mem_cons_of_mem _ this.1),
             List.mem_cons_of_mem _ (List.mem_cons_of_mem _ this.2)⟩

theorem mem_listToDict {l : List BVal} {d : BVal} (h : listToDict l = some d) :
    ∃ kvs, d = .dict kvs ∧ ∀ p ∈ kvs, .bytes p.1 ∈ l ∧ p.2 ∈ l := by
  unfold listToDict at h
  split at h
  · exact nomatch h
  · rename_i ps hps
    refine ⟨_, (Option.some.inj h).symm,
      forall_mem_foldl_dictSet ps [] (fun p hp => mem_toPairs ?_) nofun⟩
    rw [mapM_bytesKey_iff.mp hps]
    exact List.mem_map_of_mem (f := fun p : Bytes × BVal => (BVal.bytes p.1, p.2)) hp

/-- keys and values in the order the decoder pushes them -/
def flatPairs : List (Bytes × BVal) → List BVal
  | [] => []
  | p :: t => .bytes p.1 :: p.2 :: flatPairs t

theorem toPairs_flatPairs (kvs : List (Bytes × BVal)) :
    toPairs (flatPairs kvs) = kvs.map fun p => (.bytes p.1, p.2) := by
  induction kvs with
  | nil => rfl
  | cons p t ih => rw [flatPairs, toPairs, ih, List.map_cons]

theorem forall_mem_flatPairs {Q : BVal → Prop} {kvs : List (Bytes × BVal)} :
    (∀ v ∈ flatPairs kvs, Q v) ↔ ∀ p ∈ kvs, Q (.bytes p.1) ∧ Q p.2 := by
  induction kvs with
  | nil => simp [flatPairs]
  | cons p t ih =>
    rw [flatPairs, List.forall_mem_cons, List.forall_mem_cons, List.forall_mem_cons, ih, and_assoc]

theorem listToDict_flatPairs (kvs : List (Bytes × BVal)) (h : (kvs.map (·.1)).Nodup) :
    listToDict (flatPairs kvs) = some (.dict kvs) := by
  rw [listToDict, toPairs_flatPairs, mapM_bytesKey_iff.mpr rfl]
  exact congrArg (some ∘ BVal.dict) (foldl_dictSet kvs [] h)

end Torf.Bencode
