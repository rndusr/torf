/-
  Lookups in a list of pairs as `firstWith` (a Python mapping by `str` key or `int` subscript, a parsed
  query string), and a lookup in an appended list (`lookupStr_append`: what `metainfo` finds after
  `ensureInfo` has put `info` at the end).
-/
import Torf.Model.Codec
namespace Torf

/-- the first entry whose key passes a test -/
def firstWith {κ ν : Type} (p : κ → Bool) : List (κ × ν) → Option ν
  | [] => none
  | (k, v) :: t => if p k then some v else firstWith p t

theorem mem_of_firstWith {κ ν : Type} {p : κ → Bool} {v : ν} : ∀ {l : List (κ × ν)}, firstWith p l = some v →
    ∃ k, p k = true ∧ (k, v) ∈ l
  | (k', v') :: t, h => by
    rw [firstWith] at h
    split at h
    · exact ⟨k', ‹_›, Option.some.inj h ▸ List.mem_cons_self⟩
    · exact (mem_of_firstWith h).imp fun _ h => ⟨h.1, List.mem_cons_of_mem _ h.2⟩

theorem firstWith_append {κ ν : Type} (p : κ → Bool) (a b : List (κ × ν)) :
    firstWith p (a ++ b) = (firstWith p a).or (firstWith p b) := by
  induction a with
  | nil => rfl
  | cons q t ih =>
    simp only [List.cons_append, firstWith]
    split
    · rfl
    · exact ih

namespace Validate

theorem lookupStr_eq_firstWith (k : String) : ∀ a : List (PyVal × PyVal),
    PyVal.lookupStr k a = firstWith (Codec.isStrKey k) a
  | [] => rfl
  | (key, v) :: t => by
    cases key with
    | str k' =>
      simp only [PyVal.lookupStr, firstWith, Codec.isStrKey, beq_iff_eq, lookupStr_eq_firstWith k t, @eq_comm _ k k']
    | _ =>
      simp only [PyVal.lookupStr, firstWith, Codec.isStrKey, Bool.false_eq_true, if_false, lookupStr_eq_firstWith k t]

theorem lookupStr_append (k : String) (a b : List (PyVal × PyVal)) :
    PyVal.lookupStr k (a ++ b) = (PyVal.lookupStr k a).or (PyVal.lookupStr k b) := by
  simp only [lookupStr_eq_firstWith, firstWith_append]

end Validate
end Torf
