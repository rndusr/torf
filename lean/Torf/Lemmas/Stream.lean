/-
  Helper lemmas relating the code-shaped stream model to `chunks`.
-/
import Torf.Model.Stream
namespace Torf.Stream
open Torf

theorem readLoop_eq_chunks (L : Nat) (fuel : Nat) (rest : List α)
    (hf : rest.length < fuel) : readLoop L fuel rest = chunks L rest := by
  induction fuel generalizing rest with
  | zero => omega
  | succ fuel ih =>
    rw [readLoop, chunks_read]
    split
    · rfl
    · rename_i hne
      have hpos := List.length_pos_iff.mpr (mt List.isEmpty_iff.mpr hne)
      rw [List.length_take] at hpos
      rw [ih _ (by rw [List.length_drop]; omega)]

theorem foldl_consume_whole (L : Nat) (hL : 0 < L) (q : Nat) (xs : List α) (h : xs.length = q * L)
    (st : List α × List (List α)) :
    (chunks L xs).foldl (fun st p => if p.length = L then (st.1, st.2 ++ [p]) else (p, st.2)) st =
      (st.1, st.2 ++ chunks L xs) := by
  induction q generalizing xs st with
  | zero =>
    obtain rfl := List.eq_nil_of_length_eq_zero (by simpa using h)
    rw [chunks_nil, List.foldl_nil, List.append_nil]
  | succ q ih =>
    have hlen : L ≤ xs.length := by rw [h, Nat.succ_mul]; omega
    have hne : xs ≠ [] := by intro h0; subst h0; simp at hlen; omega
    rw [chunks_cons_of_ne L hL xs hne, List.foldl_cons, if_pos (List.length_take_of_le hlen),
      ih _ (by rw [List.length_drop, h, Nat.succ_mul]; omega), List.append_assoc]
    rfl

theorem consume_chunks (L : Nat) (hL : 0 < L) (xs : List α) (out : List (List α)) :
    consume L out (chunks L xs) =
      (xs.drop (xs.length / L * L), out ++ chunks L (xs.take (xs.length / L * L))) := by
  obtain ⟨hlt, hcut⟩ := chunks_cut L hL xs []
  rw [List.append_nil, List.append_nil] at hcut
  -- the chunks before the cut are whole pieces; what follows is shorter than a piece: no chunk, or
  -- one, which is carried
  unfold consume
  rw [hcut, List.foldl_append,
    foldl_consume_whole L hL _ _ (List.length_take_of_le (Nat.div_mul_le_self _ _)),
    chunks_short L _ (Nat.le_of_lt hlt) hL]
  split
  · rename_i he
    rw [List.foldl_nil, List.isEmpty_iff.mp he]
  · rw [List.foldl_cons, List.foldl_nil, if_neg (Nat.ne_of_lt hlt)]

theorem consume_out (L : Nat) (out : List (List α)) (ps : List (List α)) :
    consume L out ps = ((consume L [] ps).1, out ++ (consume L [] ps).2) := by
  unfold consume
  exact List.foldl_rel (r := fun a (b : List α × List (List α)) => a = (b.1, out ++ b.2)) (by simp)
    fun p _ a b h => by
      subst h
      split <;> simp [List.append_assoc]

/-- the prepend loop over the bytes carried from the previous file is the consumer of `iter_pieces` over their
    chunks: whole pieces are yielded, a short last one is kept -/
theorem prependLoop_eq (L : Nat) (hL : 0 < L) (fuel : Nat) (pre : List α) (hf : pre.length < fuel) :
    prependLoop L fuel pre = ((consume L [] (chunks L pre)).2, (consume L [] (chunks L pre)).1) := by
  induction fuel generalizing pre with
  | zero => omega
  | succ fuel ih =>
    rw [prependLoop]
    split
    · rename_i he; rw [List.isEmpty_iff.mp he, chunks_nil]; rfl
    · rename_i he
      rw [chunks_cons_of_ne L hL pre (mt List.isEmpty_iff.mpr he)]
      by_cases hfull : (pre.take L).length = L
      · have hle : L ≤ pre.length := by rw [List.length_take] at hfull; omega
        have hc : consume L [] (pre.take L :: chunks L (pre.drop L)) =
            consume L [pre.take L] (chunks L (pre.drop L)) := by
          rw [consume, List.foldl_cons, if_pos hfull]; rfl
        rw [if_pos hfull, ih _ (by rw [List.length_drop]; omega), hc, consume_out L [pre.take L]]
        rfl
      · -- a short piece is the last chunk
        rw [if_neg hfull, List.drop_eq_nil_of_le (by rw [List.length_take] at hfull; omega), chunks_nil,
          consume, List.foldl_cons, if_neg hfull]
        rfl

theorem iterFromHandle_eq_chunks (L : Nat) (hL : 0 < L) (prepend content : List α) :
    iterFromHandle L prepend content = chunks L (prepend ++ content) := by
  unfold iterFromHandle
  obtain ⟨h1, h2⟩ := chunks_cut L hL prepend content
  rw [prependLoop_eq L hL _ _ (Nat.lt_succ_self _), consume_chunks L hL, h2]
  simp only [List.nil_append]
  generalize prepend.drop _ = c at h1 ⊢
  by_cases hp : c = []
  · simp only [hp, List.isEmpty_nil, if_true, List.nil_append]
    rw [readLoop_eq_chunks L _ _ (by omega)]
  · simp only [List.isEmpty_eq_false_iff.mpr hp, Bool.false_eq_true, if_false]
    rw [readLoop_eq_chunks L _ _ (Nat.lt_succ_self _), chunks_fill L _ _ hp (Nat.le_of_lt h1)]

theorem fileStep_eq (L : Nat) (hL : 0 < L) (st : List α × List (List α)) (f : List α) :
    fileStep L st f =
      ((st.1 ++ f).drop ((st.1 ++ f).length / L * L),
        st.2 ++ chunks L ((st.1 ++ f).take ((st.1 ++ f).length / L * L))) := by
  unfold fileStep
  rw [iterFromHandle_eq_chunks L hL, consume_chunks L hL]

theorem fold_inv (L : Nat) (hL : 0 < L) (files : List (List α)) (st : List α × List (List α))
    (hst : st.1.length < L) :
    let st' := files.foldl (fileStep L) st
    st'.1.length < L ∧ st'.2 ++ chunks L st'.1 = st.2 ++ chunks L (st.1 ++ files.flatten) := by
  induction files generalizing st with
  | nil => simp [hst]
  | cons f fs ih =>
    simp only [List.foldl_cons, List.flatten_cons]
    obtain ⟨hlt, hcut⟩ := chunks_cut L hL (st.1 ++ f) fs.flatten
    have hfs := fileStep_eq L hL st f
    obtain ⟨h1, h2⟩ := ih (fileStep L st f) (by rw [hfs]; exact hlt)
    refine ⟨h1, ?_⟩
    rw [h2, hfs, ← List.append_assoc st.1, hcut, List.append_assoc]

theorem iterPieces_eq_chunks (L : Nat) (hL : 0 < L) (files : List (List α)) :
    iterPieces L files = chunks L files.flatten := by
  have := fold_inv L hL files ([], []) (by simpa using hL)
  simp only [List.nil_append] at this
  obtain ⟨h1, h2⟩ := this
  unfold iterPieces
  simp only
  generalize files.foldl (fileStep L) ([], []) = st at h1 h2 ⊢
  rw [chunks_short L _ (Nat.le_of_lt h1) hL] at h2
  rw [← h2]
  split <;> simp

end Torf.Stream
