/-
  Torf.Lemmas.PipelineC04Exc — which exception main ends up with (C04): once `reader.join()` has
  returned, a reader that died of a read fault has replaced whatever exception was pending
  (`InvE`, configurations without refused starts); a pending callback exception survives the
  whole join phase unless exactly that happens (`Pend`, every configuration); a result returned
  without a stop request and without a read fault is complete (`InvF`, no refused starts).
-/
import Torf.Lemmas.PipelineC04Inv
namespace Torf.Pipeline

theorem raised_iff_mainExc {s : State} (ht : terminal s = true) (x : Exc) :
    result? s = some (.raised x) ↔ mainExc s.main = some x := by
  obtain ⟨r, hm⟩ := result_of_terminal ht
  cases r <;> simp [result?, hm, mainExc]

theorem postReaderJoin_of_terminal {s : State} (ht : terminal s = true) :
    postReaderJoin s.main = true := by
  obtain ⟨r, hm⟩ := result_of_terminal ht
  rw [hm]; rfl

structure InvE (s : State) : Prop where
  rd : postReaderJoin s.main = true → s.rexc = true → mainExc s.main = some Exc.read

theorem InvE.init (cfg : Cfg) : InvE (init cfg) := by
  constructor; simp [Pipeline.init, postReaderJoin]

theorem InvE.congr {s s' : State} (h : InvE s)
    (hm : postReaderJoin s'.main = true →
      postReaderJoin s.main = true ∧ mainExc s'.main = mainExc s.main)
    (hx : s'.rexc = true → s.rexc = true) : InvE s' :=
  ⟨fun hp hx' => (hm hp).2 ▸ h.rd (hm hp).1 (hx hx')⟩

theorem InvE.step {cfg : Cfg} {s s' : State} (hB : InvB1 cfg s) (h : InvE s) (hs : Step cfg s s') :
    InvE s' := by
  cases hs with
  | main h' =>
    cases h' with
    | joinReaderSkip e hm | joinReaderDone e hm =>
      -- `reader.join()` returns: the reader's exception replaces the pending one
      exact ⟨fun _ hx => by rw [mainExc_joinTarget, if_pos hx]⟩
    | joinHasherChkRun hh idx e hm | joinJanitorChkRun e hm =>
      exact h.congr (fun _ => ⟨by rw [hm]; rfl, by rw [hm]; rfl⟩) id
    | joinHasherSkip hh idx e hm | joinHasherDone hh idx e hm =>
      exact h.congr (fun _ => ⟨by rw [hm]; rfl, by rw [hm, mainExc_joinTarget]; rfl⟩) id
    | joinJanitorSkip e hm | joinJanitorDone e hm =>
      exact h.congr (fun _ => ⟨by rw [hm]; rfl, by rw [hm, mainExc_finished]; rfl⟩) id
    | collectPass k rest hm | collectCancel k rest hm =>
      exact ⟨fun hp => by have : postReaderJoin s.main = true := hp; rw [hm] at this; cases this⟩
    | _ => exact ⟨fun hp => absurd hp Bool.false_ne_true⟩
  | reader h' =>
    -- after `reader.join()` the reader is done and does not step
    have hm := h'.frame.1
    have hrun := h'.ctl.1.was
    refine ⟨fun hp _ => ?_⟩
    rw [hB.rjoined (hm ▸ hp)] at hrun
    cases hrun
  | hasher i h' | janitor h' =>
    exact h.congr (fun hp => ⟨h'.frame.main ▸ hp, by rw [h'.frame.main]⟩) (h'.frame.rexc ▸ id)

theorem InvE.of_reachable {cfg : Cfg} {s : State} (hrf : cfg.refuse = []) (h : Reachable cfg s) :
    InvE s :=
  h.inductionS hrf (InvE.init cfg) fun _ _ hI hp hs => hp.step hI.b1 hs

theorem InvE.read_error {s : State} (h : InvE s) (ht : terminal s = true) (hx : s.rexc = true) :
    result? s = some (.raised .read) :=
  (raised_iff_mainExc ht _).2 (h.rd (postReaderJoin_of_terminal ht) hx)

/-- main carries the callback's exception of pieces_done = `d`, or the read error that replaced it -/
def Pend (d : Nat) (s : State) : Prop :=
  mainExc s.main = some (.cb d) ∨ (mainExc s.main = some .read ∧ s.rexc = true)

theorem Pend.exc {d : Nat} {s : State} (h : Pend d s) : mainExc s.main ≠ none := by
  rcases h with h | ⟨h, _⟩ <;> simp [h]

theorem StepG.carried {cfg : Cfg} {s s' : State} (hs : StepG cfg s s') :
    mainExc s.main = none ∨ mainExc s'.main = mainExc s.main ∨
      (mainExc s'.main = some .read ∧ s.rexc = true) := by
  cases hs with
  | main h' =>
    cases h' with
    | ok h'' =>
      cases h'' with
      | joinReaderSkip e hm | joinReaderDone e hm =>
        rw [hm, mainExc_joinTarget]
        cases s.rexc
        · exact .inr (.inl rfl)
        · exact .inr (.inr ⟨rfl, rfl⟩)
      | joinReaderChkRun e hm | joinHasherChkRun hh idx e hm | joinJanitorChkRun e hm =>
        exact .inr (.inl (by rw [hm]; rfl))
      | joinHasherSkip hh idx e hm | joinHasherDone hh idx e hm =>
        exact .inr (.inl (by rw [hm, mainExc_joinTarget]; rfl))
      | joinJanitorSkip e hm | joinJanitorDone e hm =>
        exact .inr (.inl (by rw [hm, mainExc_finished]; rfl))
      -- outside its join phase main carries no exception
      | _ => exact .inl (by rw [‹s.main = _›]; rfl)
    | _ => exact .inl (by rw [‹s.main = _›]; rfl)
  | reader h' => exact .inr (.inl (by rw [h'.frame.1]))
  | hasher i h' | janitor h' => exact .inr (.inl (by rw [h'.frame.main]))

theorem Pend.step {cfg : Cfg} {d : Nat} {s s' : State} (h : Pend d s) (hs : StepG cfg s s') :
    Pend d s' := by
  rcases hs.carried with he | he | ⟨he, hx⟩
  · exact absurd he h.exc
  · exact h.imp (he ▸ id) fun ⟨h1, h2⟩ => ⟨he ▸ h1, hs.mono.2 h2⟩
  · exact .inr ⟨he, hs.mono.2 hx⟩

theorem Pend.run {cfg : Cfg} {d : Nat} {s s' : State} {ls : List Label} (hr : Reachable cfg s)
    (h : Pend d s) (hrun : run cfg s ls = some s') : Pend d s' :=
  run_inductionG (fun _ _ _ hp hs => hp.step hs) hr h hrun

theorem Pend.result {d : Nat} {s : State} (h : Pend d s) (ht : terminal s = true) :
    result? s = some (.raised (.cb d)) ∨ (result? s = some (.raised .read) ∧ s.rexc = true) :=
  h.imp (raised_iff_mainExc ht _).2 (And.imp_left (raised_iff_mainExc ht _).2)

structure InvF (cfg : Cfg) (s : State) : Prop where
  all : joined s.main = true → mainExc s.main = none → s.stop = false → s.rexc = false →
    s.seen.Perm (List.range cfg.items.length)

theorem InvF.init (cfg : Cfg) : InvF cfg (init cfg) := by
  constructor; simp [Pipeline.init, joined]

theorem InvF.congr {cfg : Cfg} {s s' : State} (h : InvF cfg s)
    (hm : joined s'.main = true → mainExc s'.main = none → joined s.main = true ∧ mainExc s.main = none)
    (hst : s'.stop = false → s.stop = false) (hx : s'.rexc = false → s.rexc = false)
    (hsn : s'.seen = s.seen) : InvF cfg s' :=
  ⟨fun hj he hs hr => hsn ▸ h.all (hm hj he).1 (hm hj he).2 (hst hs) (hx hr)⟩

theorem InvF.step {cfg : Cfg} {s s' : State} (hI : Inv cfg s) (h : InvF cfg s) (hs : Step cfg s s') :
    InvF cfg s' := by
  cases hs with
  | main h' =>
    cases h' with
    | collectClosed rest hm hq => exact ⟨fun _ _ hst hx => closed_complete (s := s) hI hq hst hx⟩
    | joinReaderSkip e hm | joinReaderDone e hm =>
      refine h.congr (fun _ he => ?_) id id rfl
      rw [mainExc_joinTarget] at he
      rw [hm]
      split at he
      · cases he
      · exact ⟨rfl, he⟩
    | joinReaderChkRun e hm | joinHasherChkRun hh idx e hm | joinJanitorChkRun e hm =>
      exact h.congr (fun _ he => hm ▸ ⟨rfl, he⟩) id id rfl
    | joinHasherSkip hh idx e hm | joinHasherDone hh idx e hm =>
      exact h.congr (fun _ he => hm ▸ ⟨rfl, (mainExc_joinTarget ..).symm.trans he⟩) id id rfl
    | joinJanitorSkip e hm | joinJanitorDone e hm =>
      exact h.congr (fun _ he => hm ▸ ⟨rfl, (mainExc_finished ..).symm.trans he⟩) id id rfl
    | collectRaise | collectCbRaise => exact ⟨fun _ he => absurd he (Option.some_ne_none _)⟩
    | collectPass k rest hm | collectCancel k rest hm =>
      exact ⟨fun hj => by have : joined s.main = true := hj; rw [hm] at this; cases this⟩
    | _ => exact ⟨fun hj => absurd hj Bool.false_ne_true⟩
  | reader h' =>
    obtain ⟨hm, hst, hsn, hx⟩ := h'.frame
    exact h.congr (fun hj he => hm ▸ ⟨hj, he⟩) (hst ▸ id) hx hsn
  | hasher i h' | janitor h' =>
    obtain ⟨hm, -, hx, hst, hsn, -⟩ := h'.frame
    exact h.congr (fun hj he => hm ▸ ⟨hj, he⟩) (hst ▸ id) (hx ▸ id) hsn

theorem InvF.of_reachable {cfg : Cfg} {s : State} (hrf : cfg.refuse = []) (h : Reachable cfg s) :
    InvF cfg s :=
  h.inductionS hrf (InvF.init cfg) fun _ _ hI hp hs => hp.step hI hs

end Torf.Pipeline
