/-
  The layout of a stream as a function of the file index: file `j` occupies the bytes
  `[pos j, pos j + size j)`, `pos` being the prefix sums of the sizes (`pos (j + 1) = pos j + size j`,
  also behind the last file, where `size` is 0).  Everything about positions in C10 and C11 goes
  through these lemmas; `Missing.pos` / `Missing.sizeOf` are the same functions under other names.
  Every byte has an owner (`exists_owner`), and how a file lies relative to a byte is how its index stands
  relative to the owner's (`owner_iff`).  A file's end is written `pos j + size j`, as the specification and the
  code write it; `pos (j + c)` is the cut behind `c` further files (`flatten_slice`).
  Then: the content of such a stream cut by file (`take_pos_flatten`, `flatten_slice`), answers that are
  ascending lists of indexes (`eq_of_sorted_of_mem_iff`: equal if they have the same members;
  `filter_range'_downward`: an initial run), and loops that walk the sizes with a running position (`scan_inv`).
-/
import Torf.Spec.Geometry
namespace Torf.GeomLemmas
open Torf

def NoEmpty (sizes : List Nat) : Prop := ∀ s ∈ sizes, 0 < s

theorem pos_zero (sizes : List Nat) : GeomSpec.pos sizes 0 = 0 := by simp [GeomSpec.pos]
theorem pos_cons_succ (s : Nat) (rest : List Nat) (k : Nat) :
    GeomSpec.pos (s :: rest) (k+1) = s + GeomSpec.pos rest k := by simp [GeomSpec.pos]
theorem size_cons_zero (s : Nat) (rest : List Nat) : GeomSpec.size (s :: rest) 0 = s := by
  simp [GeomSpec.size]
theorem size_cons_succ (s : Nat) (rest : List Nat) (k : Nat) :
    GeomSpec.size (s :: rest) (k+1) = GeomSpec.size rest k := by simp [GeomSpec.size]

/-- also behind the last file: `size` is then 0 and `pos` stays at the total -/
theorem pos_succ (sizes : List Nat) (k : Nat) :
    GeomSpec.pos sizes (k + 1) = GeomSpec.pos sizes k + GeomSpec.size sizes k := by
  unfold GeomSpec.pos GeomSpec.size
  rw [List.take_add_one, List.sum_append, List.getD_eq_getElem?_getD]
  cases sizes[k]? <;> simp

theorem pos_length (sizes : List Nat) : GeomSpec.pos sizes sizes.length = GeomSpec.total sizes := by
  simp [GeomSpec.pos, GeomSpec.total]

theorem pos_mono (sizes : List Nat) (a b : Nat) (h : a ≤ b) : GeomSpec.pos sizes a ≤ GeomSpec.pos sizes b := by
  induction h with
  | refl => exact Nat.le_refl _
  | step _ ih => rw [pos_succ]; omega

theorem pos_le_total (sizes : List Nat) (j : Nat) : GeomSpec.pos sizes j ≤ GeomSpec.total sizes := by
  rcases Nat.le_total j sizes.length with h | h
  · exact pos_length sizes ▸ pos_mono sizes _ _ h
  · rw [GeomSpec.pos, List.take_of_length_le h]; exact Nat.le_refl _

theorem pos_add_size_le_total (sizes : List Nat) (j : Nat) :
    GeomSpec.pos sizes j + GeomSpec.size sizes j ≤ GeomSpec.total sizes := by
  rw [← pos_succ]; exact pos_le_total sizes _

theorem files_disjoint (sizes : List Nat) (k j : Nat) (hkj : k < j) :
    GeomSpec.pos sizes k + GeomSpec.size sizes k ≤ GeomSpec.pos sizes j := by
  rw [← pos_succ sizes k]
  exact pos_mono sizes _ _ hkj

theorem exists_owner (sizes : List Nat) (p : Nat) (hp : p < GeomSpec.total sizes) :
    ∃ j, j < sizes.length ∧ GeomSpec.pos sizes j ≤ p ∧
      p < GeomSpec.pos sizes j + GeomSpec.size sizes j := by
  induction sizes generalizing p with
  | nil => simp [GeomSpec.total] at hp
  | cons s rest ih =>
    by_cases h : p < s
    · exact ⟨0, by simp, by simp [pos_zero], by simpa [pos_zero, size_cons_zero] using h⟩
    · have hp' : p - s < GeomSpec.total rest := by
        simp only [GeomSpec.total, List.sum_cons] at *
        omega
      obtain ⟨j, hj, h1, h2⟩ := ih (p - s) hp'
      refine ⟨j + 1, by simpa using hj, ?_, ?_⟩
      · rw [pos_cons_succ]; omega
      · rw [pos_cons_succ, size_cons_succ]; omega

theorem owner_iff (sizes : List Nat) (p j : Nat) (h1 : GeomSpec.pos sizes j ≤ p)
    (h2 : p < GeomSpec.pos sizes j + GeomSpec.size sizes j) (i : Nat) :
    (GeomSpec.pos sizes i ≤ p ↔ i ≤ j) ∧ (p < GeomSpec.pos sizes i + GeomSpec.size sizes i ↔ j ≤ i) := by
  rw [← pos_succ] at h2 ⊢
  refine ⟨⟨fun h => ?_, fun h => ?_⟩, ⟨fun h => ?_, fun h => ?_⟩⟩
  · false_or_by_contra
    have := pos_mono sizes (j + 1) i (by omega); omega
  · have := pos_mono sizes i j h; omega
  · false_or_by_contra
    have := pos_mono sizes (i + 1) j (by omega); omega
  · have := pos_mono sizes (j + 1) (i + 1) (by omega); omega

theorem size_pos_of_noEmpty (sizes : List Nat) (hne : NoEmpty sizes) (j : Nat)
    (hj : j < sizes.length) : 0 < GeomSpec.size sizes j := by
  rw [GeomSpec.size, ← List.getElem_eq_getD (h := hj)]
  exact hne _ (List.getElem_mem hj)

theorem fileInRange_iff (sizes : List Nat) (a b : Int) (j : Nat) :
    GeomSpec.fileInRange sizes a b j = true ↔
      0 < GeomSpec.size sizes j ∧
        a < (GeomSpec.pos sizes j : Int) + (GeomSpec.size sizes j : Int) ∧ (GeomSpec.pos sizes j : Int) ≤ b := by
  simp only [GeomSpec.fileInRange, Bool.and_eq_true, decide_eq_true_eq]
  omega

theorem pos_map_length (files : List (List α)) (j : Nat) :
    GeomSpec.pos (files.map List.length) j = (files.take j).flatten.length := by
  rw [GeomSpec.pos, ← List.map_take, List.length_flatten]

theorem size_map_length (files : List (List α)) (j : Nat) :
    GeomSpec.size (files.map List.length) j = (files.getD j []).length := by
  simp only [GeomSpec.size, List.getD_eq_getElem?_getD, List.getElem?_map]
  cases files[j]? <;> rfl

theorem take_pos_flatten (files : List (List α)) (k : Nat) :
    files.flatten.take (GeomSpec.pos (files.map List.length) k) = (files.take k).flatten := by
  have h := List.take_left' (l₁ := (files.take k).flatten) (l₂ := (files.drop k).flatten) rfl
  rwa [← List.flatten_append, List.take_append_drop, ← pos_map_length] at h

theorem drop_take_pos_succ_flatten (files : List (List α)) (k s : Nat) (hk : k < files.length) :
    (files.flatten.take (GeomSpec.pos (files.map List.length) (k + 1))).drop
      (GeomSpec.pos (files.map List.length) k + s) = files[k].drop s := by
  rw [take_pos_flatten, List.take_succ_eq_append_getElem hk, List.flatten_append, pos_map_length,
    List.drop_length_add_append, List.flatten_singleton]

theorem slice_lemma (X Y Z : List α) (p L : Nat) (h1 : X.length ≤ p)
    (h2 : p ≤ X.length + Y.length) (h3 : Z = [] ∨ p + L ≤ X.length + Y.length) :
    ((X ++ Y ++ Z).drop p).take L = (Y.drop (p - X.length)).take L := by
  rw [List.append_assoc, List.drop_append, List.drop_eq_nil_of_le h1, List.nil_append,
    List.drop_append_of_le_length (by omega), List.take_append]
  rcases h3 with h | h
  · subst h; simp
  · have : L - (Y.drop (p - X.length)).length = 0 := by
      simp only [List.length_drop]; omega
    rw [this]; simp

theorem flatten_slice (files : List (List α)) (j c p n : Nat)
    (h1 : GeomSpec.pos (files.map List.length) j ≤ p)
    (h2 : p ≤ GeomSpec.pos (files.map List.length) (j + c))
    (h3 : min (p + n) (GeomSpec.total (files.map List.length)) ≤ GeomSpec.pos (files.map List.length) (j + c)) :
    (files.flatten.drop p).take n =
      ((((files.drop j).take c).flatten).drop (p - GeomSpec.pos (files.map List.length) j)).take n := by
  have htot : GeomSpec.total (files.map List.length) =
      (files.take (j + c)).flatten.length + (files.drop (j + c)).flatten.length := by
    rw [← List.length_append, ← List.flatten_append, List.take_append_drop, GeomSpec.total, List.length_flatten]
  rw [pos_map_length] at h1 h2 h3 ⊢
  have hsplit : files.take (j + c) = files.take j ++ (files.drop j).take c := List.take_add
  rw [hsplit, List.flatten_append, List.length_append] at h2 h3 htot
  conv => lhs; rw [← List.take_append_drop (j + c) files, hsplit, List.flatten_append, List.flatten_append]
  refine slice_lemma _ _ _ p n h1 h2 ?_
  by_cases hz : (files.drop (j + c)).flatten = []
  · exact Or.inl hz
  · have := List.length_pos_iff.mpr hz
    exact Or.inr (by omega)

theorem eq_of_sorted_of_mem_iff {α : Type} (r : α → α → Prop) (hasym : ∀ a b, r a b → r b a → False)
    (l1 l2 : List α) (h1 : l1.Pairwise r) (h2 : l2.Pairwise r) (h : ∀ x, x ∈ l1 ↔ x ∈ l2) :
    l1 = l2 := by
  have irr : ∀ {a b : α}, r a b → a ≠ b := by
    intro a b hab heq
    subst heq
    exact hasym a a hab hab
  have n1 : l1.Nodup := h1.imp irr
  have n2 : l2.Nodup := h2.imp irr
  have hp : l1.Perm l2 := (List.perm_ext_iff_of_nodup n1 n2).mpr h
  exact List.Perm.eq_of_pairwise (fun a b _ _ hab hba => (hasym a b hab hba).elim) h1 h2 hp

theorem filter_range'_downward (p : Nat → Bool) (s len : Nat)
    (hdown : ∀ k k', s ≤ k' → k' < k → k < s + len → p k = true → p k' = true) :
    ∃ c, c ≤ len ∧ (List.range' s len).filter p = List.range' s c ∧
      (∀ k, s ≤ k → k < s + c → p k = true) ∧ (c < len → p (s + c) = false) := by
  induction len generalizing s with
  | zero => exact ⟨0, Nat.le_refl _, rfl, fun k h1 h2 => by omega, fun h => by omega⟩
  | succ len ih =>
    rw [List.range'_succ, List.filter_cons]
    cases hp : p s with
    | false =>
      -- nothing later is selected either
      refine ⟨0, Nat.zero_le _, ?_, fun k h1 h2 => by omega, fun _ => hp⟩
      rw [if_neg Bool.false_ne_true, List.range'_zero, List.filter_eq_nil_iff]
      intro k hk hpk
      have := List.mem_range'_1.mp hk
      rw [hdown k s (Nat.le_refl s) (by omega) (by omega) hpk] at hp
      cases hp
    | true =>
      obtain ⟨c, hc, hf, hall, hnext⟩ :=
        ih (s + 1) fun k k' h1 h2 h3 => hdown k k' (by omega) h2 (by omega)
      refine ⟨c + 1, by omega, by rw [if_pos rfl, hf, List.range'_succ], fun k h1 h2 => ?_,
        fun h => Nat.add_right_comm s 1 c ▸ hnext (by omega)⟩
      rcases Nat.eq_or_lt_of_le h1 with rfl | h
      · exact hp
      · exact hall k h (by omega)

/-- `cast`: the loops generated from the source take the sizes as `Int`s, the model's as `Nat`s; `fin`: what the
    loop does with the selected indexes behind the last file.  Of a particular loop only the step `hcons` has
    to be shown. -/
theorem scan_inv {σ γ : Type} (cast : Nat → σ) {loop : List σ → Nat → Int → List Nat → γ}
    (hit : Int → Nat → Bool) (fin : List Nat → γ) (hnil : ∀ idx pos acc, loop [] idx pos acc = fin acc)
    (hcons : ∀ (s : Nat) rest idx pos acc, loop (cast s :: rest) idx pos acc =
      loop rest (idx + 1) (pos + (s : Int)) (if hit pos s then acc ++ [idx] else acc)) :
    ∀ (sizes : List Nat) (idx : Nat) (pos : Int) (acc : List Nat),
      loop (sizes.map cast) idx pos acc =
        fin (acc ++ ((List.range sizes.length).filter fun j =>
          hit (pos + (GeomSpec.pos sizes j : Int)) (GeomSpec.size sizes j)).map (· + idx)) := by
  intro sizes
  induction sizes with
  | nil => intro idx pos acc; simp [hnil]
  | cons s rest ih =>
    intro idx pos acc
    rw [List.map_cons, hcons, ih, List.length_cons,
      List.range_succ_eq_map, List.filter_cons, List.filter_map, pos_zero, size_cons_zero, Int.natCast_zero,
      Int.add_zero]
    congr 1
    have hf : ((fun j => hit (pos + (GeomSpec.pos (s :: rest) j : Int)) (GeomSpec.size (s :: rest) j)) ∘ Nat.succ) =
        fun j => hit (pos + (s : Int) + (GeomSpec.pos rest j : Int)) (GeomSpec.size rest j) := by
      funext j
      simp only [Function.comp, Nat.succ_eq_add_one, pos_cons_succ, size_cons_succ, Int.natCast_add, Int.add_assoc]
    rw [hf]
    split <;> simp [List.map_map, Function.comp_def, Nat.add_comm, Nat.add_left_comm]

end Torf.GeomLemmas
