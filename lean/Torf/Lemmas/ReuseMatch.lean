/-
  Helper lemmas for C18 on pairs without oddities (`wfTor`, `wfCand` of Torf.Spec.Reuse): the file
  match computes the identity check of the specification (name, kind, (path, size) lists, bounds);
  the content check looks up stored hashes only, so it can raise nothing but the two errors of the
  local content; `copy` succeeds.  Hence no internal error leaves the search loop (`Allowed`).
-/
import Torf.Lemmas.Reuse
namespace Torf.Reuse

theorem joined_ne_name (name : String) (f : FileEnt) (h : f.path ≠ []) : joined name f ≠ name := by
  unfold joined
  cases hp : f.path with
  | nil => exact absurd hp h
  | cons p ps =>
    -- the joined text is longer by at least the separator
    intro he
    have := congrArg String.length he
    rw [String.intercalate_cons_cons] at this
    simp only [String.length_append] at this
    have h1 : "/".length = 1 := by decide
    omega

theorem wfKind_single {files : List FileEnt} (h : wfKind true files = true) :
    ∃ f, files = [f] ∧ f.path = [] ∧ f.size ≠ 0 := by
  unfold wfKind at h
  simp only [if_true] at h
  match files, h with
  | [f], h =>
    simp only [Bool.and_eq_true, List.isEmpty_iff, bne_iff_ne, ne_eq] at h
    exact ⟨f, rfl, h.1, h.2⟩

theorem wfKind_multi {files : List FileEnt} (h : wfKind false files = true) :
    files ≠ [] ∧ ∀ f ∈ files, f.path ≠ [] := by
  unfold wfKind at h
  simp only [Bool.false_eq_true, if_false, Bool.and_eq_true, Bool.not_eq_true', List.isEmpty_eq_false_iff,
    List.all_eq_true, List.isEmpty_eq_false_iff] at h
  exact h

theorem pathSizes_single (name : String) (f : FileEnt) (h : f.path = []) :
    pathSizes name [f] = [(name, f.size)] := by
  cases f with
  | mk p s => simp only at h; subst h; simp [pathSizes, joined]

/-- what the decidable `wfCand t c` of the specification says, clause by clause -/
structure WfCand (t : Tor) (c : Cand) : Prop where
  bytes : c.bytesPath = false
  kind : wfKind c.single c.files = true
  pl : 0 < c.pieceLength
  len : c.hashes.length = ((c.files.map (·.size)).sum + c.pieceLength - 1) / c.pieceLength
  inj : ∀ f ∈ t.files, ∀ g ∈ c.files, joined c.name g = joined c.name f → g.path = f.path

theorem wfCand_unpack {t : Tor} {c : Cand} (h : wfCand t c = true) : WfCand t c := by
  unfold wfCand at h
  simp only [Bool.and_eq_true, Bool.not_eq_true', decide_eq_true_eq, beq_iff_eq, List.all_eq_true,
    Bool.or_eq_true, bne_iff_ne, ne_eq] at h
  obtain ⟨⟨⟨⟨h1, h2⟩, h3⟩, h4⟩, h5⟩ := h
  refine ⟨h1, h2, h3, h4, ?_⟩
  intro f hf g hg hj
  rcases h5 f hf g hg with h | h
  · exact absurd hj h
  · exact h

theorem fps_of_wf (name : String) (single : Bool) (files : List FileEnt)
    (h : wfKind single files = true) :
    filepathsAndSizes name single files false = .ok (pathSizes name files) := by
  cases single with
  | true =>
    obtain ⟨f, rfl, hp, hs⟩ := wfKind_single h
    rw [pathSizes_single name f hp]
    simp [filepathsAndSizes, hs]
  | false =>
    cases files with
    | nil => exact absurd rfl (wfKind_multi h).1
    | cons a l => simp [filepathsAndSizes, pathSizes]

/-- the bare name identifies a file exactly in a single-file layout: in a multi-file layout every
    joined path is longer (the name prefix keeps a file `N` apart from a directory `N` that holds
    one file `N`) -/
theorem name_mem_pathSizes_iff (n : String) {s : Bool} {files : List FileEnt}
    (h : wfKind s files = true) : (∃ sz, (n, sz) ∈ pathSizes n files) ↔ s = true := by
  cases s with
  | true =>
    obtain ⟨f, rfl, hp, _⟩ := wfKind_single h
    rw [pathSizes_single n f hp]
    exact iff_of_true ⟨_, List.mem_singleton_self _⟩ rfl
  | false =>
    refine iff_of_false ?_ nofun
    rintro ⟨sz, hm⟩
    obtain ⟨g, hg, he⟩ := List.mem_map.mp hm
    exact joined_ne_name n g ((wfKind_multi h).2 g hg) (congrArg Prod.fst he)

theorem kind_eq_of_perm (n : String) {s1 s2 : Bool} {l1 l2 : List FileEnt}
    (h1 : wfKind s1 l1 = true) (h2 : wfKind s2 l2 = true)
    (hp : (pathSizes n l1).Perm (pathSizes n l2)) : s1 = s2 := by
  rw [Bool.eq_iff_iff, ← name_mem_pathSizes_iff n h1, ← name_mem_pathSizes_iff n h2]
  exact exists_congr fun sz => hp.mem_iff

theorem isFileMatch_wf_eq (t : Tor) (c : Cand) (ht : wfTor t = true) (hc : wfCand t c = true) :
    isFileMatch t c = .ok (fileIdentity t c) := by
  have wc := wfCand_unpack hc
  unfold wfTor at ht
  unfold isFileMatch fileIdentity
  rw [wc.bytes, fps_of_wf _ _ _ ht, fps_of_wf _ _ _ wc.kind]
  by_cases hn : t.name = c.name
  · rw [hn]
    by_cases hp : (pathSizes c.name t.files).isPerm (pathSizes c.name c.files) = true
    · -- equal identifications: the code does not compare the kinds, but they are equal
      simp [hp, kind_eq_of_perm c.name ht wc.kind (List.isPerm_iff.mp hp)]
    · simp [hp]
  · simp [hn]

theorem isFileMatch_wf (t : Tor) (c : Cand) (ht : wfTor t = true) (hc : wfCand t c = true) :
    isFileMatch t c = .ok true ↔
      t.name = c.name ∧ t.single = c.single ∧
      (pathSizes t.name t.files).Perm (pathSizes c.name c.files) ∧
      t.plMin ≤ c.pieceLength ∧ c.pieceLength ≤ t.plMax := by
  rw [isFileMatch_wf_eq t c ht hc]
  simp [fileIdentity, (wfCand_unpack hc).bytes, List.isPerm_iff, and_assoc]

theorem mem_of_pathSizes_perm {n : String} {l1 l2 : List FileEnt}
    (hp : (pathSizes n l1).Perm (pathSizes n l2)) {f : FileEnt} (hf : f ∈ l1) :
    ∃ g ∈ l2, joined n g = joined n f ∧ g.size = f.size := by
  have : (joined n f, f.size) ∈ pathSizes n l2 := by
    apply hp.subset
    unfold pathSizes
    exact List.mem_map.mpr ⟨f, hf, rfl⟩
  unfold pathSizes at this
  obtain ⟨g, hg, he⟩ := List.mem_map.mp this
  simp only [Prod.mk.injEq] at he
  exact ⟨g, hg, he.1, he.2⟩

theorem mem_fileSamples {pl pos size i : Nat} (h : i ∈ fileSamples pl pos size) :
    pos + size ≠ 0 ∧ i ≤ (pos + size - 1) / pl := by
  unfold fileSamples pieceRange at h
  simp only [List.mem_append] at h
  have hm : i ∈ List.range' (pos / pl) ((if pos + size = 0 then 0 else (pos + size - 1) / pl + 1) - pos / pl) := by
    rcases h with (h | h) | h
    · exact List.mem_of_mem_take h
    · exact List.mem_of_mem_drop (List.mem_of_mem_take h)
    · exact List.mem_of_mem_drop h
  obtain ⟨h1, h2⟩ := List.mem_range'_1.mp hm
  by_cases h0 : pos + size = 0
  · rw [if_pos h0, Nat.zero_sub, Nat.add_zero] at h2
    exact absurd h1 (Nat.not_le.mpr h2)
  · rw [if_neg h0] at h2
    exact ⟨h0, by omega⟩

/-- the piece that holds byte `x - 1` of a stream of `total ≥ x` bytes is one of the
    `ceil(total / pl)` pieces -/
theorem piece_bound {pl x total : Nat} (hpl : 0 < pl) (hx : x ≠ 0) (hle : x ≤ total) :
    (x - 1) / pl < (total + pl - 1) / pl := by
  rw [Nat.sub_add_comm (Nat.le_trans (Nat.pos_of_ne_zero hx) hle), Nat.add_div_right _ hpl]
  exact Nat.lt_succ_of_le (Nat.div_le_div_right (Nat.sub_le_sub_right hle 1))

/-- the outcome of a check that stays inside the stored hashes -/
def Benign (loc : Nat → LocalPiece) (r : Except Err Bool) : Prop :=
  (∃ b, r = .ok b) ∨ (r = .error .verifyFileSize ∧ ∃ i, loc i = .sizeError) ∨
    (r = .error .read ∧ ∃ i, loc i = .readError)

theorem checkAll_benign (c : Cand) (loc : Nat → LocalPiece) (l : List Nat)
    (h : ∀ i ∈ l, i < c.hashes.length) : Benign loc (checkAll c loc l) := by
  induction l with
  | nil => exact Or.inl ⟨true, rfl⟩
  | cons a rest ih =>
    have ha := h a (List.mem_cons_self ..)
    have ih' := ih (fun i hi => h i (List.mem_cons_of_mem _ hi))
    unfold checkAll verifyPiece
    rw [List.getElem?_eq_getElem ha]
    simp only []
    cases hl : loc a with
    | hash d =>
      simp only []
      cases hb : (c.hashes[a] == d) with
      | true => exact ih'
      | false => exact Or.inl ⟨false, rfl⟩
    | missing => exact Or.inl ⟨false, rfl⟩
    | sizeError => exact Or.inr (Or.inl ⟨rfl, a, hl⟩)
    | readError => exact Or.inr (Or.inr ⟨rfl, a, hl⟩)

theorem samples_wf {t : Tor} {c : Cand} (wc : WfCand t c) (hn : t.name = c.name)
    (hp : (pathSizes t.name t.files).Perm (pathSizes c.name c.files)) :
    ∃ s, samples t c = .ok s ∧ ∀ i ∈ s, i < c.hashes.length := by
  rw [hn] at hp
  have hloc : ∀ f ∈ t.files, ∃ pos, filePosition c.name f c.files 0 = some pos := by
    intro f hf
    cases h : filePosition c.name f c.files 0 with
    | some pos => exact ⟨pos, rfl⟩
    | none =>
      obtain ⟨g, hg, hm⟩ := mem_of_pathSizes_perm hp hf
      exact absurd hm ((filePosition_cases c.name f c.files 0).2 h g hg)
  refine ⟨_, samples_ok_iff.mpr ⟨hloc, rfl⟩, fun i hi => ?_⟩
  -- a sample of a located file lies inside the candidate's stream
  obtain ⟨f, hf, him⟩ := List.mem_flatMap.mp hi
  obtain ⟨pos, hpos⟩ := hloc f hf
  rw [samplesOf_located hpos] at him
  obtain ⟨pre, g, post, hfiles, _, hsz, hposeq, _⟩ := (filePosition_cases c.name f c.files 0).1 pos hpos
  obtain ⟨hne, hle⟩ := mem_fileSamples him
  rw [wc.len]
  have htot : pos + f.size ≤ (c.files.map (·.size)).sum := by
    rw [hfiles]; simp [List.sum_append]; omega
  have := piece_bound wc.pl hne htot
  omega

theorem isContentMatch_benign {t : Tor} {c : Cand} (loc : Nat → LocalPiece) (wc : WfCand t c)
    (hn : t.name = c.name)
    (hp : (pathSizes t.name t.files).Perm (pathSizes c.name c.files)) :
    Benign loc (isContentMatch t c loc) := by
  obtain ⟨s, hs, hlt⟩ := samples_wf wc hn hp
  unfold isContentMatch
  simp only [hs]
  exact checkAll_benign c loc _ fun i hi => hlt i (mem_sortedSet hi)

theorem perm_of_map_perm {α β : Type} [DecidableEq α] (g : α → β) :
    ∀ (l₁ l₂ : List α), (l₁.map g).Perm (l₂.map g) →
      (∀ a ∈ l₁, ∀ b ∈ l₂, g a = g b → a = b) → l₁.Perm l₂ := by
  intro l₁
  induction l₁ with
  | nil =>
    intro l₂ hp _
    have := hp.length_eq
    cases l₂ with
    | nil => exact List.Perm.nil
    | cons b r => simp at this
  | cons a l ih =>
    intro l₂ hp hinj
    have hga : g a ∈ l₂.map g := hp.subset (by simp)
    obtain ⟨b, hb, hgb⟩ := List.mem_map.mp hga
    have hab : a = b := hinj a (List.mem_cons_self ..) b hb hgb.symm
    subst hab
    have h2 : l₂.Perm (a :: l₂.erase a) := List.perm_cons_erase hb
    have h3 : (g a :: l.map g).Perm (g a :: (l₂.erase a).map g) := by
      simpa using hp.trans (h2.map g)
    have h4 := ih (l₂.erase a) h3.cons_inv
      (fun x hx y hy => hinj x (List.mem_cons_of_mem _ hx) y (List.mem_of_mem_erase hy))
    exact (h4.cons a).trans h2.symm

theorem files_perm {t : Tor} {c : Cand} (wc : WfCand t c) (hn : t.name = c.name)
    (hp : (pathSizes t.name t.files).Perm (pathSizes c.name c.files)) : t.files.Perm c.files := by
  rw [hn] at hp
  unfold pathSizes at hp
  apply perm_of_map_perm _ _ _ hp
  intro a ha b hb hab
  simp only [Prod.mk.injEq] at hab
  have := wc.inj a ha b hb hab.1.symm
  cases a; cases b
  simp only at this hab
  simp [this, hab.2]

theorem copy_wf {t : Tor} {c : Cand} (wc : WfCand t c) (hn : t.name = c.name)
    (hk : t.single = c.single)
    (hp : (pathSizes t.name t.files).Perm (pathSizes c.name c.files)) : ∃ t', copy c t = .ok t' := by
  unfold copy
  cases hcs : c.single with
  | true => exact ⟨_, rfl⟩
  | false =>
    rw [hcs] at hk
    simp [hk, List.isPerm_iff.mpr (files_perm wc hn hp)]

theorem candidate_outcome (t : Tor) (c : Cand) (loc : Nat → LocalPiece)
    (ht : wfTor t = true) (hc : wfCand t c = true) :
    isFileMatch t c = .ok false ∨
    (isFileMatch t c = .ok true ∧ Benign loc (isContentMatch t c loc) ∧ ∃ t', copy c t = .ok t') := by
  have hb := isFileMatch_wf_eq t c ht hc
  cases hi : fileIdentity t c with
  | false => exact .inl (hi ▸ hb)
  | true =>
    rw [hi] at hb
    obtain ⟨hn, hk, hp, _, _⟩ := (isFileMatch_wf t c ht hc).mp hb
    have wc := wfCand_unpack hc
    exact .inr ⟨hb, isContentMatch_benign loc wc hn hp, copy_wf wc hn hk hp⟩

/-- how a search over candidates without oddities can end: the three documented errors, and
    VerifyFileSizeError from the content check (not documented for `reuse()`; tolerated, notes/C18.md) -/
def Allowed (r : Res) : Prop :=
  (∃ b, r = .ok b) ∨ r = .raised .read ∨ r = .raised .bdecode ∨ r = .raised .metainfo ∨
    r = .raised .verifyFileSize

theorem Raises.allowed {t : Tor} {cb : Callback} {it : Item} {e : Err} (h : Raises t cb it e)
    (ht : wfTor t = true) (hc : ∀ c loc, readItem it = .ok (c, loc) → wfCand t c = true) :
    Allowed (.raised e) := by
  rcases h with ⟨hr, _⟩ | ⟨c, loc, hr, hx⟩
  · rcases readItem_error hr with rfl | rfl | rfl
    · exact .inr (.inl rfl)
    · exact .inr (.inr (.inl rfl))
    · exact .inr (.inr (.inr (.inl rfl)))
  · rcases candidate_outcome t c loc ht (hc c loc hr) with h1 | ⟨h1, hben, t', hcopy⟩
    · rcases hx with hx | ⟨hx, _⟩ <;> rw [h1] at hx <;> cases hx
    · rcases hx with hx | ⟨_, hx | ⟨_, hx⟩⟩
      · rw [h1] at hx; cases hx
      · rw [hx] at hben
        rcases hben with ⟨b, hb⟩ | ⟨hb, _⟩ | ⟨hb, _⟩ <;> cases hb
        · exact .inr (.inr (.inr (.inr rfl)))
        · exact .inr (.inl rfl)
      · rw [hcopy] at hx; cases hx

theorem Ends.allowed {t : Tor} {cb : Callback} {items : List Item} {r : Res} {t' : Tor}
    (h : Ends t cb items r t') (ht : wfTor t = true)
    (hall : ∀ c loc, Item.file (.torrent c) loc ∈ items → wfCand t c = true) : Allowed r := by
  induction h with
  | exhausted => exact .inl ⟨_, rfl⟩
  | raised hr =>
    exact hr.allowed ht fun c loc hi => hall c loc (by rw [readItem_ok hi]; exact List.mem_cons_self ..)
  | cancelled _ _ => exact .inl ⟨_, rfl⟩
  | skip _ _ ih => exact ih fun c loc hm => hall c loc (List.mem_cons_of_mem _ hm)
  | accepted _ => exact .inl ⟨_, rfl⟩

end Torf.Reuse
