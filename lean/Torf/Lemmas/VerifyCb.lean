/-
  The collector side of `verify` in closed form.  What one item contributes is decided by its
  kind (`C02.kindOf`: exceptions / no data / data with the stored digest / data with another one;
  an `ItemKind` of the pipeline model, because `C02_any_schedule` hands the kinds of a run's items
  to a configuration of C03):
  `itemCalls` (the calls it causes; `callsOf`: the callback trace of a run), `itemExc` (what is
  raised without a callback) are defined by it, `itemHashes` (the collected digests) by the item's
  fields; `collectItem_eq` is the one step that ties them to the model, through the table
  `kindOf_cases` of what an item of each kind looks like.  Then the fold over a run (`collect`),
  what the callback sees in terms of the items, and what the C02 theorems of both disk models read
  off a complete run (`Trace`).
-/
import Torf.Spec.Verify
import Torf.Spec.VerifySchedule
import Torf.Lemmas.Fold
namespace Torf.Verify
open Torf Torf.Missing

variable {α δ : Type} [DecidableEq δ]

def itemCalls (H : List α → δ) (L : Nat) (sizes : List Nat) (stored : List δ)
    (ii : Item α × Nat) : List (CbCall δ) :=
  match C02.kindOf H stored ii with
  | .exc => ii.1.excs.map fun e => ⟨ii.2 + 1, ii.2, none, some (excOf e)⟩
  | .mismatch =>
    [⟨ii.2 + 1, ii.2, ii.1.data.map H, some (.content ii.2 (corruptFiles L sizes ii.2))⟩]
  | _ => [⟨ii.2 + 1, ii.2, ii.1.data.map H, none⟩]

/-- the callback trace of a run that yields `items` (`k`: the index of the first of them) -/
def callsOf (H : List α → δ) (L : Nat) (sizes : List Nat) (stored : List δ)
    (items : List (Item α)) (k : Nat := 0) : List (CbCall δ) :=
  (items.zipIdx k).flatMap (itemCalls H L sizes stored)

theorem callsOf_cons (H : List α → δ) (L : Nat) (sizes : List Nat) (stored : List δ)
    (it : Item α) (items : List (Item α)) (k : Nat) :
    callsOf H L sizes stored (it :: items) k =
      itemCalls H L sizes stored (it, k) ++ callsOf H L sizes stored items (k + 1) := rfl

theorem callsOf_prefix (H : List α → δ) (L : Nat) (sizes : List Nat) (stored : List δ)
    (items full : List (Item α)) (h : items <+: full) :
    callsOf H L sizes stored items <+: callsOf H L sizes stored full := by
  obtain ⟨t, rfl⟩ := h
  unfold callsOf
  rw [List.zipIdx_append, List.flatMap_append]
  exact List.prefix_append _ _

def itemHashes (H : List α → δ) (it : Item α) : List δ :=
  if it.excs.isEmpty then (it.data.map H).toList else []

omit [DecidableEq δ] in
theorem hashes_eq_filterMap (H : List α → δ) (items : List (Item α)) :
    items.flatMap (itemHashes H) =
      items.filterMap fun it => if it.excs.isEmpty then it.data.map H else none := by
  induction items with
  | nil => rfl
  | cons it items ih =>
    rw [List.flatMap_cons, List.filterMap_cons, ih]
    unfold itemHashes
    by_cases he : it.excs.isEmpty = true <;> cases it.data <;> simp [he]

/-- `internal`: the IndexError of `self._exp_hashes[piece_index]` when `pieces` is too short -/
def itemExc (H : List α → δ) (L : Nat) (sizes : List Nat) (stored : List δ)
    (ii : Item α × Nat) : Option VErr :=
  match C02.kindOf H stored ii with
  | .exc => ii.1.excs.head?.map excOf
  | .mismatch =>
    some (if stored[ii.2]?.isNone then .internal else .content ii.2 (corruptFiles L sizes ii.2))
  | _ => none

omit [DecidableEq δ] in
/-- the items at which that IndexError is raised, before the callback is reached -/
def isShort (stored : List δ) (ii : Item α × Nat) : Bool :=
  ii.1.excs.isEmpty && ii.1.data.isSome && stored[ii.2]?.isNone

def excsOf (calls : List (CbCall δ)) : List VErr := calls.filterMap (·.exc)

theorem head?_cases {β : Type} (l : List β) : l.head? = none ∨ ∃ x ∈ l, l.head? = some x := by
  cases l with
  | nil => exact Or.inl rfl
  | cons x xs => exact Or.inr ⟨x, List.mem_cons_self, rfl⟩

theorem kindOf_cases (H : List α → δ) (stored : List δ) (x : Item α × Nat) :
    match C02.kindOf H stored x with
    | .exc => ∃ e es, x.1.excs = e :: es
    | .nodata => x.1.excs = [] ∧ x.1.data = none
    | .data => ∃ d, x.1.excs = [] ∧ x.1.data = some d ∧ stored[x.2]? = some (H d)
    | .mismatch => ∃ d, x.1.excs = [] ∧ x.1.data = some d ∧ stored[x.2]? ≠ some (H d) := by
  unfold C02.kindOf
  cases he : x.1.excs with
  | cons e es => exact ⟨e, es, rfl⟩
  | nil =>
    cases hd : x.1.data with
    | none => exact ⟨rfl, rfl⟩
    | some d => by_cases hs : stored[x.2]? = some (H d) <;> simp [hs]

omit [DecidableEq δ] in
theorem excsOf_append (a b : List (CbCall δ)) : excsOf (a ++ b) = excsOf a ++ excsOf b := by
  simp [excsOf]

omit [DecidableEq δ] in
theorem excsOf_ne_nil_iff (calls : List (CbCall δ)) :
    excsOf calls ≠ [] ↔ ∃ c ∈ calls, c.exc.isSome = true := by
  unfold excsOf
  rw [Ne, List.filterMap_eq_nil_iff, Classical.not_forall]
  exact exists_congr fun c => by rw [Classical.not_imp, Option.isSome_iff_ne_none]

theorem collectItem_raised (H : List α → δ) (L : Nat) (sizes : List Nat) (stored : List δ)
    (hasCb : Bool) (acc : Acc δ) (x : Item α × Nat) (h : acc.raised.isSome = true) :
    collectItem H L sizes stored hasCb acc x = acc := by
  unfold collectItem; simp [h]

theorem collectItem_eq (H : List α → δ) (L : Nat) (sizes : List Nat) (stored : List δ)
    (hasCb : Bool) (acc : Acc δ) (ii : Item α × Nat) (h : acc.raised = none) :
    collectItem H L sizes stored hasCb acc ii =
      { collected := acc.collected ++ itemHashes H ii.1,
        calls := acc.calls ++
          (if hasCb && !isShort stored ii then itemCalls H L sizes stored ii else []),
        raised := if hasCb && !isShort stored ii then none else itemExc H L sizes stored ii } := by
  obtain ⟨it, i⟩ := ii
  obtain ⟨col, calls, raised⟩ := acc
  simp only at h
  subst h
  have hc := kindOf_cases H stored (it, i)
  unfold collectItem itemCalls itemHashes itemExc isShort
  simp only [Option.isSome_none, Bool.false_eq_true, if_false]
  cases hk : C02.kindOf H stored (it, i) <;> rw [hk] at hc <;> simp only at hc ⊢
  case data =>
    obtain ⟨d, he, hd, hs⟩ := hc
    cases hasCb <;> simp [he, hd, hs]
  case mismatch =>
    obtain ⟨d, he, hd, hs⟩ := hc
    cases hst : stored[i]? with
    | none => cases hasCb <;> simp [he, hd]
    | some s =>
      have hm : H d ≠ s := fun h => hs (by rw [hst, h])
      cases hasCb <;> simp [he, hd, hm]
  case nodata => cases hasCb <;> simp [hc.1, hc.2]
  case exc =>
    obtain ⟨e, es, he⟩ := hc
    cases hasCb <;> simp [he]

omit [DecidableEq δ] in
theorem isShort_of_lt (stored : List δ) (ii : Item α × Nat) (hi : ii.2 < stored.length) :
    isShort stored ii = false := by
  simp [isShort, List.getElem?_eq_getElem hi]

theorem collectItem_cb (H : List α → δ) (L : Nat) (sizes : List Nat) (stored : List δ)
    (acc : Acc δ) (ii : Item α × Nat) (h : acc.raised = none) (hi : ii.2 < stored.length) :
    collectItem H L sizes stored true acc ii =
      { collected := acc.collected ++ itemHashes H ii.1,
        calls := acc.calls ++ itemCalls H L sizes stored ii,
        raised := none } := by
  rw [collectItem_eq H L sizes stored true acc ii h, isShort_of_lt stored ii hi]
  rfl

theorem collectItem_nocb (H : List α → δ) (L : Nat) (sizes : List Nat) (stored : List δ)
    (acc : Acc δ) (ii : Item α × Nat) (h : acc.raised = none) :
    collectItem H L sizes stored false acc ii =
      { collected := acc.collected ++ itemHashes H ii.1,
        calls := acc.calls,
        raised := itemExc H L sizes stored ii } := by
  rw [collectItem_eq H L sizes stored false acc ii h]
  simp

theorem itemExc_eq_head (H : List α → δ) (L : Nat) (sizes : List Nat) (stored : List δ)
    (ii : Item α × Nat) (hi : ii.2 < stored.length) :
    itemExc H L sizes stored ii = (excsOf (itemCalls H L sizes stored ii)).head? := by
  unfold itemExc itemCalls excsOf
  cases C02.kindOf H stored ii <;> simp [List.getElem?_eq_getElem hi]
  cases ii.1.excs <;> simp

theorem itemExc_dataItem (H : List α → δ) (L : Nat) (sizes : List Nat) (stored : List δ)
    (p : List α) (i : Nat) :
    itemExc H L sizes stored (dataItem p, i) =
      match stored[i]? with
      | none => some .internal
      | some s => if H p = s then none else some (.content i (corruptFiles L sizes i)) := by
  unfold itemExc C02.kindOf dataItem
  cases hs : stored[i]? with
  | none => simp
  | some s =>
    by_cases h : s = H p
    · simp [h]
    · simp [h]
      exact fun e => h e.symm

theorem itemExc_of_head (H : List α → δ) (L : Nat) (sizes : List Nat) (stored : List δ)
    (it : Item α) (i : Nat) (e : Nat × ErrKind) (he : it.excs.head? = some e) :
    itemExc H L sizes stored (it, i) = some (excOf e) := by
  unfold itemExc C02.kindOf
  cases hx : it.excs with
  | nil => simp [hx] at he
  | cons x xs => rw [hx] at he; simpa using congrArg (Option.map excOf) he

theorem fold_cb (H : List α → δ) (L : Nat) (sizes : List Nat) (stored : List δ)
    (items : List (Item α)) (k : Nat) (acc : Acc δ) (h : acc.raised = none)
    (hk : k + items.length ≤ stored.length) :
    (items.zipIdx k).foldl (collectItem H L sizes stored true) acc =
      { collected := acc.collected ++ items.flatMap (itemHashes H),
        calls := acc.calls ++ callsOf H L sizes stored items k,
        raised := none } := by
  induction items generalizing k acc with
  | nil => cases acc; simp only at h; subst h; simp [callsOf]
  | cons it items ih =>
    simp only [List.zipIdx_cons, List.foldl_cons, List.length_cons] at hk ⊢
    rw [collectItem_cb H L sizes stored acc (it, k) h (by simp only; omega)]
    rw [ih (k + 1) _ rfl (by omega)]
    simp [callsOf_cons, List.append_assoc]

theorem fold_nocb (H : List α → δ) (L : Nat) (sizes : List Nat) (stored : List δ)
    (items : List (Item α)) (k : Nat) (acc : Acc δ) (h : acc.raised = none) :
    let acc' := (items.zipIdx k).foldl (collectItem H L sizes stored false) acc
    acc'.raised = (items.zipIdx k).findSome? (itemExc H L sizes stored) ∧ acc'.calls = acc.calls ∧
      (acc'.raised = none → acc'.collected = acc.collected ++ items.flatMap (itemHashes H)) := by
  induction items generalizing k acc with
  | nil => simp [h]
  | cons it items ih =>
    simp only [List.zipIdx_cons, List.foldl_cons, List.findSome?_cons, List.flatMap_cons]
    rw [collectItem_nocb H L sizes stored acc (it, k) h]
    cases hx : itemExc H L sizes stored (it, k) with
    | none =>
      obtain ⟨h1, h2, h3⟩ := ih (k + 1)
        { collected := acc.collected ++ itemHashes H it, calls := acc.calls, raised := none } rfl
      exact ⟨h1, h2, fun h0 => by rw [h3 h0, List.append_assoc]⟩
    | some e =>
      rw [foldl_absorb _ _ (fun x => collectItem_raised H L sizes stored false _ x rfl)]
      simp

theorem findSome_itemExc (H : List α → δ) (L : Nat) (sizes : List Nat) (stored : List δ)
    (items : List (Item α)) (k : Nat) (hk : k + items.length ≤ stored.length) :
    (items.zipIdx k).findSome? (itemExc H L sizes stored) =
      (excsOf (callsOf H L sizes stored items k)).head? := by
  induction items generalizing k with
  | nil => rfl
  | cons it items ih =>
    simp only [List.length_cons] at hk
    simp only [List.zipIdx_cons, List.findSome?_cons, callsOf_cons, excsOf_append,
      List.head?_append, ← ih (k + 1) (by omega),
      itemExc_eq_head H L sizes stored (it, k) (by simp only; omega)]
    cases (excsOf (itemCalls H L sizes stored (it, k))).head? <;> rfl

/-- the end of `verify`: an exception raised while collecting; else the ReadError (file, errno)
    that ended the reader's iteration early, which `Collector._finalize` re-raises after
    everything queued has been collected; else the comparison of the digests -/
def finish (stored : List δ) (acc : Acc δ) (fault : Option (Nat × Nat)) :
    VResult × List (CbCall δ) :=
  match acc.raised with
  | some e => (.error e, acc.calls)
  | none =>
    match fault with
    | some (j, _) => (.error (.read j), acc.calls)
    | none => (.ok (acc.collected == stored), acc.calls)

theorem finish_snd (stored : List δ) (acc : Acc δ) (fault : Option (Nat × Nat)) :
    (finish stored acc fault).2 = acc.calls := by
  unfold finish
  cases acc.raised with
  | some e => rfl
  | none => cases fault <;> rfl

/-- what `verify` makes of the reader's run.  `verifySeq`, `verifyFs` and (with a throttled
    fold) `verifyCall` end in this. -/
def collect (H : List α → δ) (L : Nat) (sizes : List Nat) (stored : List δ) (hasCb : Bool)
    (items : List (Item α)) (fault : Option (Nat × Nat)) : VResult × List (CbCall δ) :=
  finish stored (items.zipIdx.foldl (collectItem H L sizes stored hasCb) {}) fault

def verdict (H : List α → δ) (stored : List δ) (items : List (Item α))
    (fault : Option (Nat × Nat)) : VResult :=
  match fault with
  | some (j, _) => .error (.read j)
  | none => .ok (items.flatMap (itemHashes H) == stored)

/-- `hlen`: at an item with data beyond the end of `stored` the IndexError is raised before the
    callback is reached (`isShort`), so the trace would not be `callsOf`; without a callback that
    error is `itemExc`'s `.internal`, and `collect_nocb` needs no bound -/
theorem collect_cb (H : List α → δ) (L : Nat) (sizes : List Nat) (stored : List δ)
    (items : List (Item α)) (fault : Option (Nat × Nat)) (hlen : items.length ≤ stored.length) :
    collect H L sizes stored true items fault =
      (verdict H stored items fault, callsOf H L sizes stored items) := by
  unfold collect finish verdict
  rw [fold_cb H L sizes stored items 0 {} rfl (by omega)]
  cases fault <;> simp

theorem collect_nocb (H : List α → δ) (L : Nat) (sizes : List Nat) (stored : List δ)
    (items : List (Item α)) (fault : Option (Nat × Nat)) :
    collect H L sizes stored false items fault =
      (match items.zipIdx.findSome? (itemExc H L sizes stored) with
        | some e => .error e
        | none => verdict H stored items fault, []) := by
  obtain ⟨h1, h2, h3⟩ := fold_nocb H L sizes stored items 0 {} rfl
  unfold collect finish verdict
  simp only at h1 h2 h3 ⊢
  rw [h2, ← h1]
  cases hr : (items.zipIdx.foldl (collectItem H L sizes stored false) {}).raised with
  | some e => rfl
  | none => rw [h3 hr]; cases fault <;> simp

omit [DecidableEq δ] in
/-- the check at the head of `verify`: a single-file torrent wants a non-directory, a multi-file
    torrent a directory; otherwise VerifyIsDirectoryError / VerifyNotDirectoryError is handed to
    the callback (and `False` returned) or raised, and nothing is read -/
def pathKindGate (hasCb single pathIsDir : Bool) (k : VResult × List (CbCall δ)) :
    VResult × List (CbCall δ) :=
  if single && pathIsDir then
    if hasCb then (.ok false, [⟨0, 0, none, some .isDir⟩]) else (.error .isDir, [])
  else if !single && !pathIsDir then
    if hasCb then (.ok false, [⟨0, 0, none, some .notDir⟩]) else (.error .notDir, [])
  else k

omit [DecidableEq δ] in
theorem pathKindGate_proper (hasCb : Bool) {single pathIsDir : Bool} (hp : single = !pathIsDir)
    (k : VResult × List (CbCall δ)) : pathKindGate hasCb single pathIsDir k = k := by
  subst hp; cases pathIsDir <;> rfl

omit [DecidableEq δ] in
theorem pathKindGate_rel (R : VResult × List (CbCall δ) → VResult × List (CbCall δ) → Prop)
    (hrefl : ∀ k, R k k) (hasCb single pathIsDir : Bool) {k k' : VResult × List (CbCall δ)}
    (h : R k k') :
    R (pathKindGate hasCb single pathIsDir k) (pathKindGate hasCb single pathIsDir k') := by
  cases single <;> cases pathIsDir
  · exact hrefl _
  · exact h
  · exact h
  · exact hrefl _

theorem verifySeq_eq_gate (H : List α → δ) (L : Nat) (sizes : List Nat)
    (disk : List (Option (List α))) (stored : List δ) (hasCb single pathIsDir : Bool) :
    verifySeq H L sizes disk stored hasCb single pathIsDir =
      pathKindGate hasCb single pathIsDir
        (match iterItems L sizes disk with
          | none => (.error .internal, [])
          | some items => collect H L sizes stored hasCb items none) := by
  unfold verifySeq pathKindGate
  cases iterItems L sizes disk <;> rfl

theorem verifySeq_eq_collect (H : List α → δ) (L : Nat) (sizes : List Nat)
    (disk : List (Option (List α))) (stored : List δ) (hasCb single pathIsDir : Bool)
    (hp : single = !pathIsDir) :
    verifySeq H L sizes disk stored hasCb single pathIsDir =
      match iterItems L sizes disk with
      | none => (.error .internal, [])
      | some items => collect H L sizes stored hasCb items none := by
  rw [verifySeq_eq_gate, pathKindGate_proper hasCb hp]

theorem collect_nocb_of_exc (H : List α → δ) (L : Nat) (sizes : List Nat) (stored : List δ)
    (items : List (Item α)) (fault : Option (Nat × Nat)) (it : Item α) (hmem : it ∈ items)
    (hne : it.excs ≠ []) : (collect H L sizes stored false items fault).1 ≠ .ok true := by
  obtain ⟨i, hi, rfl⟩ := List.getElem_of_mem hmem
  obtain ⟨e, he⟩ : ∃ e, items[i].excs.head? = some e := by
    cases hx : items[i].excs with
    | nil => exact absurd hx hne
    | cons e es => exact ⟨e, rfl⟩
  have : (items.zipIdx.findSome? (itemExc H L sizes stored)).isSome = true :=
    List.findSome?_isSome_iff.mpr ⟨(items[i], i),
      List.mem_zipIdx_iff_getElem?.mpr (List.getElem?_eq_getElem hi),
      by rw [itemExc_of_head H L sizes stored _ _ e he]; rfl⟩
  obtain ⟨x, hx⟩ := Option.isSome_iff_exists.mp this
  rw [collect_nocb, hx]
  exact fun h => by cases h

omit [DecidableEq δ] in
theorem hashes_dataItems (H : List α → δ) (ps : List (List α)) :
    (ps.map dataItem).flatMap (itemHashes H) = ps.map H := by
  rw [List.flatMap_map]
  exact List.map_eq_flatMap.symm

theorem collect_dataItems_iff (H : List α → δ) (L : Nat) (sizes : List Nat) (stored : List δ)
    (ps : List (List α)) :
    (collect H L sizes stored false (ps.map dataItem) none).1 = .ok true ↔ ps.map H = stored := by
  rw [collect_nocb]
  simp only [verdict, hashes_dataItems]
  cases hf : (ps.map dataItem).zipIdx.findSome? (itemExc H L sizes stored) with
  | none => simp
  | some e =>
    simp only [reduceCtorEq, false_iff]
    intro heq
    obtain ⟨⟨it, i⟩, hm, hx⟩ := List.exists_of_findSome?_eq_some hf
    rw [List.mem_zipIdx_iff_getElem?, List.getElem?_map] at hm
    obtain ⟨p, hp, rfl⟩ := Option.map_eq_some_iff.mp hm
    rw [itemExc_dataItem, ← heq, List.getElem?_map, hp] at hx
    simp at hx

theorem itemExc_dataItems_kind (H : List α → δ) (L : Nat) (sizes : List Nat) (stored : List δ)
    (ps : List (List α)) (k : Nat) (e : VErr)
    (h : ((ps.map dataItem).zipIdx k).findSome? (itemExc H L sizes stored) = some e) :
    e = .internal ∨ ∃ p fs, e = .content p fs := by
  obtain ⟨⟨it, i⟩, hmem, hx⟩ := List.exists_of_findSome?_eq_some h
  have hm : it ∈ ps.map dataItem := (List.mem_zipIdx hmem).2.2 ▸ List.getElem_mem _
  obtain ⟨p, _, rfl⟩ := List.mem_map.mp hm
  rw [itemExc_dataItem] at hx
  split at hx
  · exact Or.inl (Option.some.inj hx).symm
  · split at hx
    · cases hx
    · exact Or.inr ⟨_, _, (Option.some.inj hx).symm⟩

def isFileErr : VErr → Bool
  | .read _ => true
  | .size _ => true
  | _ => false

def isContentErr : VErr → Bool
  | .content _ _ => true
  | _ => false

def mmOf (H : List α → δ) (stored : List δ) (di : Option (List α) × Nat) : Option Nat :=
  match di.1 with
  | none => none
  | some bytes => if some (H bytes) = stored[di.2]? then none else some di.2

theorem mismatches_eq (H : List α → δ) (L : Nat) (sizes : List Nat)
    (disk : List (Option (List α))) (stored : List δ) :
    mismatches H L sizes disk stored = (specData L sizes disk).zipIdx.filterMap (mmOf H stored) := by
  unfold mismatches
  congr 1

omit [DecidableEq δ] in
theorem filter_file_map_excOf (l : List (Nat × ErrKind)) :
    (l.map excOf).filter isFileErr = l.map excOf := by
  rw [List.filter_eq_self]
  intro x hx
  obtain ⟨e, _, rfl⟩ := List.mem_map.mp hx
  obtain ⟨f, k⟩ := e
  cases k <;> rfl

omit [DecidableEq δ] in
theorem filter_content_map_excOf (l : List (Nat × ErrKind)) :
    (l.map excOf).filter isContentErr = [] := by
  rw [List.filter_eq_nil_iff]
  intro x hx
  obtain ⟨e, _, rfl⟩ := List.mem_map.mp hx
  obtain ⟨f, k⟩ := e
  cases k <;> simp [excOf, isContentErr]

theorem excsOf_itemCalls (H : List α → δ) (L : Nat) (sizes : List Nat) (stored : List δ)
    (ii : Item α × Nat) :
    excsOf (itemCalls H L sizes stored ii) =
      if !ii.1.excs.isEmpty then ii.1.excs.map excOf else
        ((mmOf H stored (ii.1.data, ii.2)).map
          fun p => VErr.content p (corruptFiles L sizes p)).toList := by
  have hc := kindOf_cases H stored ii
  unfold itemCalls excsOf mmOf
  cases hk : C02.kindOf H stored ii <;> rw [hk] at hc <;> simp only at hc
  case data =>
    obtain ⟨d, he, hd, hs⟩ := hc
    simp [he, hd, hs]
  case mismatch =>
    obtain ⟨d, he, hd, hs⟩ := hc
    have : ¬ some (H d) = stored[ii.2]? := fun h => hs h.symm
    simp [he, hd, this]
  case nodata => simp [hc.1, hc.2]
  case exc =>
    obtain ⟨e, es, he⟩ := hc
    simp [he, Function.comp_def]

omit [DecidableEq δ] in
theorem reported_cons (it : Item α) (items : List (Item α)) :
    reported (it :: items) = it.excs ++ reported items := by
  unfold reported
  simp only [List.map_cons, List.flatten_cons]

theorem excs_file (H : List α → δ) (L : Nat) (sizes : List Nat) (stored : List δ)
    (items : List (Item α)) (k : Nat) :
    (excsOf (callsOf H L sizes stored items k)).filter isFileErr = (reported items).map excOf := by
  induction items generalizing k with
  | nil => simp [excsOf, callsOf, reported]
  | cons it items ih =>
    simp only [callsOf_cons, excsOf_append, List.filter_append, ih]
    rw [reported_cons, List.map_append]
    congr 1
    rw [excsOf_itemCalls]
    by_cases he : it.excs.isEmpty = true
    · simp only [he, Bool.not_true, Bool.false_eq_true, if_false]
      have : it.excs = [] := by simpa using he
      rw [this]
      cases mmOf H stored (it.data, k) <;> simp [isFileErr]
    · simp only [he, Bool.not_false, if_true]
      exact filter_file_map_excOf _

theorem excs_content (H : List α → δ) (L : Nat) (sizes : List Nat) (stored : List δ)
    (items : List (Item α)) (k : Nat)
    (hclean : ∀ it ∈ items, it.data.isSome → it.excs = []) :
    (excsOf (callsOf H L sizes stored items k)).filter isContentErr =
      (((items.map (·.data)).zipIdx k).filterMap (mmOf H stored)).map
        fun p => VErr.content p (corruptFiles L sizes p) := by
  induction items generalizing k with
  | nil => simp [excsOf, callsOf]
  | cons it items ih =>
    simp only [List.zipIdx_cons, callsOf_cons, excsOf_append, List.filter_append,
      List.map_cons, List.filterMap_cons]
    rw [ih (k + 1) (fun it' h' => hclean it' (List.mem_cons_of_mem _ h'))]
    rw [excsOf_itemCalls]
    by_cases he : it.excs.isEmpty = true
    · simp only [he, Bool.not_true, Bool.false_eq_true, if_false]
      cases mmOf H stored (it.data, k) with
      | none => simp
      | some p =>
        simp only [Option.map_some, Option.toList_some, List.map_cons]
        rw [List.filter_cons_of_pos (by rfl)]
        simp
    · simp only [he, Bool.not_false, if_true]
      rw [filter_content_map_excOf]
      have hd : it.data = none := by
        cases hdd : it.data with
        | none => rfl
        | some d =>
          have := hclean it List.mem_cons_self (by rw [hdd]; rfl)
          rw [this] at he
          exact absurd rfl he
      simp [hd, mmOf]

theorem excs_kinds (H : List α → δ) (L : Nat) (sizes : List Nat) (stored : List δ)
    (items : List (Item α)) (k : Nat) :
    ∀ e ∈ excsOf (callsOf H L sizes stored items k),
      isFileErr e = true ∨ isContentErr e = true := by
  intro e he
  obtain ⟨c, hc, hce⟩ := List.mem_filterMap.mp he
  obtain ⟨ii, _, hci⟩ := List.mem_flatMap.mp hc
  unfold itemCalls at hci
  split at hci
  · obtain ⟨⟨f, k⟩, _, rfl⟩ := List.mem_map.mp hci
    cases hce
    exact Or.inl (by cases k <;> rfl)
  · cases List.mem_singleton.mp hci
    cases hce
    exact Or.inr rfl
  · cases List.mem_singleton.mp hci
    cases hce

theorem calls_progress (H : List α → δ) (L : Nat) (sizes : List Nat) (stored : List δ)
    (items : List (Item α)) :
    ∀ c ∈ callsOf H L sizes stored items,
      c.done = c.piece + 1 ∧ c.piece < items.length ∧
      (∀ p fs, c.exc = some (.content p fs) → p = c.piece ∧ fs = corruptFiles L sizes p) := by
  intro c hc
  obtain ⟨⟨it, i⟩, hii, hci⟩ := List.mem_flatMap.mp hc
  have hi : i < items.length := by
    have := List.mem_zipIdx hii
    omega
  unfold itemCalls at hci
  split at hci
  · obtain ⟨⟨f, k⟩, _, rfl⟩ := List.mem_map.mp hci
    exact ⟨rfl, hi, fun p fs h => by cases k <;> cases h⟩
  · cases List.mem_singleton.mp hci
    exact ⟨rfl, hi, fun p fs h => by cases h; exact ⟨rfl, rfl⟩⟩
  · cases List.mem_singleton.mp hci
    exact ⟨rfl, hi, fun p fs h => by cases h⟩

/-- What the C02 theorems need to know of the items of a run the reader finished: they are the
    pieces of `disk` (`specData`), and `ok` — the verdict the specification asks for — is whether
    the collected digests are the stored ones, with an exception handed over whenever it is not. -/
structure Trace (H : List α → δ) (L : Nat) (sizes : List Nat) (disk : List (Option (List α)))
    (stored : List δ) (ok : Bool) (items : List (Item α)) : Prop where
  len : items.length = nPieces L sizes.sum
  data : items.map (·.data) = specData L sizes disk
  clean : ∀ it ∈ items, it.data.isSome → it.excs = []
  spec : (items.flatMap (itemHashes H) == stored) = ok
  exc : ok = false → excsOf (callsOf H L sizes stored items) ≠ []

variable {H : List α → δ} {L : Nat} {sizes : List Nat} {disk : List (Option (List α))}
  {stored : List δ} {ok : Bool} {items : List (Item α)}

theorem Trace.collect_cb (t : Trace H L sizes disk stored ok items)
    (hlen : stored.length = nPieces L sizes.sum) :
    collect H L sizes stored true items none = (.ok ok, callsOf H L sizes stored items) := by
  rw [Verify.collect_cb _ _ _ _ _ _ (by rw [t.len, hlen]; omega), verdict, t.spec]

theorem Trace.collect_nocb (t : Trace H L sizes disk stored ok items)
    (hlen : stored.length = nPieces L sizes.sum) :
    collect H L sizes stored false items none =
      (match (excsOf (callsOf H L sizes stored items)).head? with
        | some e => .error e
        | none => .ok true, []) := by
  rw [Verify.collect_nocb, findSome_itemExc _ _ _ _ _ 0 (by rw [t.len, hlen]; omega), verdict,
    t.spec]
  cases hx : excsOf (callsOf H L sizes stored items) with
  | nil =>
    cases ok with
    | true => rfl
    | false => exact absurd hx (t.exc rfl)
  | cons e es => rfl

theorem Trace.calls (t : Trace H L sizes disk stored ok items) :
    let calls := callsOf H L sizes stored items
    (excsOf calls).filter isContentErr =
      (mismatches H L sizes disk stored).map (fun p => VErr.content p (corruptFiles L sizes p)) ∧
    (∀ e ∈ excsOf calls, isFileErr e = true ∨ isContentErr e = true) ∧
    (∀ c ∈ calls, ∀ p fs, c.exc = some (.content p fs) → c.piece = p) ∧
    (ok = false → ∃ c ∈ calls, c.exc.isSome = true) ∧
    (∀ c ∈ calls, 1 ≤ c.done ∧ c.piece < nPieces L sizes.sum ∧ c.done = c.piece + 1) := by
  refine ⟨?_, excs_kinds H L sizes stored items 0, ?_, ?_, ?_⟩
  · rw [excs_content H L sizes stored items 0 t.clean, mismatches_eq, t.data]
  · intro c hc p fs he
    exact ((calls_progress H L sizes stored items c hc).2.2 p fs he).1.symm
  · exact fun hs => (excsOf_ne_nil_iff _).mp (t.exc hs)
  · intro c hc
    obtain ⟨h1, h2, _⟩ := calls_progress H L sizes stored items c hc
    rw [t.len] at h2
    exact ⟨by omega, h2, h1⟩

theorem Trace.excs_cases (t : Trace H L sizes disk stored ok items) :
    ∀ x ∈ excsOf (callsOf H L sizes stored items),
      (∃ y ∈ reported items, x = excOf y) ∨
      (∃ p ∈ mismatches H L sizes disk stored, x = .content p (corruptFiles L sizes p)) := by
  obtain ⟨hcont, hkinds, _⟩ := t.calls
  intro x hx
  rcases hkinds x hx with hk | hk
  · have := List.mem_filter.mpr ⟨hx, hk⟩
    rw [excs_file] at this
    obtain ⟨y, hy, rfl⟩ := List.mem_map.mp this
    exact Or.inl ⟨y, hy, rfl⟩
  · have := List.mem_filter.mpr ⟨hx, hk⟩
    rw [hcont] at this
    obtain ⟨p, hp, rfl⟩ := List.mem_map.mp this
    exact Or.inr ⟨p, hp, rfl⟩

end Torf.Verify
