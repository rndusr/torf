/-
  The operating system's path resolution (`walk1`, `walk`, `resolve` of Torf.Model.ReuseSearch):
  what one component does (`hop`), walking `cs ++ rest` is walking `cs` and then `rest` from where
  that ended, and the limit on symbolic links matters only when it is hit.  Then `_find`: what it
  makes of one spelling (`kind`, with the answers of the OS behind each kind) and the table
  `find_succ` of what it yields there.
-/
import Torf.Model.ReuseSearch
import Torf.Lemmas.Basics
namespace Torf.Reuse
open Torf.Paths (PPath)

inductive Hop where
  | goto (st : List Nat)
  | file (ino : Nat)
  | link (target : PPath)
  | err (e : OsErr)

/-- the entries of the directory at `st`, if it is one and may be searched — what every lookup
    there needs, `.` and `..` included -/
def searchable (fs : FS) (st : List Nat) : Except OsErr (List (String × Nat)) :=
  match fs[curIno st]? with
  | some (.dir _ x entries) => if x then .ok entries else .error .acces
  | _ => .error .notdir

def enter (fs : FS) (st : List Nat) (ino : Nat) : Hop :=
  match fs[ino]? with
  | none => .err .noent
  | some (.dir ..) => .goto (ino :: st)
  | some (.file ..) => .file ino
  | some (.link tgt) => .link tgt

def hop (fs : FS) (st : List Nat) (c : String) : Hop :=
  if c == "" then .goto st
  else match searchable fs st with
    | .error e => .err e
    | .ok entries =>
      if c == "." then .goto st
      else if c == ".." then .goto st.tail
      else match entries.lookup c with
        | none => .err .noent
        | some ino => enter fs st ino

theorem walk1_cons (fs : FS) (st : List Nat) (c : String) (cs : List String) :
    walk1 fs st (c :: cs) =
      match hop fs st c with
      | .goto st' => walk1 fs st' cs
      | .file ino => if cs.isEmpty then .done (.file ino) else .err .notdir
      | .link tgt => .follow st tgt cs
      | .err e => .err e := by
  rw [walk1.eq_2]
  unfold hop searchable enter
  by_cases h0 : (c == "") = true
  · simp only [h0, if_true]
  · simp only [h0, Bool.false_eq_true, if_false]
    cases fs[curIno st]? with
    | none => rfl
    | some nd =>
      cases nd with
      | file _ _ _ => rfl
      | link _ => rfl
      | dir r x es =>
        cases x with
        | false => rfl
        | true =>
          simp only [Bool.not_true, Bool.false_eq_true, if_false, if_true]
          by_cases h1 : (c == ".") = true
          · simp only [h1, if_true]
          · by_cases h2 : (c == "..") = true
            · simp only [h1, h2, if_true, Bool.false_eq_true, if_false]
            · simp only [h1, h2, Bool.false_eq_true, if_false]
              cases es.lookup c with
              | none => rfl
              | some ino =>
                dsimp only
                cases fs[ino]? with
                | none => rfl
                | some nd => cases nd <;> rfl

theorem hop_dot_or_err (fs : FS) (st : List Nat) :
    hop fs st "." = .goto st ∨ ∃ e, ∀ c, c ≠ "" → hop fs st c = .err e := by
  unfold hop
  cases searchable fs st with
  | ok es => exact .inl rfl
  | error e => exact .inr ⟨e, fun c hc => by rw [if_neg (by simpa using hc)]⟩

def Walk.andThen (w : Walk) (rest : List String) (k : List Nat → Walk) : Walk :=
  match w with
  | .done (.dir st') => k st'
  | .done (.file i) => if rest.isEmpty then .done (.file i) else .err .notdir
  | .err e => .err e
  | .follow s t r => .follow s t (r ++ rest)

theorem walk1_append (fs : FS) (cs rest : List String) : ∀ st : List Nat,
    walk1 fs st (cs ++ rest) = (walk1 fs st cs).andThen rest (fun st' => walk1 fs st' rest) := by
  induction cs with
  | nil => intro st; rfl
  | cons c cs ih =>
    intro st
    rw [List.cons_append, walk1_cons, walk1_cons]
    cases hop fs st c with
    | goto st' => exact ih st'
    | file ino => cases cs <;> simp [Walk.andThen]
    | link tgt => rfl
    | err e => rfl

/-- `walk` in one equation for both `0` and `n + 1` links left -/
theorem walk_eq (fs : FS) (n : Nat) (st : List Nat) (cs : List String) :
    walk fs n st cs =
      match walk1 fs st cs, n with
      | .done l, _ => .ok l
      | .err e, _ => .error e
      | .follow .., 0 => .error .loop
      | .follow st' tgt rest, n + 1 => walk fs n (if tgt.abs then [] else st') (tgt.comps ++ rest) := by
  cases n <;> (conv => lhs; unfold walk) <;> cases walk1 fs st cs <;> rfl

theorem walk_nil (fs : FS) (k : Nat) (st : List Nat) : walk fs k st [] = .ok (.dir st) := by
  rw [walk_eq]; rfl

theorem walk_done (fs : FS) {st : List Nat} {cs : List String} {st' : List Nat}
    (hw : walk1 fs st cs = .done (.dir st')) (n : Nat) (rest : List String) :
    walk fs n st (cs ++ rest) = walk fs n st' rest := by
  rw [walk_eq, walk1_append, hw, walk_eq fs n st' rest]; rfl

theorem walk_follow (fs : FS) {st : List Nat} {cs : List String} {s : List Nat} {t : PPath}
    {r : List String} (hw : walk1 fs st cs = .follow s t r) (n : Nat) (rest : List String) :
    walk fs (n + 1) st (cs ++ rest) = walk fs n (if t.abs then [] else s) (t.comps ++ r ++ rest) := by
  rw [walk_eq, walk1_append, hw, List.append_assoc]; rfl

/-- walking `cs ++ rest`: one budget `k` (what is left after the links met in `cs`) serves every `rest` -/
theorem walk_append_all (fs : FS) (n : Nat) : ∀ (st : List Nat) (cs : List String) (st' : List Nat),
    walk fs n st cs = .ok (.dir st') →
    ∃ k, k ≤ n ∧ ∀ rest, walk fs n st (cs ++ rest) = walk fs k st' rest := by
  induction n using Nat.strongRecOn with
  | ind n ih =>
    intro st cs st' h
    rw [walk_eq] at h
    cases hw : walk1 fs st cs with
    | done l =>
      simp only [hw, Except.ok.injEq] at h
      subst h
      exact ⟨n, Nat.le_refl _, walk_done fs hw n⟩
    | err e => simp [hw] at h
    | follow s t r =>
      cases n with
      | zero => simp [hw] at h
      | succ m =>
        simp only [hw] at h
        obtain ⟨k, hk, hkk⟩ := ih m (Nat.lt_succ_self m) _ _ st' h
        exact ⟨k, by omega, fun rest => by rw [walk_follow fs hw, hkk]⟩

theorem walk_succ (fs : FS) (n : Nat) : ∀ (st : List Nat) (cs : List String),
    walk fs n st cs ≠ .error .loop → walk fs (n + 1) st cs = walk fs n st cs := by
  induction n using Nat.strongRecOn with
  | ind n ih =>
    intro st cs h
    rw [walk_eq] at h ⊢
    rw [walk_eq fs n]
    cases hw : walk1 fs st cs with
    | done l => rfl
    | err e => rfl
    | follow s t r =>
      cases n with
      | zero => simp [hw] at h
      | succ m => simp only [hw] at h ⊢; exact ih m (Nat.lt_succ_self m) _ _ h

theorem walk_mono (fs : FS) (n m : Nat) (st : List Nat) (cs : List String)
    (h : walk fs n st cs ≠ .error .loop) (hle : n ≤ m) : walk fs m st cs = walk fs n st cs := by
  induction hle with
  | refl => rfl
  | step _ ih => rw [← ih]; exact walk_succ fs _ st cs (ih ▸ h)

theorem walk_budget_irrelevant (fs : FS) (k1 k2 : Nat) (st : List Nat) (cs : List String)
    (h1 : walk fs k1 st cs ≠ .error .loop) (h2 : walk fs k2 st cs ≠ .error .loop) :
    walk fs k1 st cs = walk fs k2 st cs := by
  rcases Nat.le_total k1 k2 with h | h
  · exact (walk_mono fs k1 k2 st cs h1 h).symm
  · exact walk_mono fs k2 k1 st cs h2 h

theorem walk_link_dot (fs : FS) (st : List Nat) (c : String) (hc : hop fs st c = .link ⟨false, ["."]⟩)
    (hd : hop fs st "." = .goto st) (m : Nat) (rest : List String) :
    walk fs (m + 1) st (c :: rest) = walk fs m st rest := by
  rw [walk_eq, walk1_cons, hc, walk_eq fs m st rest]
  simp only [Bool.false_eq_true, if_false, List.cons_append, List.nil_append]
  rw [walk_eq, walk1_cons, hd]

theorem walk_dot_links (fs : FS) (st : List Nat) (hd : hop fs st "." = .goto st) (names : List String)
    (h : ∀ c ∈ names, hop fs st c = .link ⟨false, ["."]⟩) (n : Nat) (rest : List String) :
    walk fs (names.length + n) st (names ++ rest) = walk fs n st rest := by
  induction names with
  | nil => simp
  | cons c cs ih =>
    rw [List.length_cons, List.cons_append, Nat.add_right_comm,
      walk_link_dot fs st c (h c (List.mem_cons_self ..)) hd]
    exact ih fun d hd => h d (List.mem_cons_of_mem _ hd)

/-- the hypothesis says: not the empty string (which `resolve` answers with ENOENT) -/
theorem resolve_of_head {w : World} {p : PPath} (h : p.abs = true ∨ p.comps.headD "" ≠ "") :
    resolve w p = walk w.fs maxLinks (if p.abs then [] else w.cwd) p.comps := by
  unfold resolve
  rw [if_neg]
  intro hg
  simp only [Bool.and_eq_true, Bool.not_eq_true', beq_iff_eq] at hg
  rcases h with h | h
  · rw [hg.1] at h; cases h
  · exact h hg.2

theorem resolve_ok {w : World} {p : PPath} {l : Loc} (h : resolve w p = .ok l) :
    (p.abs = true ∨ p.comps.headD "" ≠ "") ∧
      walk w.fs maxLinks (if p.abs then [] else w.cwd) p.comps = .ok l := by
  by_cases hh : p.abs = true ∨ p.comps.headD "" ≠ ""
  · exact ⟨hh, resolve_of_head hh ▸ h⟩
  · unfold resolve at h
    rw [if_pos (by simpa [not_or] using hh)] at h
    cases h

theorem resolve_append {w : World} {p : PPath} {st : List Nat} (h : resolve w p = .ok (.dir st)) :
    ∃ k, k ≤ maxLinks ∧ ∀ names, resolve w ⟨p.abs, p.comps ++ names⟩ = walk w.fs k st names := by
  obtain ⟨hh, hw⟩ := resolve_ok h
  obtain ⟨k, hk, hkk⟩ := walk_append_all w.fs _ _ _ _ hw
  refine ⟨k, hk, fun names => ?_⟩
  -- the longer spelling starts like `p`
  rw [resolve_of_head (p := ⟨p.abs, p.comps ++ names⟩)
    (hh.imp_right fun hne => by cases hp : p.comps <;> simp_all)]
  exact hkk names

theorem listdir_ok_isdir {w : World} {p : PPath} {names : List String}
    (h : listdir w p = .ok names) : isdir w p = true := by
  unfold listdir at h
  unfold isdir
  split at h
  · rename_i st heq; simp [heq]
  · cases h
  · cases h

/-- what `_find` makes of a spelling, by what the OS answers about it -/
inductive Kind where
  | dir (names : List String)
  | unlistable
  | torrent (size : Nat)
  | nostat
  | missing
  | other

def kind (w : World) (p : PPath) : Kind :=
  if isdir w p then
    match listdir w p with
    | .ok names => .dir names
    | .error _ => .unlistable
  else if isTorrentName (basename p) then
    match getsize w p with
    | some sz => .torrent sz
    | none => .nostat
  else if !pexists w p then .missing
  else .other

theorem find_succ (w : World) (fuel : Nat) (p : PPath) :
    find w (fuel + 1) p =
      match kind w p with
      | .dir names => names.flatMap fun n => find w fuel (push p n)
      | .unlistable => [.pathError p]
      | .torrent sz => if sz ≤ w.maxSize then [.tfile p true] else []
      | .nostat => [.tfile p false]
      | .missing => [.pathError p]
      | .other => [] := by
  rw [find.eq_2, kind]
  cases isdir w p with
  | true => cases listdir w p <;> rfl
  | false =>
    cases isTorrentName (basename p) with
    | true => cases getsize w p <;> rfl
    | false => cases pexists w p <;> rfl

theorem kind_spec (w : World) (p : PPath) :
    match kind w p with
    | .dir names => listdir w p = .ok names
    | .unlistable => isdir w p = true ∧ ∃ e, listdir w p = .error e
    | .torrent sz => isdir w p = false ∧ isTorrentName (basename p) = true ∧ getsize w p = some sz
    | .nostat => isdir w p = false ∧ isTorrentName (basename p) = true ∧ getsize w p = none
    | .missing => isdir w p = false ∧ pexists w p = false
    | .other => True := by
  unfold kind
  cases hd : isdir w p with
  | true => cases hl : listdir w p with
    | ok names => rfl
    | error e => exact ⟨rfl, e, rfl⟩
  | false =>
    cases hn : isTorrentName (basename p) with
    | true => cases hs : getsize w p <;> exact ⟨rfl, rfl, rfl⟩
    | false => cases he : pexists w p with
      | true => trivial
      | false => exact ⟨rfl, rfl⟩

theorem find_dir {w : World} {p : PPath} {names : List String} (h : listdir w p = .ok names) (fuel : Nat) :
    find w (fuel + 1) p = names.flatMap fun n => find w fuel (push p n) := by
  rw [find_succ, kind, listdir_ok_isdir h, h]; rfl

theorem find_file {w : World} {q : PPath} {sz : Nat} (hnd : isdir w q = false)
    (hname : isTorrentName (basename q) = true) (hsz : getsize w q = some sz) (hmax : sz ≤ w.maxSize)
    (fuel : Nat) : find w (fuel + 1) q = [.tfile q true] := by
  rw [find_succ, kind, hnd, hname, hsz]; exact if_pos hmax

theorem find_missing {w : World} {p : PPath} (hnd : isdir w p = false)
    (hname : isTorrentName (basename p) = false) (hex : pexists w p = false) (fuel : Nat) :
    find w (fuel + 1) p = [.pathError p] := by
  rw [find_succ, kind, hnd, hname, hex]; rfl

theorem basename_push (p : PPath) (n : String) : basename (push p n) = n := by
  simp [basename, push]

theorem readAt_torrent {w : World} {q : PPath} {c : Cand} {loc : Nat → LocalPiece} :
    readAt w q = (.torrent c, loc) ↔ ∃ ino sz cid, resolve w q = .ok (.file ino) ∧
      w.fs[ino]? = some (.file sz true cid) ∧ w.content cid = (.torrent c, loc) := by
  unfold readAt
  constructor
  · intro h
    split at h
    · next ino hres =>
      split at h
      · next sz cid hnode => exact ⟨ino, sz, cid, hres, hnode, h⟩
      · cases h
    · cases h
  · rintro ⟨ino, sz, cid, hres, hnode, hc⟩
    simp only [hres, hnode, hc]

theorem mem_searchItems {w : World} {fuel : Nat} {paths : List PPath} {r : ReadOutcome}
    {loc : Nat → LocalPiece} :
    Item.file r loc ∈ searchItems w fuel paths ↔
      ∃ p ∈ paths, ∃ q ok, Found.tfile q ok ∈ find w fuel p ∧ readAt w q = (r, loc) := by
  simp only [searchItems, searchFound, List.mem_filterMap, List.mem_flatMap]
  constructor
  · rintro ⟨x, ⟨p, hp, hx⟩, hi⟩
    cases x with
    | tfile q ok => cases hi; exact ⟨p, hp, q, ok, hx, rfl⟩
    | pathError _ => cases hi
    | overflow => cases hi
  · rintro ⟨p, hp, q, ok, hx, hr⟩
    exact ⟨_, ⟨p, hp, hx⟩, by simp [Found.toItem, hr]⟩

end Torf.Reuse
