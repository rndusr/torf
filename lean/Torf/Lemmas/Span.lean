/-
  Lemmas about `valueSpan` / `spanOf`: the reported span really is the encoding of the looked-up
  value inside the serialisation.
-/
import Torf.Spec.Span
import Torf.Lemmas.BencodeNorm
namespace Torf.Bencode

theorem valueSpan_of_lookup (k : Bytes) (v : BVal) :
    ∀ (kvs : List (Bytes × BVal)) (off : Nat), lookup k kvs = some v →
    ∃ A B, serEntries kvs = A ++ ser v ++ B ∧
      valueSpan k kvs off = some (off + A.length, (ser v).length)
  | [], _, h => by simp [lookup] at h
  | (k', v') :: t, off, h => by
    simp only [lookup] at h
    simp only [valueSpan, serEntries_cons]
    split at h
    · rename_i hk
      simp only [Option.some.injEq] at h; subst h
      refine ⟨serBytes k', serEntries t, by simp, ?_⟩
      simp [hk]
    · rename_i hk
      obtain ⟨A, B, hs, hv⟩ := valueSpan_of_lookup k v t (off + (serBytes k').length + (ser v').length) h
      refine ⟨serBytes k' ++ ser v' ++ A, B, by simp [hs], ?_⟩
      simp only [hk, if_false, hv, List.length_append]
      simp [Nat.add_assoc]

theorem lookup_of_valueSpan (k : Bytes) :
    ∀ (kvs : List (Bytes × BVal)) (off s n : Nat), valueSpan k kvs off = some (s, n) →
    ∃ v, lookup k kvs = some v
  | [], _, _, _, h => by simp [valueSpan] at h
  | (k', v') :: t, off, s, n, h => by
    simp only [valueSpan] at h
    simp only [lookup]
    split
    · exact ⟨v', rfl⟩
    · rename_i hk
      simp only [hk, if_false] at h
      exact lookup_of_valueSpan k t _ s n h

theorem spanOf_ser_dict (lim : Nat) (k : Bytes) (v : BVal) (kvs : List (Bytes × BVal))
    (hu : uniqKeys (.dict kvs) = true) (hs : small lim (.dict kvs) = true) (hm : (k, v) ∈ kvs) :
    ∃ pre post, ser (.dict kvs) = pre ++ ser v ++ post ∧
      spanOf lim k (ser (.dict kvs)) = some (pre.length, (ser v).length) := by
  -- `ser` sorts: it is the serialisation of the normal form, which the strict parser reads back,
  -- so `spanOf` looks `k` up among the sorted, normalised entries
  have hp := parseStrict_ser_norm lim _ hu hs
  have hc := canon_norm _ hu
  simp only [norm] at hp hc
  have hka := keysAsc_of_canon hc
  have hl := lookup_of_mem k (norm v) _ (keysAsc_nodup _ hka) (mem_norm_dict.mpr ⟨_, hm, rfl⟩)
  obtain ⟨A, B, hse, hv⟩ := valueSpan_of_lookup k (norm v) _ 1 hl
  have hser : ser (.dict kvs) = 100 :: serEntries (isort keyLe (normKvs kvs)) ++ [101] := by
    rw [← ser_dict_canon _ hka]
    exact (ser_norm (.dict kvs)).symm
  rw [ser_norm] at hse hv
  refine ⟨100 :: A, B ++ [101], ?_, ?_⟩
  · rw [hser, hse]; simp
  · simp only [spanOf, hp, hv, List.length_cons]
    simp [Nat.add_comm]

end Torf.Bencode
