/-
  Torf.Lemmas.CreateNames — for Torf/Properties/C15Names.lean.  A renaming that `Spec.opaqueB`
  accepts commutes with each stage of the *specification* (`keep_rename`, `kept_rename`,
  `createdOf_rename`; together `created_rename`); nothing is needed about the model, which
  `C15_created` replaces by the specification on either side.  For `C15_addresses_absolute`:
  `normpath` of an absolute path leaves only real names (`normpath_true_clean`, Lemmas/Create), so
  it is a fixed point of `normpath`.
  For the monotone corollary: the order of component lists and hidden-ness under a renaming that
  is monotone and dot-preserving on the names that occur.
-/
import Torf.Lemmas.Create
import Torf.Spec.CreateNames
namespace Torf.Create
open Torf Torf.Paths

theorem opaqueB_iff (o o' : Oracles) (st st' : Settings) (ρ : String → String) (t : Tree) :
    Spec.opaqueB o o' st st' ρ t = true ↔
      (∀ f ∈ t.files, isHidden (f.rel.map ρ) = isHidden f.rel) ∧
      (∀ f ∈ t.files, ∀ g ∈ t.files, isHidden f.rel = false → isHidden g.rel = false →
        (f.rel.map ρ ≤ g.rel.map ρ ↔ f.rel ≤ g.rel)) ∧
      (∀ f ∈ t.files,
        Spec.excluded o' st' (Spec.patPath (ρ t.name) (Spec.renameEnt ρ f))
          = Spec.excluded o st (Spec.patPath t.name f) ∧
        Spec.included o' st' (Spec.patPath (ρ t.name) (Spec.renameEnt ρ f))
          = Spec.included o st (Spec.patPath t.name f)) := by
  have key : ∀ (a b : Bool) (p q : Prop) [Decidable p] [Decidable q],
      (a = true ∨ b = true) ∨ decide p = decide q ↔ (a = false → b = false → (p ↔ q)) := by
    intro a b p q _ _
    cases a <;> cases b <;> simp
  simp only [Spec.opaqueB, Bool.and_eq_true, List.all_eq_true, beq_iff_eq, Bool.or_eq_true, key,
    and_assoc]

theorem keep_rename (o o' : Oracles) (st st' : Settings) (ρ : String → String) (t : Tree)
    (h : Spec.opaqueB o o' st st' ρ t = true) (f : FileEnt) (hf : f ∈ t.files) :
    Spec.keep o' st' (ρ t.name) (Spec.renameEnt ρ f) = Spec.keep o st t.name f := by
  obtain ⟨hhid, _, hpat⟩ := (opaqueB_iff ..).mp h
  unfold Spec.keep
  rw [(hpat f hf).1, (hpat f hf).2]
  exact congrArg (fun b => !b && _ && _) (hhid f hf)

theorem kept_rename (o o' : Oracles) (st st' : Settings) (ρ : String → String) (t : Tree)
    (h : Spec.opaqueB o o' st st' ρ t = true) :
    Spec.kept o' st' (Spec.renameTree ρ t) = (Spec.kept o st t).map (Spec.renameEnt ρ) := by
  rw [kept_eq, kept_eq]
  show sortBy leRel ((t.files.map (Spec.renameEnt ρ)).filter (Spec.keep o' st' (ρ t.name))) = _
  rw [List.filter_map, List.filter_congr (p := Spec.keep o' st' (ρ t.name) ∘ Spec.renameEnt ρ)
    (keep_rename o o' st st' ρ t h)]
  refine sortBy_map _ _ _ _ fun a ha b hb => ?_
  -- kept files are not hidden, and on those `ρ` respects the order
  rw [List.mem_filter] at ha hb
  exact decide_eq_decide.mpr (((opaqueB_iff ..).mp h).2.1 a ha.1 b hb.1
    ((keep_iff ..).mp ha.2).1 ((keep_iff ..).mp hb.2).1)

theorem createdOf_rename (ρ : String → String) (n : String) (k : List FileEnt) :
    createdOf (ρ n) (k.map (Spec.renameEnt ρ)) = Spec.renameCreated ρ (createdOf n k) := by
  refine createdOf_cases (motive := fun k c =>
    createdOf (ρ n) (k.map (Spec.renameEnt ρ)) = Spec.renameCreated ρ c) n k rfl (fun _ => rfl)
    fun h1 h2 => ?_
  rw [createdOf_multi _ (mt List.map_eq_nil_iff.mp h1) fun s e => ?_]
  · simp only [Spec.renameCreated, List.map_map]; rfl
  · -- a renamed entry without components had none before
    obtain ⟨⟨r, _⟩, rfl, e⟩ := List.map_eq_singleton_iff.mp e
    cases r with
    | nil => cases e; exact h2 _ rfl
    | cons _ _ => cases e

theorem created_rename (o o' : Oracles) (st st' : Settings) (ρ : String → String) (t : Tree)
    (h : Spec.opaqueB o o' st st' ρ t = true) :
    Spec.created o' st' (Spec.renameTree ρ t) = Spec.renameCreated ρ (Spec.created o st t) := by
  rw [created_eq, created_eq, kept_rename o o' st st' ρ t h]
  exact createdOf_rename ρ t.name _

theorem normpath_idem (xs : List String) : normpath true (normpath true xs) = normpath true xs :=
  normpath_append_clean true [] (normpath true xs) (normpath_true_clean xs)

theorem map_lt_map_iff (ρ : String → String) (N : List String)
    (h : ∀ a ∈ N, ∀ b ∈ N, (ρ a < ρ b ↔ a < b) ∧ (ρ a = ρ b → a = b)) (x y : List String)
    (hx : ∀ c ∈ x, c ∈ N) (hy : ∀ c ∈ y, c ∈ N) : x.map ρ < y.map ρ ↔ x < y := by
  induction x generalizing y with
  | nil =>
    cases y with
    | nil => simp
    | cons b y => simp [List.nil_lt_cons]
  | cons a x ih =>
    cases y with
    | nil => simp
    | cons b y =>
      have hab := h a (hx a (List.mem_cons_self ..)) b (hy b (List.mem_cons_self ..))
      rw [List.map_cons, List.map_cons, List.cons_lt_cons_iff, List.cons_lt_cons_iff, hab.1,
        ih y (fun c hc => hx c (List.mem_cons_of_mem _ hc)) fun c hc => hy c (List.mem_cons_of_mem _ hc)]
      exact or_congr_right (and_congr_left fun _ => ⟨hab.2, congrArg ρ⟩)

theorem isHidden_map (ρ : String → String) (cs : Comps)
    (h : ∀ c ∈ cs, isHidden [ρ c] = isHidden [c]) : isHidden (cs.map ρ) = isHidden cs := by
  induction cs with
  | nil => rfl
  | cons c cs ih =>
    show isHidden ([ρ c] ++ cs.map ρ) = isHidden ([c] ++ cs)
    rw [isHidden_append, isHidden_append, h c (List.mem_cons_self ..),
      ih fun d hd => h d (List.mem_cons_of_mem _ hd)]

end Torf.Create
