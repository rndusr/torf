/-
  Helper lemmas for C16, URL level.  The routines of `Torf.Model.Lists` on one URL list get
  equations of their own: `filterIns` validates and then inserts unless the coerced URL is known;
  `coerceAll` validates everything first; on coerced items `addAll` is the pure filter `readd`, so
  `urlsReplace` = "validate all, then `readd` the coerced items"; `extendLoop` = "`readd` the coerced
  items of the longest acceptable prefix".  From these: every routine preserves `UOK` ("no duplicates,
  every URL valid and free of spaces, nothing that is known elsewhere") and re-reading a stored good
  list is the identity.  A routine that checks nothing but its URLs `Validates` them: it returns iff
  `URL()` accepts every one and raises the URL error otherwise (`coerceAll`, `urlsReplace`, `mkURLs`,
  and on tier level `tiersInsert`, `tiersAddAll`).
  An in-place operation other than extend / += calls the callback once, at its end, or raises before
  (`AllOrNothing`, `urlsOp_atomic`).
-/
import Torf.Model.Lists
import Torf.Lemmas.Basics
namespace Torf.Lists

/-- a URL as it may sit in the metainfo: valid and a fixed point of the coercion -/
def Good (isUrl : String → Bool) (u : String) : Prop := isUrl u = true ∧ spaceToPlus u = u

/-- items of a `URLs` object: no duplicates, all good, none of them known elsewhere -/
def UOK (isUrl : String → Bool) (known items : List String) : Prop :=
  items.Nodup ∧ (∀ u ∈ items, Good isUrl u) ∧ (∀ u ∈ items, u ∉ known)

variable {isUrl : String → Bool}

theorem spaceToPlus_idem (u : String) : spaceToPlus (spaceToPlus u) = spaceToPlus u := by
  unfold spaceToPlus
  rw [String.toList_ofList, List.map_map]
  congr 1
  apply List.map_congr_left
  intro c _
  simp only [Function.comp]
  split <;> simp_all

theorem coerce_ok_iff {u c : String} :
    coerce isUrl u = .ok c ↔ (accepts isUrl u = true ∧ c = spaceToPlus u) :=
  ite_ok_iff

theorem accepts_iff {u : String} :
    accepts isUrl u = true ↔ (isUrl u = true ∧ isUrl (spaceToPlus u) = true) := by
  simp [accepts]

theorem accepts_of_good {u : String} (hg : Good isUrl u) : accepts isUrl u = true := by
  rw [accepts_iff, hg.2]; exact ⟨hg.1, hg.1⟩

theorem good_spaceToPlus {u : String} (hu : accepts isUrl u = true) : Good isUrl (spaceToPlus u) :=
  ⟨(accepts_iff.1 hu).2, spaceToPlus_idem u⟩

theorem good_map_spaceToPlus {us : List String} (hv : ∀ u ∈ us, accepts isUrl u = true) :
    ∀ c ∈ us.map spaceToPlus, Good isUrl c := by
  intro c hc
  obtain ⟨u, hu, rfl⟩ := List.mem_map.1 hc
  exact good_spaceToPlus (hv u hu)

theorem map_spaceToPlus_of_good {cs : List String} (hg : ∀ u ∈ cs, Good isUrl u) :
    cs.map spaceToPlus = cs :=
  (List.map_congr_left fun u hu => (hg u hu).2).trans (List.map_id cs)

theorem coerce_ok_good {u c : String} (hc : coerce isUrl u = .ok c) : Good isUrl c := by
  obtain ⟨hu, rfl⟩ := coerce_ok_iff.1 hc
  exact good_spaceToPlus hu

theorem coerce_of_good {u : String} (hg : Good isUrl u) : coerce isUrl u = .ok u :=
  coerce_ok_iff.2 ⟨accepts_of_good hg, hg.2.symm⟩

/-- the second coercion of an item (`MonitoredList.replace`: `tuple(map(self._coerce, items))`,
    then `insert` coerces again) cannot fail and changes nothing -/
theorem coerce_coerced {u c : String} (hc : coerce isUrl u = .ok c) : coerce isUrl c = .ok c :=
  coerce_of_good (coerce_ok_good hc)

theorem coerce_invalid {u : String} (hu : accepts isUrl u = false) : coerce isUrl u = .error .url := by
  simp [coerce, hu]

def Validates (isUrl : String → Bool) {α : Type} (us : List String) (x : Except Err α) : Prop :=
  if us.all (accepts isUrl) = true then ∃ r, x = .ok r else x = .error .url

theorem validates_ite {α : Type} (us : List String) (v : α) :
    Validates isUrl us (if us.all (accepts isUrl) = true then .ok v else .error .url) := by
  unfold Validates
  split
  · exact ⟨v, rfl⟩
  · rfl

section
variable {α : Type} {us : List String} {x : Except Err α}

theorem Validates.error {e : Err} (h : Validates isUrl us x) (hx : x = .error e) : e = .url := by
  unfold Validates at h
  split at h
  · obtain ⟨r, hr⟩ := h; rw [hr] at hx; cases hx
  · rw [h] at hx; cases hx; rfl

theorem Validates.ok_iff (h : Validates isUrl us x) :
    (∃ r, x = .ok r) ↔ ∀ u ∈ us, accepts isUrl u = true := by
  unfold Validates at h
  rw [← List.all_eq_true]
  split at h
  · exact iff_of_true h ‹_›
  · rw [h]; exact iff_of_false (fun ⟨_, h⟩ => nomatch h) ‹_›

theorem Validates.reject {u : String} (h : Validates isUrl us x) (hu : u ∈ us)
    (hinv : accepts isUrl u = false) : x = .error .url := by
  unfold Validates at h
  rwa [if_neg] at h
  intro ha
  rw [List.all_eq_true.1 ha u hu] at hinv
  cases hinv

end

theorem splice_nil_sublist {α} (xs : List α) {lo hi : Nat} (h : lo ≤ hi) :
    (splice xs lo hi []).Sublist xs := by
  simpa [splice] using take_append_drop_sublist xs h

theorem splice_singleton_perm {α} (xs : List α) (k : Nat) (v : α) :
    (splice xs k k [v]).Perm (v :: xs) := by
  simpa [splice] using take_cons_drop_perm xs k v

theorem splice_same_nil {α} (xs : List α) (k : Nat) : splice xs k k [] = xs := by
  simp [splice]

theorem splice_length_self {α} (xs : List α) (v : α) :
    splice xs xs.length xs.length [v] = xs ++ [v] := by
  simp [splice]

theorem clampIdx_le (n : Nat) (i : Int) : clampIdx n i ≤ n := by
  unfold clampIdx
  split <;> omega

theorem clampIdx_length (n : Nat) : clampIdx n (n : Int) = n := by
  unfold clampIdx
  split <;> omega

theorem sliceRange_le (n : Nat) (a b : Option Int) :
    (sliceRange n a b).1 ≤ (sliceRange n a b).2 := by
  simp only [sliceRange]
  omega

theorem pyIndex_lt {n : Nat} {i : Int} {k : Nat} (h : pyIndex n i = some k) : k < n := by
  unfold pyIndex at h
  split at h <;> split at h <;> cases h <;> omega

theorem UOK_nil (known : List String) : UOK isUrl known [] := by
  simp [UOK]

theorem UOK_sublist {known items items' : List String} (h : UOK isUrl known items)
    (hs : items'.Sublist items) : UOK isUrl known items' :=
  ⟨hs.nodup h.1, fun u hu => h.2.1 u (hs.subset hu), fun u hu => h.2.2 u (hs.subset hu)⟩

theorem UOK_known_subset {known known' items : List String} (h : UOK isUrl known items)
    (hs : ∀ u, u ∈ known' → u ∈ known) : UOK isUrl known' items :=
  ⟨h.1, h.2.1, fun u hu hk => h.2.2 u hu (hs u hk)⟩

theorem UOK_perm {known items items' : List String} (h : UOK isUrl known items)
    (hp : items'.Perm items) : UOK isUrl known items' :=
  ⟨hp.nodup_iff.2 h.1, fun u hu => h.2.1 u (hp.subset hu), fun u hu => h.2.2 u (hp.subset hu)⟩

theorem UOK_cons {known items : List String} {c : String}
    (hk : UOK isUrl known items) (hg : Good isUrl c) (h1 : c ∉ items) (h2 : c ∉ known) :
    UOK isUrl known (c :: items) :=
  ⟨List.nodup_cons.2 ⟨h1, hk.1⟩, List.forall_mem_cons.2 ⟨hg, hk.2.1⟩,
   List.forall_mem_cons.2 ⟨h2, hk.2.2⟩⟩

theorem UOK_reverse {known items : List String} (hk : UOK isUrl known items) :
    UOK isUrl known items.reverse :=
  UOK_perm hk (List.reverse_perm items)

theorem filterIns_spec (known items : List String) (i : Int) (u : String) :
    filterIns isUrl known items i u =
      if accepts isUrl u = true then
        .ok (if spaceToPlus u ∈ items ∨ spaceToPlus u ∈ known then items
             else splice items (clampIdx items.length i) (clampIdx items.length i) [spaceToPlus u])
      else .error .url := by
  unfold filterIns coerce
  by_cases hu : accepts isUrl u = true
  · simp only [hu, if_true]; split <;> rfl
  · simp only [hu]; rfl

theorem filterIns_ok {known items r : List String} {i : Int}
    {u : String} (hk : UOK isUrl known items) (hr : filterIns isUrl known items i u = .ok r) :
    UOK isUrl known r := by
  rw [filterIns_spec] at hr
  split at hr
  · rename_i hu
    cases hr
    split
    · exact hk
    · rename_i hn
      rw [not_or] at hn
      exact UOK_perm (UOK_cons hk (good_spaceToPlus hu) hn.1 hn.2) (splice_singleton_perm ..)
  · cases hr

theorem filterIns_invalid {known items : List String} {i : Int} {u : String}
    (hu : accepts isUrl u = false) : filterIns isUrl known items i u = .error .url := by
  simp [filterIns_spec, hu]

/-- `append` of a good URL is one step of `readd` -/
theorem filterIns_good {known items : List String} {u : String} (hg : Good isUrl u) :
    filterIns isUrl known items items.length u =
      .ok (if u ∈ items ∨ u ∈ known then items else items ++ [u]) := by
  simp only [filterIns_spec, accepts_of_good hg, hg.2, if_true, clampIdx_length, splice_length_self]

theorem readd_cons (known acc : List String) (x : String) (xs : List String) :
    readd known acc (x :: xs) = readd known (if x ∈ acc ∨ x ∈ known then acc else acc ++ [x]) xs := by
  rw [readd]; split <;> rfl

theorem readd_ok {known acc xs : List String} (hk : UOK isUrl known acc)
    (hg : ∀ x ∈ xs, Good isUrl x) : UOK isUrl known (readd known acc xs) := by
  induction xs generalizing acc with
  | nil => exact hk
  | cons x xs ih =>
    have hg' := (List.forall_mem_cons.1 hg).2
    unfold readd
    split
    · exact ih hk hg'
    · rename_i hn
      rw [not_or] at hn
      exact ih (UOK_perm (UOK_cons hk (hg x (by simp)) hn.1 hn.2) (List.perm_append_singleton x acc)) hg'

/-- a getter re-reading a stored list, `l[:] = l` -/
theorem readd_id {known acc xs : List String} (hk : UOK isUrl known (acc ++ xs)) :
    readd known acc xs = acc ++ xs := by
  induction xs generalizing acc with
  | nil => simp [readd]
  | cons x xs ih =>
    have h1 : x ∉ acc := fun hm => (List.nodup_append.1 hk.1).2.2 x hm x (by simp) rfl
    have h2 : x ∉ known := hk.2.2 x (by simp)
    unfold readd
    rw [if_neg (by simp [h1, h2])]
    have hk' : UOK isUrl known ((acc ++ [x]) ++ xs) := by simpa using hk
    simpa using ih hk'

theorem readd_all_known {known acc xs : List String} (h : ∀ x ∈ xs, x ∈ known) :
    readd known acc xs = acc := by
  induction xs with
  | nil => rfl
  | cons x xs ih =>
    rw [readd, if_pos (.inr (h x (by simp)))]
    exact ih (fun y hy => h y (by simp [hy]))

theorem coerceAll_spec (us : List String) :
    coerceAll isUrl us =
      if us.all (accepts isUrl) = true then .ok (us.map spaceToPlus) else .error .url := by
  induction us with
  | nil => rfl
  | cons u us ih =>
    rw [coerceAll, List.all_cons]
    cases hu : accepts isUrl u
    · rw [coerce_invalid hu]; rfl
    · simp only [coerce_ok_iff.2 ⟨hu, rfl⟩, ih, Bool.true_and]
      by_cases h : us.all (accepts isUrl) = true <;>
        simp only [h, Bool.false_eq_true, ↓reduceIte, List.map_cons]

theorem coerceAll_ok_iff {us cs : List String} :
    coerceAll isUrl us = .ok cs ↔ (∀ u ∈ us, accepts isUrl u = true) ∧ cs = us.map spaceToPlus := by
  rw [coerceAll_spec, ite_ok_iff, List.all_eq_true]

theorem coerceAll_ok_good {us cs : List String} (hr : coerceAll isUrl us = .ok cs) :
    ∀ c ∈ cs, Good isUrl c := by
  obtain ⟨hv, rfl⟩ := coerceAll_ok_iff.1 hr
  exact good_map_spaceToPlus hv

theorem coerceAll_id {cs : List String} (hg : ∀ u ∈ cs, Good isUrl u) :
    coerceAll isUrl cs = .ok cs :=
  coerceAll_ok_iff.2 ⟨fun u hu => accepts_of_good (hg u hu), (map_spaceToPlus_of_good hg).symm⟩

theorem coerceAll_validates {us : List String} : Validates isUrl us (coerceAll isUrl us) :=
  coerceAll_spec us ▸ validates_ite us _

/-- `replace` adds items it has coerced once, which are good (`coerceAll_ok_good`): the second
    coercion in `insert` cannot raise on them, so with the callback disabled `addAll` is the pure
    filter `readd` -/
theorem addAll_of_good {known items cs : List String} (hg : ∀ c ∈ cs, Good isUrl c) :
    addAll isUrl known items cs = .ok (readd known items cs) := by
  induction cs generalizing items with
  | nil => rfl
  | cons c cs ih =>
    have hg' := List.forall_mem_cons.1 hg
    rw [addAll, filterIns_good hg'.1, readd_cons]
    exact ih hg'.2

theorem urlsReplace_spec (known us : List String) :
    urlsReplace isUrl known us =
      if us.all (accepts isUrl) = true then .ok (readd known [] (us.map spaceToPlus))
      else .error .url := by
  unfold urlsReplace
  rw [coerceAll_spec]
  by_cases h : us.all (accepts isUrl) = true <;> simp only [h, ↓reduceIte, Bool.false_eq_true]
  exact addAll_of_good (good_map_spaceToPlus (List.all_eq_true.1 h))

/-- `MonitoredList.replace` on a URL list raises only BEFORE the list is cleared (while the
    items are coerced for the first time): it is atomic -/
theorem urlsReplace_error_before_clear {known us : List String} {e : Err}
    (hr : urlsReplace isUrl known us = .error e) : coerceAll isUrl us = .error e := by
  rw [urlsReplace_spec] at hr
  rw [coerceAll_spec]
  split at hr
  · cases hr
  · rw [if_neg ‹_›]; exact hr

theorem urlsReplace_ok_iff {known us r : List String} :
    urlsReplace isUrl known us = .ok r ↔
      (∀ u ∈ us, accepts isUrl u = true) ∧ r = readd known [] (us.map spaceToPlus) := by
  rw [urlsReplace_spec, ite_ok_iff, List.all_eq_true]

theorem urlsReplace_validates {known us : List String} :
    Validates isUrl us (urlsReplace isUrl known us) :=
  urlsReplace_spec known us ▸ validates_ite us _

theorem urlsReplace_ok {known us r : List String}
    (hr : urlsReplace isUrl known us = .ok r) : UOK isUrl known r := by
  obtain ⟨hv, rfl⟩ := urlsReplace_ok_iff.1 hr
  exact readd_ok (UOK_nil known) (good_map_spaceToPlus hv)

theorem urlsReplace_id {known us : List String} (hk : UOK isUrl known us) :
    urlsReplace isUrl known us = .ok us := by
  refine urlsReplace_ok_iff.2 ⟨fun u hu => accepts_of_good (hk.2.1 u hu), ?_⟩
  rw [map_spaceToPlus_of_good hk.2.1]
  exact (readd_id (acc := []) hk).symm

/-- URLs of one tier value; a blank string given as a tier is the empty tier -/
def tierValUrls : TierVal → List String
  | .str s => if isBlank s then [] else [s]
  | .list us => us

theorem mkURLs_eq (known : List String) (v : TierVal) :
    mkURLs isUrl known v = urlsReplace isUrl known (tierValUrls v) := by
  cases v with
  | str s => simp only [mkURLs, tierValUrls]; split <;> rfl
  | list us => rfl

theorem mkURLs_ok {known r : List String} {v : TierVal}
    (hr : mkURLs isUrl known v = .ok r) : UOK isUrl known r :=
  urlsReplace_ok (mkURLs_eq known v ▸ hr)

theorem mkURLs_validates {known : List String} {v : TierVal} :
    Validates isUrl (tierValUrls v) (mkURLs isUrl known v) :=
  mkURLs_eq known v ▸ urlsReplace_validates

theorem mkURLs_list_id {known us : List String} (hk : UOK isUrl known us) :
    mkURLs isUrl known (.list us) = .ok us :=
  urlsReplace_id hk

/-- `extend` stores value by value while `URL()` accepts the values, and appending an accepted value
    is one step of `readd` with its coerced form.  So the callback last saw `readd` over the accepted
    prefix (it did not run if that is empty), and the error — if any — is the URL error of the first
    value that is not accepted. -/
theorem extendLoop_spec (known items : List String) (last : Option (List String)) (us : List String) :
    extendLoop isUrl known items last us =
      (if us.takeWhile (accepts isUrl) = [] then last
       else some (readd known items ((us.takeWhile (accepts isUrl)).map spaceToPlus)),
       if us.all (accepts isUrl) = true then .ok else .error .url) := by
  induction us generalizing items last with
  | nil => rfl
  | cons u us ih =>
    rw [extendLoop, filterIns_spec, List.takeWhile_cons, List.all_cons]
    cases hu : accepts isUrl u
    · rfl
    · simp only [if_true, ih, Bool.true_and, List.map_cons, readd_cons, clampIdx_length,
        splice_length_self, reduceCtorEq, if_false]
      split <;> simp only [*, List.map_nil, readd]

/-- stated for `last'.getD items`, the list that `+=` assigns back (the last callback argument, or
    `items` if nothing was appended); at `last' = some r` that is `r`, the form of the other `_ok`
    lemmas -/
theorem extendLoop_ok {known items us : List String}
    {last' : Option (List String)} {out : Outcome} (hk : UOK isUrl known items)
    (hr : extendLoop isUrl known items none us = (last', out)) :
    UOK isUrl known (last'.getD items) := by
  rw [extendLoop_spec] at hr
  cases hr
  split
  · exact hk
  · exact readd_ok hk (good_map_spaceToPlus (List.all_eq_true.1 List.all_takeWhile))

theorem extendLoop_invalid {known items us : List String} {last : Option (List String)}
    {u : String} (hm : u ∈ us) (hu : accepts isUrl u = false) :
    ∃ l, extendLoop isUrl known items last us = (l, .error .url) := by
  refine ⟨_, (extendLoop_spec ..).trans (congrArg _ (if_neg fun h => ?_))⟩
  rw [List.all_eq_true.1 h u hm] at hu
  cases hu

theorem mem_setEach_of {α} {xs vs : List α} {is : List Nat} {x : α}
    (hx : x ∈ setEach xs is vs) : x ∈ xs ∨ x ∈ vs := by
  induction is generalizing xs vs with
  | nil => simp only [setEach] at hx; exact .inl hx
  | cons i is ih =>
    cases vs with
    | nil => simp only [setEach] at hx; exact .inl hx
    | cons v vs =>
      simp only [setEach] at hx
      rcases ih hx with h | h
      · rcases List.mem_or_eq_of_mem_set h with h | h
        · exact .inl h
        · exact .inr (by simp [h])
      · exact .inr (by simp [h])

theorem mem_sliceAssign_of {α} {xs vs r : List α} {a b st : Option Int} {x : α}
    (hr : sliceAssign xs a b st vs = some r) (hx : x ∈ r) : x ∈ xs ∨ x ∈ vs := by
  unfold sliceAssign at hr
  simp only at hr
  split at hr
  · cases hr; exact mem_take_append_drop hx
  · split at hr
    · cases hr
    · split at hr
      · cases hr; exact mem_setEach_of hx
      · cases hr

theorem sliceAssign_whole {α} (xs vs : List α) : sliceAssign xs none none none vs = some vs := by
  simp [sliceAssign, sliceRange, splice]

theorem urlsSetSlice_ok {known items us r : List String} {a b st : Option Int} {out : Outcome}
    (hk : UOK isUrl known items)
    (hr : urlsSetSlice isUrl known items a b st us = (some r, out)) : UOK isUrl known r := by
  unfold urlsSetSlice at hr
  split at hr
  · cases hr
  · rename_i cs hc
    split at hr
    · cases hr
    · rename_i items' hs
      cases hr
      refine readd_ok (UOK_nil known) fun x hx => ?_
      rcases mem_sliceAssign_of hs hx with h | h
      · exact hk.2.1 x h
      · exact coerceAll_ok_good hc x h

theorem urlsSetSlice_whole {known items us : List String} (hk : UOK isUrl known us) :
    urlsSetSlice isUrl known items none none none us = (some us, .ok) := by
  simp only [urlsSetSlice, coerceAll_id hk.2.1, sliceAssign_whole]
  rw [readd_id (acc := []) hk, List.nil_append]

theorem urlsOp_reverse {known items : List String} (hk : UOK isUrl known items) :
    urlsOp isUrl known items .reverse = (some items.reverse, .ok) :=
  urlsSetSlice_whole (UOK_reverse hk)

/-- EVERY in-place operation on a URL list — index and slice assignment included since
    /repo e62ce6d — hands a duplicate-free list of good URLs to the callback -/
theorem urlsOp_ok {known items r : List String} {op : UOp}
    {out : Outcome} (hk : UOK isUrl known items)
    (hr : urlsOp isUrl known items op = (some r, out)) : UOK isUrl known r := by
  have hdel : ∀ lo hi, lo ≤ hi → UOK isUrl known (splice items lo hi []) := fun lo hi h =>
    UOK_sublist hk (splice_nil_sublist items h)
  cases op <;> dsimp only [urlsOp] at hr
  case insert | append =>
    split at hr <;> cases hr
    exact filterIns_ok hk ‹_›
  case extend | iadd => exact extendLoop_ok hk hr
  case delete | pop | remove =>
    split at hr <;> cases hr
    exact hdel _ _ (Nat.le_succ _)
  case delSlice a b => cases hr; exact hdel _ _ (sliceRange_le _ a b)
  case clear => cases hr; exact UOK_nil known
  case replace =>
    split at hr <;> cases hr
    exact urlsReplace_ok ‹_›
  case setItem i u =>
    split at hr
    · cases hr
    · rename_i c hc
      split at hr <;> cases hr
      refine readd_ok (UOK_nil known) fun x hx => ?_
      rcases List.mem_or_eq_of_mem_set hx with h | h
      · exact hk.2.1 x h
      · exact h ▸ coerce_ok_good hc
  case setSlice | reverse => exact urlsSetSlice_ok hk hr

/-- extend and += store the values one by one: the values before the invalid one stay stored -/
def UOp.atomic : UOp → Bool
  | .extend _ => false | .iadd _ => false | _ => true

/-- the result of an operation that is not a loop of appends: it raised and the callback never ran,
    or it returned and the callback ran (once, at the end) -/
inductive AllOrNothing {α : Type} : Option α × Outcome → Prop
  | error (e : Err) : AllOrNothing (none, .error e)
  | ok (r : α) : AllOrNothing (some r, .ok)

theorem AllOrNothing.map {α β : Type} {res : Option α × Outcome} (f : α → β)
    (h : AllOrNothing res) : AllOrNothing (res.1.map f, res.2) := by
  cases h <;> constructor

theorem AllOrNothing.none_of_error {α : Type} {res : Option α × Outcome} {e : Err}
    (h : AllOrNothing res) (he : res.2 = .error e) : res.1 = none := by
  cases h
  · rfl
  · cases he

/-- in the model every branch of an operation other than extend / += ends in `(none, .error _)` or
    in `(some _, .ok)`: whatever the error is (URL, index, value), the callback has not run -/
theorem urlsOp_atomic {known items : List String} {op : UOp} (ha : op.atomic = true) :
    AllOrNothing (urlsOp isUrl known items op) := by
  cases op <;> dsimp only [urlsOp, urlsSetSlice]
  case extend | iadd => cases ha
  all_goals repeat' split
  all_goals constructor

end Torf.Lists
