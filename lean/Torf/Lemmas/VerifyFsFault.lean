/-
  C02 over the full alphabet of path states: a failing `read` only
  cuts the run short — the items yielded before the ReadError are a prefix of the items of the
  run in which the byte is readable.
-/
import Torf.Lemmas.VerifyFsCb
namespace Torf.VerifyFs
open Torf Torf.Missing Torf.Verify

variable {α δ : Type} [Inhabited α] [DecidableEq δ]

/-- every unreadable byte made readable -/
def heal (fd : List (FState α)) : List (FState α) :=
  fd.map fun s => match s with
    | .readErr c _ _ => .file c
    | s => s

theorem mainDisk_heal (sizes : List Nat) (fd : List (FState α)) :
    mainDisk sizes (heal fd) = mainDisk sizes fd := by
  apply List.ext_getElem?
  intro k
  unfold mainDisk heal
  simp only [List.getElem?_map, List.getElem?_zipIdx]
  cases fd[k]? with
  | none => rfl
  | some s => cases s <;> rfl

theorem statDisk_heal (fd : List (FState α)) : statDisk (heal fd) = statDisk fd := by
  unfold statDisk heal
  rw [List.map_map]
  apply List.map_congr_left
  intro s _
  cases s <;> rfl

omit [Inhabited α] in
theorem noReadErr_heal (fd : List (FState α)) : NoReadErr (heal fd) = true := by
  unfold NoReadErr heal
  rw [List.all_eq_true]
  intro s hs
  obtain ⟨s0, _, rfl⟩ := List.mem_map.mp hs
  cases s0 <;> rfl

theorem fold_fs_heal (L : Nat) (sizes : List Nat) (fd : List (FState α)) (js : List Nat) :
    js.foldl (stepFs L sizes (heal fd)) {} =
      { st := js.foldl (step2 L sizes (mainDisk sizes fd) (statDisk fd)) {}, fault := none } := by
  rw [← mainDisk_heal sizes fd, ← statDisk_heal fd]
  exact fold_fs_nofault L sizes (heal fd) js
    fun j _ => not_readFails_of_noReadErr sizes _ (noReadErr_heal fd) j

/-- the conjunct of `C02_fs_read_fault` about the healed description -/
theorem heal_spec (L : Nat) (sizes : List Nat) (fd : List (FState α))
    (hyp : NoBadEmpty sizes (mainDisk sizes fd) = true) :
    readFault L sizes (heal fd) = none ∧ NoBadEmpty sizes (mainDisk sizes (heal fd)) = true ∧
      mainDisk sizes (heal fd) = mainDisk sizes fd ∧ statDisk (heal fd) = statDisk fd :=
  ⟨by unfold readFault; rw [fold_fs_heal],
    by rw [mainDisk_heal]; exact hyp, mainDisk_heal sizes fd, statDisk_heal fd⟩

theorem iterItemsFs_fault (L : Nat) (hL : 0 < L) (sizes : List Nat) (fd : List (FState α))
    (j e : Nat) (h : readFault L sizes fd = some (j, e)) :
    ReadFails sizes fd j e ∧ j < sizes.length ∧
      ∃ items, iterItemsFs L sizes fd = some ⟨items, some (j, e)⟩ ∧
        ∀ full, iterItemsFs L sizes (heal fd) = some ⟨full, none⟩ → items <+: full := by
  unfold readFault at h
  rcases fold_fs L sizes fd (List.range sizes.length) with
    hs | ⟨j', e', hflt, hmem, hrf, hnf, hpre⟩
  · rw [hs] at h; cases h
  · rw [h] at hflt
    cases hflt
    refine ⟨hrf, List.mem_range.mp hmem, _, by rw [iterItemsFs_eq, runOf_fault _ _ h hnf], ?_⟩
    intro full hfull
    -- the healed run is the `step2` run `fold_fs` compares with
    rw [iterItemsFs_eq, fold_fs_heal, runOf_nofault] at hfull
    obtain ⟨_, h1, h2⟩ := Option.map_eq_some_iff.mp hfull
    cases h2
    obtain ⟨_, tl, rfl⟩ := itemsOf_eq_some _ _ h1
    exact (hpre hL).trans (List.prefix_append _ _)

theorem verifyFs_fault (H : List α → δ) (L : Nat) (hL : 0 < L) (sizes : List Nat)
    (fd : List (FState α)) (stored : List δ) (single pathIsDir : Bool) (hp : single = !pathIsDir)
    (hyp : NoBadEmpty sizes (mainDisk sizes fd) = true)
    (hlen : stored.length = nPieces L sizes.sum) (j e : Nat)
    (h : readFault L sizes fd = some (j, e)) :
    ReadFails sizes fd j e ∧ j < sizes.length ∧ ∃ items calls,
      iterItemsFs L sizes fd = some ⟨items, some (j, e)⟩ ∧
      calls = callsOf H L sizes stored items ∧
      verifyFs H L sizes fd stored true single pathIsDir = (.error (.read j), calls) ∧
      calls <+: (verifyFs H L sizes (heal fd) stored true single pathIsDir).2 ∧
      (verifyFs H L sizes fd stored false single pathIsDir).1 =
        (match (excsOf calls).head? with
          | some x => .error x
          | none => .error (.read j)) := by
  -- the run with readable bytes
  obtain ⟨hnf', hyp', _, _⟩ := heal_spec L sizes fd hyp
  obtain ⟨full, run', hfull, _⟩ :=
    verifyFs_run H L hL sizes (heal fd) stored single pathIsDir hp hyp' hlen hnf'
  obtain ⟨hrf, hj, items, hit, hpre⟩ := iterItemsFs_fault L hL sizes fd j e h
  have hpre := hpre full run'.hit
  have hle : items.length ≤ stored.length := by
    have := hpre.length_le
    rw [run'.len] at this
    omega
  refine ⟨hrf, hj, items, callsOf H L sizes stored items, hit, rfl, ?_, ?_, ?_⟩
  · rw [verifyFs_eq_collect _ _ _ _ _ _ _ _ hp, hit]
    exact collect_cb H L sizes stored items _ hle
  · rw [hfull]
    exact callsOf_prefix H L sizes stored _ _ hpre
  · rw [verifyFs_eq_collect _ _ _ _ _ _ _ _ hp, hit]
    simp only
    rw [collect_nocb, findSome_itemExc _ _ _ _ _ 0 (by omega)]
    cases (excsOf (callsOf H L sizes stored items)).head? <;> rfl

theorem verifyFs_cb_run (H : List α → δ) (L : Nat) (hL : 0 < L) (sizes : List Nat)
    (fd : List (FState α)) (stored : List δ) (single pathIsDir : Bool) (hp : single = !pathIsDir)
    (hyp : NoBadEmpty sizes (mainDisk sizes fd) = true)
    (hlen : stored.length = nPieces L sizes.sum) :
    ∃ run, iterItemsFs L sizes fd = some run ∧
      verifyFs H L sizes fd stored true single pathIsDir =
        (verdict H stored run.items run.fault, callsOf H L sizes stored run.items) := by
  cases hrf : readFault L sizes fd with
  | none =>
    obtain ⟨items, run, hcb, _⟩ :=
      verifyFs_run H L hL sizes fd stored single pathIsDir hp hyp hlen hrf
    exact ⟨⟨items, none⟩, run.hit, by rw [hcb, verdict, run.spec]⟩
  | some je =>
    obtain ⟨_, _, items, _, hit, rfl, hres, _⟩ :=
      verifyFs_fault H L hL sizes fd stored single pathIsDir hp hyp hlen je.1 je.2 hrf
    exact ⟨_, hit, hres⟩

end Torf.VerifyFs
