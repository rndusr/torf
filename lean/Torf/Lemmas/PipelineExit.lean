/-
  Torf.Lemmas.PipelineExit — the pipeline with exit paths (`Model/PipelineExit.lean`):

  * `StepE`: its step function as a relation, one constructor per way the added components change;
    the invariants below, `C04_main_failure_leaks` and `C04_main_failure_final` go by its cases;
  * on the base component a step of the extended system is the base step with the same label,
    unless main has failed in a window (`stepE_map_base`); so every run of the extended system is,
    on its base component, a run of the base system (`runE_base`), and as long as main has not
    failed every base step lifts (`stepE_lift`): the safety, deadlock-freedom and termination
    theorems of C03/C04 carry over;
  * `InvX` (every configuration): the ghost variables of the reader's exit protocol are functions
    of the base state — one end-of-stream marker queued iff the reader thread has ended, the
    stream closed only then, the reader's stored exception = `exitExc`;
  * `InvJ` (no refused start): `reader.join()` re-raised exactly the reader's stored exception;
  * `InvP`: after a failure in `HasherPool.__init__` only the reader moves, and what it queued is
    still in the piece queue.
-/
import Torf.Model.PipelineExit
import Torf.Lemmas.PipelineC04Inv
import Torf.Lemmas.PipelineInv
namespace Torf.PipelineExit
open Torf.Pipeline

inductive StepE (c : CfgE) (x : StateE) : Label → StateE → Prop
  | main {b : State} (hf : x.failed = none) (hb : stepMain c.base x.base = some b) :
      StepE c x ⟨.main, false⟩
        { x with base := b, failed := windowOf c x.base.main b,
                 joinRaised := if joiningReader x.base.main && !x.base.rpc.running then x.rexcKind
                               else x.joinRaised }
  | readerExit {b : State} (hr : x.base.rpc = .closing) (hb : stepReader c.base x.base = some b) :
      StepE c x ⟨.reader, false⟩
        { x with base := b, sentinels := x.sentinels + 1, closed := true,
                 rexcKind := if c.closeFault then some .osError else x.rexcKind }
  | reader {b : State} (hr : x.base.rpc ≠ .closing) (hb : stepReader c.base x.base = some b) :
      StepE c x ⟨.reader, false⟩
        { x with base := b,
                 rexcKind := if b.rexc && !x.base.rexc then some c.faultCall.exc else x.rexcKind }
  | worker {l : Label} {b : State} (hm : l.tid ≠ .main) (hr : l.tid ≠ .reader)
      (hb : step c.base x.base l = some b) : StepE c x l { x with base := b }

theorem StepE.of_step {c : CfgE} {x x' : StateE} {l : Label} (h : stepE c x l = some x') :
    StepE c x l x' := by
  rcases l with ⟨t, to⟩
  cases t with
  | main =>
    cases to with
    | true => simp [stepE] at h
    | false =>
      simp only [stepE, Bool.false_eq_true, ↓reduceIte, stepMainE] at h
      split at h
      · cases h
      · rename_i hf
        cases hb : stepMain c.base x.base with
        | none => simp [hb] at h
        | some b =>
          simp only [hb, Option.some.injEq] at h
          exact h ▸ .main (by simpa using hf) hb
  | reader =>
    cases to with
    | true => simp [stepE] at h
    | false =>
      simp only [stepE, Bool.false_eq_true, ↓reduceIte, stepReaderE] at h
      cases hb : stepReader c.base x.base with
      | none => simp [hb] at h
      | some b =>
        simp only [hb] at h
        split at h <;> simp only [Option.some.injEq] at h
        · rename_i hr; exact h ▸ .readerExit hr hb
        · rename_i hr; exact h ▸ .reader (fun hc => hr hc) hb
  | hasher i | janitor =>
    obtain ⟨b, hb, rfl⟩ := Option.map_eq_some_iff.1 h
    exact .worker nofun nofun hb

theorem stepE_map_base (c : CfgE) (x : StateE) (l : Label) :
    (stepE c x l).map (·.base) =
      if x.failed.isSome = true ∧ l.tid = .main then none else step c.base x.base l := by
  have proj : ∀ o : Option State,
      (o.map fun b => ({ x with base := b } : StateE)).map (·.base) = o :=
    fun o => by cases o <;> rfl
  rcases l with ⟨t, to⟩
  cases t with
  | main =>
    cases hf : x.failed.isSome <;> cases to <;> simp [stepE, stepMainE, step, hf]
    cases stepMain c.base x.base <;> rfl
  | reader =>
    cases to <;> simp [stepE, stepReaderE, step]
    cases stepReader c.base x.base with
    | none => rfl
    | some b => simp only; split <;> rfl
  | hasher i | janitor => simp only [stepE, reduceCtorEq, and_false, ↓reduceIte]; exact proj _

theorem stepE_base {c : CfgE} {x x' : StateE} {l : Label} (h : stepE c x l = some x') :
    step c.base x.base l = some x'.base := by
  have := stepE_map_base c x l
  rw [h] at this
  split at this
  · cases this
  · exact this.symm

theorem runE_base {c : CfgE} {ls : List Label} {x x' : StateE} (h : runE c x ls = some x') :
    run c.base x.base ls = some x'.base := by
  induction ls generalizing x with
  | nil => simp only [runE, Option.some.injEq] at h; subst h; rfl
  | cons l ls ih =>
    simp only [runE] at h
    cases hs : stepE c x l with
    | none => simp [hs] at h
    | some x₁ =>
      simp only [hs] at h
      simp only [run, stepE_base hs]
      exact ih h

theorem ReachableE.base {c : CfgE} {x : StateE} (h : ReachableE c x) : Reachable c.base x.base := by
  obtain ⟨ls, hls⟩ := h
  exact ⟨ls, runE_base hls⟩

theorem runE_append (c : CfgE) (x : StateE) (l₁ l₂ : List Label) :
    runE c x (l₁ ++ l₂) = (runE c x l₁).bind fun x' => runE c x' l₂ := by
  induction l₁ generalizing x with
  | nil => simp [runE]
  | cons l ls ih =>
    simp only [List.cons_append, runE]
    cases stepE c x l with
    | none => simp
    | some x' => simpa using ih x'

theorem ReachableE.init (c : CfgE) : ReachableE c (initE c) := ⟨[], rfl⟩

theorem ReachableE.of_isSome {c : CfgE} {ls : List Label} (h : (runE c (initE c) ls).isSome = true) :
    ReachableE c ((runE c (initE c) ls).getD (initE c)) :=
  ⟨ls, by cases hr : runE c (initE c) ls <;> simp_all⟩

theorem ReachableE.step {c : CfgE} {x x' : StateE} {l : Label} (h : ReachableE c x)
    (hs : stepE c x l = some x') : ReachableE c x' := by
  obtain ⟨ls, hls⟩ := h
  refine ⟨ls ++ [l], ?_⟩
  rw [runE_append, hls, Option.bind_some]
  simp only [runE, hs]

theorem ReachableE.induction {c : CfgE} {P : StateE → Prop} (h0 : P (initE c))
    (hstep : ∀ x x' l, ReachableE c x → P x → stepE c x l = some x' → P x')
    {x : StateE} (h : ReachableE c x) : P x := by
  obtain ⟨ls, hls⟩ := h
  suffices ∀ (ls : List Label) (x₀ : StateE), ReachableE c x₀ → P x₀ →
      ∀ x, runE c x₀ ls = some x → P x from this ls _ (ReachableE.init c) h0 x hls
  intro ls
  induction ls with
  | nil => intro x₀ _ hp x hr; simp [runE] at hr; exact hr ▸ hp
  | cons l ls ih =>
    intro x₀ hr₀ hp x hr
    simp only [runE] at hr
    cases hst : stepE c x₀ l with
    | none => simp [hst] at hr
    | some x₁ =>
      simp only [hst] at hr
      exact ih x₁ (hr₀.step hst) (hstep _ _ _ hr₀ hp hst) x hr

theorem stepE_lift {c : CfgE} {x : StateE} {l : Label} {b : State}
    (hf : x.failed = none ∨ l.tid ≠ .main) (h : step c.base x.base l = some b) :
    ∃ x', stepE c x l = some x' ∧ x'.base = b := by
  have := stepE_map_base c x l
  rw [if_neg (fun ⟨h1, h2⟩ => hf.elim (fun h0 => by simp [h0] at h1) (· h2)), h] at this
  exact Option.map_eq_some_iff.1 this

/-- the exception stored in the reader's `Worker._exception`, as a function of the base state -/
def exitExc (c : CfgE) (s : State) : Option RExc :=
  if c.closeFault = true ∧ s.rpc = .done then some .osError
  else if s.rexc = true then some c.faultCall.exc else none

structure InvX (c : CfgE) (x : StateE) : Prop where
  sent : x.sentinels = if x.base.rpc = .done then 1 else 0
  closed : x.closed = decide (x.base.rpc = .done)
  kind : x.rexcKind = exitExc c x.base
  failedCfg : ∀ p, x.failed = some p → c.mainFail = some p

theorem InvX.init (c : CfgE) : InvX c (initE c) := by
  constructor <;> simp [initE, Pipeline.init, exitExc]

/-- of the base state `InvX` reads the reader's exception flag and whether the reader is done -/
theorem InvX.congr {c : CfgE} {x : StateE} {b : State} {f : Option MainPoint} {j : Option RExc}
    (h : InvX c x) (hx : b.rexc = x.base.rexc) (hd : b.rpc = .done ↔ x.base.rpc = .done)
    (hf : ∀ p, f = some p → c.mainFail = some p) :
    InvX c { x with base := b, failed := f, joinRaised := j } := by
  have hd' : (b.rpc = .done) = (x.base.rpc = .done) := propext hd
  exact ⟨by simp only [hd']; exact h.sent, by simp only [hd']; exact h.closed,
    by simp only [exitExc, hd', hx]; exact h.kind, hf⟩

/-- A failure window opens in the step that starts the reader (the failure of
    `HasherPool.__init__`) or the janitor (the one before `collect()`), if the configuration has
    that failure. -/
theorem windowOf_cases {c : CfgE} {m : MPc} {b : State} {p : MainPoint} (h : windowOf c m b = some p) :
    c.mainFail = some p ∧
      ((p = .poolInit ∧ m = .startReader ∧ b.rpc = .begin_) ∨
        (p = .beforeCollect ∧ m = .startJanitor ∧ b.jan = .begin_)) := by
  unfold windowOf at h
  split at h
  · split at h <;> cases h
    exact ⟨‹_›, .inl ⟨rfl, rfl, ‹_›⟩⟩
  · split at h <;> cases h
    exact ⟨‹_›, .inr ⟨rfl, rfl, ‹_›⟩⟩
  · cases h

theorem InvX.step {c : CfgE} {x x' : StateE} {l : Label} (hA : InvA c.base x.base) (h : InvX c x)
    (hs : stepE c x l = some x') : InvX c x' := by
  cases StepE.of_step hs with
  | main hf hb =>
    obtain ⟨h1, _, h2, _⟩ := (MainStepG.of_step hA hb).frame hA.rfresh
    refine h.congr h1 ?_ (fun p hp => (windowOf_cases hp).1)
    rcases h2 with h2 | ⟨h2, h3 | h3⟩
    · rw [h2]
    · simp [h2, h3]
    · simp [h2, h3]
  | worker hm hr hb =>
    obtain ⟨⟨_, h2, h1, _, _, _⟩, _⟩ := step_worker hm hr hb
    exact h.congr (j := x.joinRaised) h1 (by rw [h2]) h.failedCfg
  | readerExit hr hb =>
    -- the `finally` block: the marker is queued, then the stream is closed
    obtain ⟨sent, closed, kind, failedCfg⟩ := h
    cases ReaderStep.of_step hb with
    | begin hr' | put k hr' => simp [hr] at hr'
    | close =>
      refine ⟨by simp [sent, hr], by simp, ?_, failedCfg⟩
      simp only [kind, exitExc, hr]
      cases c.closeFault <;> simp
  | reader hr hb =>
    obtain ⟨sent, closed, kind, failedCfg⟩ := h
    cases ReaderStep.of_step hb with
    | close hr' => exact absurd hr' hr
    | begin hr' t hn | put k hr' _ t hn =>
      refine ⟨?_, ?_, ?_, failedCfg⟩
      · cases hn <;> simp [sent, hr']
      · cases hn <;> simp [closed, hr']
      · cases hn <;> simp [kind, exitExc, hr'] <;> (cases x.base.rexc <;> simp)

theorem InvX.of_reachable {c : CfgE} {x : StateE} (h : ReachableE c x) : InvX c x :=
  ReachableE.induction (P := InvX c) (InvX.init c)
    (fun _ _ _ hre hp hs => hp.step (.of_reachable hre.base) hs) h

/-- `reader.join()` returns in the step in which main, executing it, finds the reader not running -/
theorem _root_.Torf.Pipeline.MainStep.join_flow {cfg : Cfg} {s s' : State} (h : MainStep cfg s s') :
    postReaderJoin s'.main =
      (postReaderJoin s.main || (joiningReader s.main && !s.rpc.running)) := by
  cases h <;> (try rw [postReaderJoin_joinTarget]) <;> simp [postReaderJoin, joiningReader, *]

structure InvJ (x : StateE) : Prop where
  joined : postReaderJoin x.base.main = true → x.joinRaised = x.rexcKind
  notJoined : postReaderJoin x.base.main = false → x.joinRaised = none

theorem InvJ.init (c : CfgE) : InvJ (initE c) := by
  constructor <;> simp [initE, Pipeline.init, postReaderJoin]

theorem InvJ.step {c : CfgE} {x x' : StateE} {l : Label} (hrf : c.base.refuse = [])
    (hI : Inv c.base x.base) (h : InvJ x) (hs : stepE c x l = some x') : InvJ x' := by
  obtain ⟨joined, notJoined⟩ := h
  -- the reader has not been joined while it can still step: the stored exception may change
  have hnp : ∀ {b}, stepReader c.base x.base = some b → postReaderJoin x.base.main = false := by
    intro b hb
    cases hp : postReaderJoin x.base.main with
    | false => rfl
    | true => simp [stepReader, hI.b1.rjoined hp] at hb
  cases StepE.of_step hs with
  | main hf hb =>
    have hflow := (MainStep.of_step hrf hI.a hb).join_flow
    cases hJ : joiningReader x.base.main && !x.base.rpc.running with
    | true => exact ⟨fun _ => by simp, fun hp => by simp [hflow, hJ] at hp⟩
    | false =>
      rw [hJ, Bool.or_false] at hflow
      exact ⟨fun hp => by simpa [hJ] using joined (hflow ▸ hp),
        fun hp => by simpa [hJ] using notJoined (hflow ▸ hp)⟩
  | readerExit _ hb | reader _ hb =>
    have hmn := (ReaderStep.of_step hb).frame.1
    exact ⟨fun hp => (by rw [show _ = x.base.main from hmn, hnp hb] at hp; cases hp),
      fun _ => notJoined (hnp hb)⟩
  | worker hm hr hb =>
    have h3 := (step_worker hm hr hb).1.main
    exact ⟨fun hp => joined (h3 ▸ hp), fun hp => notJoined (h3 ▸ hp)⟩

theorem InvJ.of_reachable {c : CfgE} {x : StateE} (hrf : c.base.refuse = []) (h : ReachableE c x) :
    InvJ x :=
  ReachableE.induction (P := InvJ) (InvJ.init c)
    (fun _ _ _ hre hp hs => hp.step hrf (.of_reachable hrf hre.base) hs) h

/-- without a failure window main never fails outside `collect()` -/
theorem failed_none {c : CfgE} {x : StateE} (hmf : c.mainFail = none) (h : ReachableE c x) :
    x.failed = none := by
  cases hf : x.failed with
  | none => rfl
  | some p => have := (InvX.of_reachable h).failedCfg p hf; simp [hmf] at this

/-- … so the call is over only when main has returned or raised in the base system -/
theorem terminal_of_terminalE {c : CfgE} {x : StateE} (hmf : c.mainFail = none) (h : ReachableE c x)
    (ht : terminalE x = true) : terminal x.base = true := by
  simpa [terminalE, failed_none hmf h] using ht

structure Quiet (s : State) : Prop where
  stop : s.stop = false
  hs : ∀ h ∈ s.hs, h = HPc.notStarted
  jan : s.jan = .notStarted
  seen : s.seen = []
  hq : s.hq = []
  pq : s.pq.length = (s.pq.filterMap id).length + (if s.rpc = .done then 1 else 0)

structure InvP (x : StateE) : Prop where
  quiet : x.failed = some .poolInit ∨ preReader x.base.main = true → Quiet x.base
  started : x.failed = some .poolInit → x.base.rpc.running = true ∨ x.base.rpc = .done

theorem InvP.init (c : CfgE) : InvP (initE c) := by
  refine ⟨fun _ => ?_, by simp [initE]⟩
  constructor <;> simp [initE, Pipeline.init]

theorem _root_.Torf.Pipeline.ReaderStep.running {cfg : Cfg} {s s' : State} (h : ReaderStep cfg s s') :
    s'.rpc.running = true ∨ s'.rpc = .done := by
  cases h with
  | begin _ _ hn => cases hn <;> exact .inl rfl
  | put _ _ _ _ hn => cases hn <;> exact .inl rfl
  | close => exact .inr rfl

theorem Quiet.reader {cfg : Cfg} {s s' : State} (q : Quiet s) (h : ReaderStep cfg s s') : Quiet s' := by
  obtain ⟨q1, q2, q3, q4, q5, q6⟩ := q
  cases h with
  | begin hr _ hn => cases hn <;> exact ⟨q1, q2, q3, q4, q5, by simpa [hr] using q6⟩
  | put k hr _ _ hn => cases hn <;> exact ⟨q1, q2, q3, q4, q5, by simp [hr] at q6 ⊢; omega⟩
  | close hr => exact ⟨q1, q2, q3, q4, q5, by simp [hr] at q6 ⊢; omega⟩

/-- neither a hasher nor the janitor can move: none of them has been started -/
theorem Quiet.no_worker {cfg : Cfg} {s s' : State} {l : Label} (q : Quiet s) (hm : l.tid ≠ .main)
    (hr : l.tid ≠ .reader) (h : step cfg s l = some s') : False := by
  rcases (step_worker hm hr h).2 with ⟨p, hp, hrun⟩ | hrun
  · rw [q.hs p hp] at hrun; cases hrun
  · rw [q.jan] at hrun; cases hrun

theorem windowOf_poolInit {c : CfgE} {m : MPc} {b : State} (h : windowOf c m b = some .poolInit) :
    m = .startReader ∧ b.rpc = .begin_ :=
  match (windowOf_cases h).2 with
  | .inl ⟨_, hm, hb⟩ => ⟨hm, hb⟩
  | .inr ⟨hp, _⟩ => nomatch hp

/-- main's steps before it has started the reader touch nothing `Quiet` speaks about -/
theorem Quiet.main {cfg : Cfg} {s s' : State} (q : Quiet s) (hA : InvA cfg s)
    (hp : preReader s.main = true) (h : MainStepG cfg s s') : Quiet s' := by
  have hr : s.rpc = .notStarted := hA.rfresh (preReader_iff.1 hp)
  have key : ∀ (r : RPc) (m : MPc), r ≠ .done → Quiet { s with rpc := r, main := m } := fun r m hd =>
    ⟨q.stop, q.hs, q.jan, q.seen, q.hq, by have := q.pq; simp only [hr, hd] at this ⊢; exact this⟩
  cases h with
  | ok h' =>
    cases h' with
    | startReaderChk => exact key s.rpc _ (by simp [hr])
    | startReader => exact key _ _ nofun
    | _ => rw [‹s.main = _›] at hp; cases hp
  | refReader => exact key _ _ nofun
  | _ => rw [‹s.main = _›] at hp; cases hp

theorem _root_.Torf.Pipeline.MainStepG.preReader_of {cfg : Cfg} {s s' : State}
    (h : MainStepG cfg s s') (hp : preReader s'.main = true) : preReader s.main = true :=
  preReader_iff.2 (h.pre (preReader_iff.1 hp)).1

theorem InvP.step {c : CfgE} {x x' : StateE} {l : Label} (hA : InvA c.base x.base) (h : InvP x)
    (hs : stepE c x l = some x') : InvP x' := by
  obtain ⟨quiet, started⟩ := h
  cases StepE.of_step hs with
  | main hf hb =>
    have hst := MainStepG.of_step hA hb
    refine ⟨fun hp => ?_, fun hp => .inl ?_⟩
    · -- the premise can only hold if main was before the start of the reader
      have hpre : preReader x.base.main = true :=
        hp.elim (fun hp => by rw [(windowOf_poolInit hp).1]; rfl) hst.preReader_of
      exact (quiet (.inr hpre)).main hA hpre hst
    · rw [(windowOf_poolInit hp).2]; rfl
  | readerExit _ hb | reader _ hb =>
    have hst := ReaderStep.of_step hb
    exact ⟨fun hp => (quiet (hst.frame.1 ▸ hp)).reader hst, fun _ => hst.running⟩
  | worker hm hr hb =>
    obtain ⟨h3, h2, _, _, _, _⟩ := (step_worker hm hr hb).1
    exact ⟨fun hp => ((quiet (h3 ▸ hp)).no_worker hm hr hb).elim, fun hp => h2 ▸ started hp⟩

theorem InvP.of_reachable {c : CfgE} {x : StateE} (h : ReachableE c x) : InvP x :=
  ReachableE.induction (P := InvP) (InvP.init c)
    (fun _ _ _ hre hp hs => hp.step (.of_reachable hre.base) hs) h

theorem held_nil_of_notStarted {s : State} (h : ∀ p ∈ s.hs, p = HPc.notStarted) : held s = [] := by
  unfold held
  rw [List.filterMap_eq_nil_iff]
  intro p hp
  rw [h p hp]

end Torf.PipelineExit
