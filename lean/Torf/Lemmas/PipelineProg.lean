/-
  Torf.Lemmas.PipelineProg — the progress witnesses of the deadlock-freedom proof: criteria for
  `isProgress`; `canProgress` holds iff some enabled label leads to a progress step or the janitor
  gets to one by itself (`canProgress_of_label`, `canProgress_of_janitor`, `canProgress_cases`); a
  step of a hasher's relation that changes the hasher table is such a label (the relation is
  complete: `HasherStep.enabled` in PipelineStep).
-/
import Torf.Lemmas.PipelineInv
namespace Torf.Pipeline

theorem isProgress_of_ne {α : Type} (f : State → α) (hf : ∀ t, f (core t) = f t) {s s' : State}
    (h : f s ≠ f s') : isProgress s s' = true := by
  simp only [isProgress, decide_eq_true_eq]
  intro hc
  exact h (by rw [← hf s, hc, hf])

theorem core_eq_of_idle {s s' : State} (h : isProgress s s' = false) : core s = core s' := by
  simpa [isProgress] using h

@[simp] theorem coreJan_idem (j : JPc) : coreJan (coreJan j) = coreJan j := by cases j <;> rfl

theorem isProgress_of_jan {s s' : State} (h : coreJan s.jan ≠ coreJan s'.jan) :
    isProgress s s' = true :=
  isProgress_of_ne (fun t => coreJan t.jan) (fun t => coreJan_idem t.jan) h

/-- main and the reader have no timeout alternative; `hi` holds of every hasher that steps, by the
    length of the hasher table (`canProgress_of_hasherStep`) -/
theorem mem_allLabels_of_step {cfg : Cfg} {s s' : State} {l : Label} (hs : step cfg s l = some s')
    (hi : ∀ i, l.tid = .hasher i → i < cfg.N) : l ∈ allLabels cfg := by
  simp only [allLabels, List.mem_append, List.mem_flatMap, List.mem_range]
  cases LStep.of_step hs with
  | main | reader => simp
  | hasher i b => exact .inr ⟨i, hi i rfl, by cases b <;> simp⟩
  | janitor b => cases b <;> simp

theorem canProgress_of_label {cfg : Cfg} {s s' : State} {l : Label}
    (hs : step cfg s l = some s') (hp : isProgress s s' = true)
    (hi : ∀ i, l.tid = .hasher i → i < cfg.N) : canProgress cfg s = true := by
  unfold canProgress
  simp only [Bool.or_eq_true, List.any_eq_true]
  left
  exact ⟨l, mem_allLabels_of_step hs hi, by simp [hs, hp]⟩

theorem canProgress_of_janitor {cfg : Cfg} {s : State}
    (h : janitorReachesProgress cfg s (cfg.N + 2) = true) : canProgress cfg s = true := by
  unfold canProgress
  simp [h]

theorem canProgress_cases {cfg : Cfg} {s : State} (h : canProgress cfg s = true) :
    (∃ l s', step cfg s l = some s' ∧ isProgress s s' = true) ∨
      janitorReachesProgress cfg s (cfg.N + 2) = true := by
  unfold canProgress at h
  simp only [Bool.or_eq_true, List.any_eq_true] at h
  refine h.imp_left fun ⟨l, _, hl⟩ => ?_
  cases hs : step cfg s l with
  | none => simp [hs] at hl
  | some s' => exact ⟨l, s', hs, by simpa [hs] using hl⟩

theorem canProgress_of_hasherStep {cfg : Cfg} {s s' : State} {i : Nat} (hlen : s.hs.length = cfg.N)
    (h : HasherStep cfg s i s') (hne : s'.hs ≠ s.hs) : canProgress cfg s = true := by
  obtain ⟨b, hb⟩ := h.enabled
  obtain ⟨p, hp, -⟩ := h.alive
  exact canProgress_of_label (l := ⟨.hasher i, b⟩) hb
    (isProgress_of_ne State.hs (fun _ => rfl) hne.symm)
    fun _ e => by cases e; exact hlen ▸ (List.getElem?_eq_some_iff.1 hp).1

theorem canProgress_hasher_quit {cfg : Cfg} {s : State} {i : Nat} (hlen : s.hs.length = cfg.N)
    (hi : s.hs[i]? = some .getting) (hpq : s.pq = []) (h0 : i ≠ 0) : canProgress cfg s = true :=
  canProgress_of_hasherStep hlen (.quit hi hpq h0) (set_ne_self hi nofun)

theorem step_reader (cfg : Cfg) (s : State) : step cfg s ⟨.reader, false⟩ = stepReader cfg s := rfl

end Torf.Pipeline
