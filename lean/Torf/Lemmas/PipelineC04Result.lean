/-
  Torf.Lemmas.PipelineC04Result — what a returned result can contain (C04, every configuration):
  the collector's list is the hashed part of `seen`, `seen` is a duplicate-free part of the pieces
  pushed; so a returned result is a duplicate-free list of hashable pieces, never longer than the
  list of all hashable pieces, and equal to it (after sorting) when it has that length.
-/
import Torf.Lemmas.PipelineC04Inv
namespace Torf.Pipeline

theorem length_le_of_nodup_subset : ∀ {l₁ l₂ : List Nat}, l₁.Nodup → (∀ x ∈ l₁, x ∈ l₂) →
    l₁.length ≤ l₂.length :=
  fun hn hs => hn.length_le_of_subset fun x hx => hs x hx

theorem perm_of_nodup_subset_length : ∀ {l₁ l₂ : List Nat}, l₁.Nodup → (∀ x ∈ l₁, x ∈ l₂) →
    l₂.length ≤ l₁.length → l₁.Perm l₂
  | [], l₂, _, _, hl => by
    have : l₂ = [] := List.eq_nil_of_length_eq_zero (by simpa using hl)
    subst this; exact .nil
  | a :: t, l₂, hn, hs, hl => by
    have ha : a ∈ l₂ := hs a (by simp)
    have hn' := List.nodup_cons.1 hn
    have ht : ∀ x ∈ t, x ∈ l₂.erase a := by
      intro x hx
      have hne : x ≠ a := fun h => hn'.1 (h ▸ hx)
      exact (List.mem_erase_of_ne hne).2 (hs x (List.mem_cons_of_mem _ hx))
    have hle := List.length_erase_of_mem ha
    have hpos := List.length_pos_of_mem ha
    have ih := perm_of_nodup_subset_length hn'.2 ht (by simp only [List.length_cons] at hl; omega)
    exact (ih.cons a).trans (List.perm_cons_erase ha).symm

theorem mem_hashedItems {cfg : Cfg} {k : Nat} :
    k ∈ hashedItems cfg ↔ k < cfg.items.length ∧ isHashed cfg k = true := by
  rw [hashedItems_eq]; simp

theorem InvA.seen_nodup {cfg : Cfg} {s : State} (h : InvA cfg s) : s.seen.Nodup := by
  have := h.nodup
  rw [inFlight_def, List.append_assoc, List.append_assoc] at this
  exact (List.nodup_append.1 this).1

theorem InvA.seen_lt {cfg : Cfg} {s : State} (h : InvA cfg s) {k : Nat} (hk : k ∈ s.seen) :
    k < cfg.items.length :=
  h.lt (by rw [inFlight_def]; simp [hk])

theorem InvA.collected_sound {cfg : Cfg} {s : State} (h : InvA cfg s) :
    s.collected.Nodup ∧ (∀ k ∈ s.collected, k ∈ hashedItems cfg) ∧
    s.collected.length ≤ (hashedItems cfg).length ∧
    (s.collected.length = (hashedItems cfg).length →
      s.collected.mergeSort (fun a b => decide (a ≤ b)) = hashedItems cfg) := by
  have hnd : s.collected.Nodup := by rw [h.coll]; exact h.seen_nodup.filter _
  have hsub : ∀ k ∈ s.collected, k ∈ hashedItems cfg := by
    intro k hk
    rw [h.coll, List.mem_filter] at hk
    exact mem_hashedItems.2 ⟨h.seen_lt hk.1, hk.2⟩
  refine ⟨hnd, hsub, length_le_of_nodup_subset hnd hsub, ?_⟩
  intro hl
  exact mergeSort_eq_of_perm_sorted (perm_of_nodup_subset_length hnd hsub (by omega))
    (pairwise_le_hashedItems cfg)

end Torf.Pipeline
