/-
  `small` is monotone in the digit limit and every value is small for some limit, so statements
  about canonical values need no common limit (`ser_inj_canon`).
-/
import Torf.Lemmas.BencodeNorm
namespace Torf.Bencode

theorem small_mono {a b : Nat} (h : a ≤ b) : ∀ v : BVal, small a v = true → small b v = true :=
  BVal.induct (fun _ hs => decide_eq_true (Nat.le_trans (of_decide_eq_true hs) h))
    (fun _ hs => decide_eq_true (Nat.le_trans (of_decide_eq_true hs) h))
    (fun _ ih hs => smallList_iff.mpr fun v hv => ih v hv (smallList_iff.mp hs v hv))
    (fun _ ih hs => smallKvs_iff.mpr fun p hp =>
      (smallKvs_iff.mp hs p hp).imp (Nat.le_trans · h) (ih p hp))

theorem exists_bound {P : Nat → α → Prop} (hm : ∀ a b x, a ≤ b → P a x → P b x) :
    ∀ {l : List α}, (∀ x ∈ l, ∃ n, P n x) → ∃ n, ∀ x ∈ l, P n x
  | [], _ => ⟨0, fun _ h => nomatch h⟩
  | x :: t, h => by
    obtain ⟨a, ha⟩ := h x List.mem_cons_self
    obtain ⟨b, hb⟩ := exists_bound hm (l := t) fun y hy => h y (List.mem_cons_of_mem _ hy)
    exact ⟨max a b, List.forall_mem_cons.mpr
      ⟨hm _ _ _ (Nat.le_max_left a b) ha, fun y hy => hm _ _ _ (Nat.le_max_right a b) (hb y hy)⟩⟩

theorem exists_small : ∀ v : BVal, ∃ lim, small lim v = true :=
  BVal.induct (fun i => ⟨numDigits i, decide_eq_true (Nat.le_refl _)⟩)
    (fun b => ⟨(decNat b.length).length, decide_eq_true (Nat.le_refl _)⟩)
    (fun _ ih => (exists_bound (fun _ _ v h => small_mono h v) ih).imp fun _ => smallList_iff.mpr)
    (fun _ ih =>
      -- an entry is within the larger of the limits of its key and of its value
      (exists_bound
        (P := fun n (p : Bytes × BVal) => (decNat p.1.length).length ≤ n ∧ small n p.2 = true)
        (fun _ _ p h hp => ⟨Nat.le_trans hp.1 h, small_mono h p.2 hp.2⟩)
        fun p hp => (ih p hp).elim fun n hn => ⟨max (decNat p.1.length).length n,
          Nat.le_max_left _ _, small_mono (Nat.le_max_right _ _) p.2 hn⟩).imp
        fun _ => smallKvs_iff.mpr)

theorem exists_smallList : ∀ l : List BVal, ∃ lim, smallList lim l = true :=
  fun l => exists_small (.list l)

theorem exists_smallKvs : ∀ kvs : List (Bytes × BVal), ∃ lim, smallKvs lim kvs = true :=
  fun kvs => exists_small (.dict kvs)

theorem ser_inj_canon (v w : BVal) (hv : canon v = true) (hw : canon w = true)
    (h : ser v = ser w) : v = w := by
  obtain ⟨a, ha⟩ := exists_small v
  obtain ⟨b, hb⟩ := exists_small w
  have h1 := parse_ser (max a b) v hv (small_mono (Nat.le_max_left a b) v ha)
  have h2 := parse_ser (max a b) w hw (small_mono (Nat.le_max_right a b) w hb)
  rw [h] at h1
  exact Option.some.inj (h1.symm.trans h2)

end Torf.Bencode
