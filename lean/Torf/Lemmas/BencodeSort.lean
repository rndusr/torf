/-
  The insertion sort used by `ser` / `encodeDict` (its facts come from `Torf.Lemmas.Sort`) and the
  raw byte order on keys.
-/
import Torf.Model.Bencode
import Torf.Lemmas.Sort
namespace Torf.Bencode

theorem insertBy_eq (le : α → α → Bool) (a : α) (l : List α) :
    insertBy le a l = Torf.insertBy le a l := by
  induction l with
  | nil => rfl
  | cons b t ih => rw [insertBy, Torf.insertBy, ih]

theorem isort_eq_sortBy (le : α → α → Bool) (l : List α) : isort le l = sortBy le l := by
  induction l with
  | nil => rfl
  | cons a t ih => rw [isort, sortBy, ih, insertBy_eq]

theorem isort_of_sorted (le : α → α → Bool) (l : List α)
    (h : l.Pairwise (fun a b => le a b = true)) : isort le l = l :=
  (isort_eq_sortBy le l).trans (sortBy_eq_self_of_pairwise le l h)

theorem isort_perm (le : α → α → Bool) (l : List α) : (isort le l).Perm l :=
  isort_eq_sortBy le l ▸ sortBy_perm le l

theorem isort_sorted (le : α → α → Bool)
    (htot : ∀ a b, le a b = true ∨ le b a = true)
    (htr : ∀ a b c, le a b = true → le b c = true → le a c = true)
    (l : List α) : (isort le l).Pairwise (fun a b => le a b = true) :=
  isort_eq_sortBy le l ▸ sortBy_pairwise le htr htot l

theorem isort_idem (le : α → α → Bool)
    (htot : ∀ a b, le a b = true ∨ le b a = true)
    (htr : ∀ a b c, le a b = true → le b c = true → le a c = true)
    (l : List α) : isort le (isort le l) = isort le l :=
  isort_of_sorted le _ (isort_sorted le htot htr l)

theorem isort_map (le : α → α → Bool) (le' : β → β → Bool) (f : α → β)
    (hf : ∀ a b, le' (f a) (f b) = le a b) (l : List α) :
    isort le' (l.map f) = (isort le l).map f := by
  rw [isort_eq_sortBy, isort_eq_sortBy]
  exact sortBy_map le' le f l fun a _ b _ => hf a b

theorem isort_eq_of_perm (le : α → α → Bool)
    (htot : ∀ a b, le a b = true ∨ le b a = true)
    (htr : ∀ a b c, le a b = true → le b c = true → le a c = true)
    (l l' : List α) (hp : l.Perm l')
    (hanti : ∀ a b, a ∈ l → b ∈ l → le a b = true → le b a = true → a = b) :
    isort le l = isort le l' := by
  rw [isort_eq_sortBy, isort_eq_sortBy]
  exact sortBy_eq_of_perm le l l' hp htr htot fun a ha b hb => hanti a b ha hb

theorem keyLe_total {β : Type} (a b : Bytes × β) : keyLe a b = true ∨ keyLe b a = true := by
  simp only [keyLe, decide_eq_true_eq]; exact List.le_total a.1 b.1

theorem keyLe_trans {β : Type} (a b c : Bytes × β) (h1 : keyLe a b = true) (h2 : keyLe b c = true) :
    keyLe a c = true := by
  simp only [keyLe, decide_eq_true_eq] at *; exact List.le_trans h1 h2

/-- ascending from each key to the next is ascending between any two (`<` is transitive) -/
theorem keysAsc_iff : ∀ {ks : List Bytes}, keysAsc ks = true ↔ ks.Pairwise (· < ·)
  | [] => by simp [keysAsc]
  | [_] => by simp [keysAsc]
  | a :: b :: t => by
    rw [keysAsc, Bool.and_eq_true, decide_eq_true_eq, keysAsc_iff (ks := b :: t),
      List.pairwise_cons (a := a)]
    constructor
    · rintro ⟨hab, hp⟩
      exact ⟨fun x hx => (List.mem_cons.mp hx).elim (· ▸ hab)
        fun hx => List.lt_trans hab ((List.pairwise_cons.mp hp).1 x hx), hp⟩
    · exact fun ⟨h, hp⟩ => ⟨h b List.mem_cons_self, hp⟩

theorem bytes_lt_le {a b : Bytes} (h : a < b) : a ≤ b := List.le_of_lt h

theorem isort_of_keysAsc {β : Type} (l : List (Bytes × β)) (h : keysAsc (l.map (·.1)) = true) :
    isort keyLe l = l :=
  isort_of_sorted _ _
    ((List.pairwise_map.mp (keysAsc_iff.mp h)).imp fun hab => decide_eq_true (bytes_lt_le hab))

theorem keysAsc_nodup (ks : List Bytes) (h : keysAsc ks = true) : ks.Nodup :=
  (keysAsc_iff.mp h).imp fun hab heq => by subst heq; exact List.lt_irrefl _ hab

end Torf.Bencode
