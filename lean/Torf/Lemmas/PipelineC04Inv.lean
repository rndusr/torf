/-
  Torf.Lemmas.PipelineC04Inv — invariant clauses behind C04, valid for EVERY configuration
  (`InvG`): the hasher table has N entries, the piece queue never exceeds its capacity, the
  reader's exception flag is only set by the configured read fault and only when the reader has
  left its loop, main only carries the read error if that flag is set, a returned result is the
  collector's list, and a pending callback exception `.cb d` was raised by the callback call for
  the last piece collected, at pieces_done = d.
  `stop` and `rexc` are never reset.
-/
import Torf.Lemmas.PipelineOut
namespace Torf.Pipeline

structure InvG (cfg : Cfg) (s : State) : Prop where
  len : s.hs.length = cfg.N
  pqcap : s.pq.length ≤ cfg.cap
  rexcPc : s.rexc = true → s.rpc = RPc.closing ∨ s.rpc = RPc.done
  rexcCfg : s.rexc = true → ∃ r, cfg.readFault = some r ∧ r ≤ cfg.items.length
  ret : ∀ c, s.main = MPc.finished (.returned c) → c = s.collected
  cbExc : ∀ d, mainExc s.main = some (Exc.cb d) →
    d = s.seen.length ∧ ∃ k, s.seen.getLast? = some k ∧ cfg.cb k d = Decision.raise
  rdExc : mainExc s.main = some Exc.read → s.rexc = true

theorem InvG.init (cfg : Cfg) : InvG cfg (init cfg) := by
  constructor <;> simp [Pipeline.init, mainExc]

/-- What the invariant reads.  Of main's program counter: whether it is `finished (returned _)`,
    and whether the exception it carries is a callback's or the reader's. -/
theorem InvG.congr {cfg : Cfg} {s s' : State} (h : InvG cfg s) (hl : s'.hs.length = s.hs.length)
    (hp : s'.pq.length ≤ cfg.cap) (hx : s'.rexc = s.rexc) (hr : s'.rpc = s.rpc)
    (hsn : s'.seen = s.seen)
    (hret : ∀ c, s'.main = .finished (.returned c) → c = s'.collected)
    (hcb : ∀ d, mainExc s'.main = some (.cb d) → mainExc s.main = some (.cb d))
    (hrd : mainExc s'.main = some .read → mainExc s.main = some .read ∨ s.rexc = true) :
    InvG cfg s' where
  len := hl ▸ h.len
  pqcap := hp
  rexcPc := hx ▸ hr ▸ h.rexcPc
  rexcCfg := hx ▸ h.rexcCfg
  ret := hret
  cbExc d hd := hsn ▸ h.cbExc d (hcb d hd)
  rdExc hd := hx ▸ (hrd hd).elim h.rdExc id

theorem InvG.frame {cfg : Cfg} {s s' : State} (h : InvG cfg s) (hl : s'.hs.length = s.hs.length)
    (hp : s'.pq.length ≤ cfg.cap) (hx : s'.rexc = s.rexc) (hr : s'.rpc = s.rpc)
    (hsn : s'.seen = s.seen) (hc : s'.collected = s.collected) (hm : s'.main = s.main) :
    InvG cfg s' :=
  h.congr hl hp hx hr hsn (hm ▸ hc ▸ h.ret) (fun _ => hm ▸ id) (fun hd => .inl (hm ▸ hd))

theorem InvG.rexc_false {cfg : Cfg} {s : State} (h : InvG cfg s) (hc : s.rpc ≠ .closing)
    (hd : s.rpc ≠ .done) : s.rexc = false := by
  cases hx : s.rexc
  · rfl
  · exact ((h.rexcPc hx).elim hc hd).elim

theorem InvG.main {cfg : Cfg} {s s' : State} (hA : InvA cfg s) (h : InvG cfg s)
    (hs : MainStepG cfg s s') : InvG cfg s' := by
  obtain ⟨hx, hpq, hr, -⟩ := hs.frame hA.rfresh
  have hret := hs.ret
  have hlen : s'.hs.length = s.hs.length := by
    cases hs with
    | ok h' => cases h' <;> simp
    | _ => simp
  -- when main starts the reader (or the OS refuses to), the reader has not run: its flag is clear
  have hpc : s'.rexc = true → s'.rpc = .closing ∨ s'.rpc = .done := fun hx' => by
    have := h.rexcPc (hx ▸ hx')
    rcases hr with hr | ⟨hr, -⟩
    · rwa [hr]
    · rw [hr] at this; rcases this with e | e <;> cases e
  have carry : mainExc s'.main = mainExc s.main → s'.seen = s.seen → InvG cfg s' := fun he hsn =>
    ⟨hlen ▸ h.len, hpq ▸ h.pqcap, hpc, hx ▸ h.rexcCfg, hret, he ▸ hsn ▸ h.cbExc,
      he ▸ hx ▸ h.rdExc⟩
  have noExc : (∀ d, mainExc s'.main ≠ some (.cb d)) → mainExc s'.main ≠ some .read → InvG cfg s' :=
    fun h1 h2 => ⟨hlen ▸ h.len, hpq ▸ h.pqcap, hpc, hx ▸ h.rexcCfg, hret,
      fun d hd => absurd hd (h1 d), fun hd => absurd hd h2⟩
  cases hs with
  | ok hs =>
    cases hs with
    | collectPass k rest hm hq | collectCancel k rest hm hq =>
      exact noExc (by simp [hm, mainExc]) (by simp [hm, mainExc])
    | collectCbRaise k rest hm hq hk hr hcb =>
      refine ⟨hlen ▸ h.len, h.pqcap, hpc, h.rexcCfg, hret, fun d hd => ?_, nofun⟩
      cases hd
      exact ⟨by simp, k, by simp, hcb⟩
    | joinReaderSkip e hm hr | joinReaderDone e hm hr =>
      -- the reader's own exception replaces the one main carries
      refine h.congr rfl h.pqcap rfl rfl rfl hret ?_ ?_ <;> rw [hm]
      · intro d hd; rw [mainExc_joinTarget] at hd; split at hd; cases hd; exact hd
      · intro hd; rw [mainExc_joinTarget] at hd; split at hd; exact .inr ‹_›; exact .inl hd
    | joinHasherSkip hh idx e hm hr | joinHasherDone hh idx e hm hr =>
      exact carry (by rw [hm, mainExc_joinTarget]; rfl) rfl
    | joinJanitorSkip e hm hr | joinJanitorDone e hm hr =>
      exact carry (by rw [hm, mainExc_finished]; rfl) rfl
    | joinReaderChkRun e hm | joinHasherChkRun hh idx e hm | joinJanitorChkRun e hm =>
      exact carry (by rw [hm]; rfl) rfl
    | _ => exact noExc nofun nofun
  | _ => exact noExc nofun nofun

theorem InvG.readerNext {cfg : Cfg} {t t' : State} {k : Nat} (h : InvG cfg t)
    (hrun : t.rpc.running = true) (hnc : t.rpc ≠ .closing) (hk : k ≤ cfg.items.length)
    (hn : ReaderNext cfg t k t') : InvG cfg t' := by
  have hx : t.rexc = false := h.rexc_false hnc (by rintro hd; rw [hd] at hrun; cases hrun)
  cases hn with
  | fault h1 =>
    exact ⟨h.len, h.pqcap, fun _ => .inl rfl, fun _ => ⟨k, h1, hk⟩, h.ret, h.cbExc, fun _ => rfl⟩
  | eof | stopped => exact { h with rexcPc := fun _ => .inl rfl }
  | next => exact { h with rexcPc := fun hx' => by simp [hx] at hx' }

theorem InvG.reader {cfg : Cfg} {s s' : State} (hA : InvA cfg s) (h : InvG cfg s)
    (hs : ReaderStep cfg s s') : InvG cfg s' := by
  cases hs with
  | begin hr t hn => exact h.readerNext (by rw [hr]; rfl) (by simp [hr]) (Nat.zero_le _) hn
  | put k hr hc t hn =>
    have h' : InvG cfg { s with pq := s.pq ++ [some k] } :=
      { h with pqcap := by simpa using Nat.succ_le_of_lt hc }
    exact h'.readerNext (by simp [hr, RPc.running]) (by simp [hr]) (hA.putting k hr).2 hn
  | close hr hc =>
    exact { h with pqcap := by simpa using Nat.succ_le_of_lt hc, rexcPc := fun _ => .inr rfl }

theorem InvG.hasher {cfg : Cfg} {s s' : State} {i : Nat} (h : InvG cfg s)
    (hs : HasherStep cfg s i s') : InvG cfg s' := by
  have hcap := h.pqcap
  cases hs with
  | idle => exact h
  | take k rest hi hpq | takeClosed rest hi hpq =>
    exact h.frame (by simp) (by rw [hpq] at hcap; exact Nat.le_of_succ_le hcap) rfl rfl rfl rfl rfl
  | requeue hi hc => exact h.frame (by simp) (by simpa using Nat.succ_le_of_lt hc) rfl rfl rfl rfl rfl
  | _ => exact h.frame (by simp) hcap rfl rfl rfl rfl rfl

theorem InvG.janitor {cfg : Cfg} {s s' : State} (h : InvG cfg s)
    (hs : JanitorStep s s') : InvG cfg s' := by
  cases hs <;> exact h.frame rfl h.pqcap rfl rfl rfl rfl rfl

theorem InvG.step {cfg : Cfg} {s s' : State} (hA : InvA cfg s) (h : InvG cfg s)
    (hs : StepG cfg s s') : InvG cfg s' := by
  cases hs with
  | main h' => exact h.main hA h'
  | reader h' => exact h.reader hA h'
  | hasher i h' => exact h.hasher h'
  | janitor h' => exact h.janitor h'

theorem InvG.of_reachable {cfg : Cfg} {s : State} (h : Reachable cfg s) : InvG cfg s :=
  h.inductionG (InvG.init cfg) fun _ _ hA hp hs => hp.step hA hs

theorem StepG.mono {cfg : Cfg} {s s' : State} (hs : StepG cfg s s') :
    (s.stop = true → s'.stop = true) ∧ (s.rexc = true → s'.rexc = true) := by
  cases hs with
  | main h' =>
    cases h' with
    | ok h'' _ _ _ => cases h'' <;> simp
    | _ => simp
  | reader h' =>
    cases h' with
    | begin hr t hn => cases hn <;> simp
    | put k hr hc t hn => cases hn <;> simp
    | close hr hc => simp
  | hasher i h' | janitor h' => cases h' <;> simp

end Torf.Pipeline
