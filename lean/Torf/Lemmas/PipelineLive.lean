/-
  Torf.Lemmas.PipelineLive — deadlock freedom of the pipeline: in every state that satisfies the
  invariant and in which main has not returned, some thread can take a progress step (for the
  janitor: after the idle steps of its current polling round).
-/
import Torf.Lemmas.PipelineProg
import Torf.Lemmas.PipelineMeasure
namespace Torf.Pipeline

def AllDead (s : State) : Prop := ∀ (i : Nat) (p : HPc), s.hs[i]? = some p → p.running = false

theorem AllDead.not_running {s : State} (h : AllDead s) (i : Nat) : hasherRunning s i = false :=
  Bool.eq_false_iff.2 fun hr => by
    obtain ⟨p, hp, hrun⟩ := hasherRunning_true hr
    rw [h i p hp] at hrun; cases hrun

theorem step_janitor (cfg : Cfg) (s : State) (b : Bool) :
    step cfg s ⟨.janitor, b⟩ = stepJanitor cfg s b := rfl

theorem coreJan_spinPc_ne_waiting (l : List Nat) : coreJan .waiting ≠ coreJan (spinPc l) := by
  rcases spinPc_cases l with ⟨_, h⟩ | ⟨_, h⟩ <;> rw [h] <;> simp [coreJan]

theorem janitorReachesProgress_succ {cfg : Cfg} {s : State} {n : Nat} :
    janitorReachesProgress cfg s (n + 1) = true ↔
      ∃ s', step cfg s ⟨.janitor, false⟩ = some s' ∧
        (isProgress s s' = true ∨ janitorReachesProgress cfg s' n = true) := by
  rw [janitorReachesProgress]
  cases step cfg s ⟨.janitor, false⟩ <;> simp

theorem janitorReachesProgress_of_step {cfg : Cfg} {s s' : State} {n : Nat} (h : JanitorStep s s')
    (hw : s.jan = .waiting → s.fin = true)
    (hp : isProgress s s' = true ∨ janitorReachesProgress cfg s' n = true) :
    janitorReachesProgress cfg s (n + 1) = true :=
  janitorReachesProgress_succ.2 ⟨s', h.enabled cfg hw, hp⟩

/-- the janitor's busy wait ends when all hashers are dead -/
theorem janitor_spin_progress (cfg : Cfg) :
    ∀ (n : Nat) (rest : List Nat) (s : State), s.jan = .spin rest → rest ≠ [] → rest.length ≤ n →
      AllDead s → janitorReachesProgress cfg s n = true := by
  intro n
  induction n with
  | zero =>
    intro rest s _ hne hlen _
    exact absurd (List.length_eq_zero_iff.1 (Nat.le_zero.1 hlen)) hne
  | succ n ih =>
    intro rest s hj hne hlen hd
    cases rest with
    | nil => exact absurd rfl hne
    | cons h r =>
      refine janitorReachesProgress_of_step (.spinNext h r hj (hd.not_running h)) (by simp [hj]) ?_
      cases r with
      | nil => exact .inl (isProgress_of_jan (by simp [hj, spinPc, coreJan]))
      | cons h' r' => exact .inr (ih (h' :: r') _ rfl (by simp) (by simpa using hlen) hd)

/-- a pruning round ends, and then the janitor sees the finalize event -/
theorem janitor_prune_progress (cfg : Cfg) :
    ∀ (n : Nat) (snap : List Nat) (s : State), s.jan = .prune snap → snap ≠ [] →
      snap.length + 1 ≤ n → AllDead s → s.fin = true → janitorReachesProgress cfg s n = true := by
  intro n
  induction n with
  | zero => intro snap s _ _ hlen; omega
  | succ n ih =>
    intro snap s hj hne hlen hd hf
    cases snap with
    | nil => exact absurd rfl hne
    | cons h r =>
      refine janitorReachesProgress_of_step (.pruneDrop h r hj (hd.not_running h)) (by simp [hj])
        (.inr ?_)
      cases r with
      | nil =>
        cases n with
        | zero => simp at hlen
        | succ m =>
          -- back at `waiting` with the event set: the next step starts the final round
          exact janitorReachesProgress_of_step (.wake rfl hf) (fun _ => hf)
            (.inl (isProgress_of_jan (coreJan_spinPc_ne_waiting _)))
      | cons h' r' => exact ih (h' :: r') _ rfl (by simp) (by simpa using hlen) hd hf

theorem janitor_progress {cfg : Cfg} {s : State} (h3 : InvB3 cfg s) (hd : AllDead s)
    (hf : s.fin = true) (hrun : s.jan.running = true) :
    janitorReachesProgress cfg s (cfg.N + 2) = true := by
  cases hj : s.jan with
  | notStarted | refused | done => simp [hj, JPc.running] at hrun
  | begin_ =>
    exact janitorReachesProgress_of_step (.begin hj) (by simp [hj])
      (.inl (isProgress_of_jan (by simp [hj, coreJan])))
  | waiting =>
    exact janitorReachesProgress_of_step (.wake hj hf) (fun _ => hf)
      (.inl (isProgress_of_jan (by rw [hj]; exact coreJan_spinPc_ne_waiting _)))
  | closing =>
    exact janitorReachesProgress_of_step (.close hj) (by simp [hj])
      (.inl (isProgress_of_jan (by simp [hj, coreJan])))
  | prune snap =>
    -- a snapshot has at most `N` entries (`InvB3`); a pruning round is followed by the waking step
    obtain ⟨hne, hlen⟩ := h3.jp snap hj
    exact janitor_prune_progress cfg _ snap s hj hne (by omega) hd hf
  | spin rest =>
    obtain ⟨hne, hlen, _⟩ := h3.js1 rest hj
    exact janitor_spin_progress cfg _ rest s hj hne (by omega) hd

theorem canProgress_of_readerStep {cfg : Cfg} {s s' : State} (hA : InvA cfg s)
    (h : ReaderStep cfg s s') : canProgress cfg s = true :=
  canProgress_of_label (l := ⟨.reader, false⟩) h.enabled (isProgress_of_mu_lt (mu_reader hA h)) nofun

theorem startedCnt_of_not_preJan (cfg : Cfg) {m : MPc} (h : preJan m = false) :
    startedCnt cfg m = cfg.N := by
  cases m <;> simp_all [preJan, startedCnt]

theorem preReader_of_not_preJan {m : MPc} (h : preJan m = false) : preReader m = false := by
  cases m <;> simp_all [preJan, preReader]

/-- Once main has started every thread: as long as the reader, a hasher or the janitor is
    running, one of them can take a progress step (main is never needed: the hash queue is
    unbounded). -/
theorem workers_progress {cfg : Cfg} {s : State} (hN : 1 ≤ cfg.N) (hcap : 1 ≤ cfg.cap)
    (h : Inv cfg s) (hpre : preJan s.main = false)
    (hrun : s.rpc.running = true ∨ (∃ (i : Nat) (p : HPc), s.hs[i]? = some p ∧ p.running = true) ∨
      s.jan.running = true) : canProgress cfg s = true := by
  -- An empty piece queue has room: for the reader, or, if the reader is done, for the hasher that
  -- holds the sentinel.  With a non-empty queue every running hasher can move; and if none runs,
  -- all are done, so the vital one has set the event, the reader is done (`InvB2`), and what runs
  -- is the janitor, which then gets through its round.
  have hlen := h.b1.len
  by_cases hpq : s.pq = []
  · have room : s.pq.length < cfg.cap := by rw [hpq]; exact hcap
    cases hr : s.rpc with
    | begin_ => exact canProgress_of_readerStep h.a (.begin hr _ (.of_readerNext ..))
    | putting k => exact canProgress_of_readerStep h.a (.put k hr room _ (.of_readerNext ..))
    | closing => exact canProgress_of_readerStep h.a (.close hr room)
    | notStarted =>
      have := h.b1.rstart.2 hr
      rw [preReader_of_not_preJan hpre] at this
      cases this
    | refused => exact absurd hr h.b1.nrefR
    | done =>
      rcases h.b2.e2 hr with hn | ⟨i, hi⟩
      · rw [hpq] at hn; cases hn
      · exact canProgress_of_hasherStep hlen (.requeue hi room) (set_ne_self hi nofun)
  · by_cases hex : ∃ (i : Nat) (p : HPc), s.hs[i]? = some p ∧ p.running = true
    · obtain ⟨i, p, hi, hp⟩ := hex
      cases p with
      | begin_ => exact canProgress_of_hasherStep hlen (.begin hi) (set_ne_self hi nofun)
      | holding k => exact canProgress_of_hasherStep hlen (.deliver k hi) (set_ne_self hi nofun)
      | setEv => exact canProgress_of_hasherStep hlen (.setEv hi) (set_ne_self hi nofun)
      | requeue => exact absurd (h.b2.e3 i hi) hpq
      | getting =>
        cases hq : s.pq with
        | nil => exact absurd hq hpq
        | cons x rest =>
          cases x with
          | none =>
            exact canProgress_of_hasherStep hlen (.takeClosed rest hi hq) (set_ne_self hi nofun)
          | some k => exact canProgress_of_hasherStep hlen (.take k rest hi hq) (set_ne_self hi nofun)
      | notStarted | refused | done => cases hp
    · have hd : AllDead s := fun i p hi => Bool.eq_false_iff.2 fun hp => hex ⟨i, p, hi, hp⟩
      -- the vital hasher has been started and was not refused: it is done
      have h0 : s.hs[0]? = some .done := by
        have hi := List.getElem?_eq_getElem (show 0 < s.hs.length by omega)
        have hstart := h.b1.hstart 0
        rw [startedCnt_of_not_preJan cfg hpre] at hstart
        rw [hi, HPc.done_of (hd 0 _ hi) (fun e => hstart hN (e ▸ hi))
          (fun e => h.b1.nrefH 0 (e ▸ hi))]
      have hf := h.b2.v2 h0
      have hrd := h.b2.done_of_fin hf
      rcases hrun with hr | hh | hj
      · rw [hrd] at hr; cases hr
      · exact absurd hh hex
      · exact canProgress_of_janitor (janitor_progress h.b3 hd hf hj)

theorem canProgress_of_mainStep {cfg : Cfg} {s s' : State} (hrf : cfg.refuse = []) (h : Inv cfg s)
    (hs : stepMain cfg s = some s') : canProgress cfg s = true :=
  canProgress_of_label (l := ⟨.main, false⟩) hs
    (isProgress_of_mu_lt (mu_main h (MainStep.of_step hrf h.a hs))) nofun

theorem Inv.deadlock_free {cfg : Cfg} {s : State} (hwf : wf cfg = true) (hrf : cfg.refuse = [])
    (h : Inv cfg s) (ht : terminal s = false) : canProgress cfg s = true := by
  obtain ⟨hN, hcap⟩ : 1 ≤ cfg.N ∧ 1 ≤ cfg.cap := by simpa [wf] using hwf
  cases hs : stepMain cfg s with
  | some s' => exact canProgress_of_mainStep hrf h hs
  | none =>
    -- main is blocked: on the empty hash queue, or in the `join` of a running thread
    cases hm : s.main with
    | finished r => simp [terminal, hm] at ht
    | collect =>
      have hq : s.hq = [] := by
        cases hq : s.hq with
        | nil => rfl
        | cons x rest =>
          cases x with
          | none => simp [stepMain, hm, hq] at hs
          | some k => rw [stepMain_collect hm hq (h.a.not_seen hq)] at hs; cases hs
      refine workers_progress hN hcap h (by simp [hm, preJan]) (Or.inr (Or.inr ?_))
      cases hr : s.jan.running with
      | true => rfl
      | false =>
        have hns : s.jan ≠ .notStarted := by
          intro hc
          have := h.b1.jstart.2 hc
          simp [hm, preJan] at this
        have := h.b3.h1 (JPc.done_of hr hns h.b1.nrefJ) hm
        rw [hq] at this; simp at this
    | joinReader e =>
      exact workers_progress hN hcap h (by simp [hm, preJan]) (Or.inl (by simpa [stepMain, hm] using hs))
    | joinHasher hh idx e =>
      obtain ⟨p, hp, hpr⟩ := hasherRunning_true (by simpa [stepMain, hm] using hs)
      exact workers_progress hN hcap h (by simp [hm, preJan]) (Or.inr (Or.inl ⟨hh, p, hp, hpr⟩))
    | joinJanitor e =>
      exact workers_progress hN hcap h (by simp [hm, preJan])
        (Or.inr (Or.inr (by simpa [stepMain, hm] using hs)))
    | _ =>
      simp only [stepMain, hm] at hs
      (repeat' split at hs) <;> cases hs

end Torf.Pipeline
