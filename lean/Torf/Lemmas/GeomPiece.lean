/-
  Torf.Lemmas.GeomPiece — `get_piece` (indexed read) agrees with the arithmetic slice of the
  concatenated stream, for every layout without zero-length files.
-/
import Torf.Model.GeometryFs
import Torf.Lemmas.GeomScan
namespace Torf.GeomLemmas
open Torf Torf.Geometry

def NoEmptyFiles (files : List (List α)) : Prop := ∀ f ∈ files, f ≠ []

theorem noEmpty_map_length (files : List (List α)) (h : NoEmptyFiles files) :
    NoEmpty (files.map List.length) := by
  intro t ht
  obtain ⟨f, hf, rfl⟩ := List.mem_map.mp ht
  exact List.length_pos_iff.mpr (h f hf)

/-- `seek_to = 0` from the second file on is what makes the reads one read of the concatenation -/
theorem readLoop_range' (files : List (List α)) (c j s n : Nat)
    (hjc : j + c ≤ files.length) (hlen : 0 < c → s ≤ (files.getD j []).length) :
    readLoop files true (List.range' j c) (s : Int) n =
      .ok ((((files.drop j).take c).flatten.drop s).take n) := by
  induction c generalizing j s n with
  | zero => simp [readLoop]
  | succ c ih =>
    have hj : j < files.length := by omega
    have hsg := hlen (Nat.succ_pos c)
    rw [List.getD_eq_getElem?_getD, List.getElem?_eq_getElem hj, Option.getD_some] at hsg
    have hih := ih (j + 1) 0 (n - ((files[j].drop s).take n).length) (by omega) (fun _ => Nat.zero_le _)
    simp only [List.range'_succ, readLoop, Bool.not_true, Bool.false_eq_true, if_false,
      Int.not_lt.mpr (Int.natCast_nonneg s), Int.toNat_natCast, List.getD_eq_getElem?_getD,
      List.getElem?_eq_getElem hj, Option.getD_some, Int.natCast_zero ▸ hih,
      List.drop_eq_getElem_cons hj, List.take_succ_cons, List.flatten_cons, List.drop_zero]
    simp only [bind, Except.bind, pure, Except.pure]
    rw [List.drop_append_of_le_length hsg, List.take_append, List.length_take]
    congr 3
    omega

theorem seekTo_run (sizes : List Nat) (L q j k : Nat) (hj : j < sizes.length)
    (h1 : GeomSpec.pos sizes j ≤ q * L) (h2 : q * L < GeomSpec.pos sizes j + GeomSpec.size sizes j)
    (hk : GeomSpec.pos sizes (j + k) < q * L + L) :
    seekTo sizes L ((q : Int) * (L : Int)) (List.range' j (k + 1)) =
      .ok ((q * L - GeomSpec.pos sizes j : Nat) : Int) := by
  have hqL : ((q * L : Nat) : Int) = (q : Int) * (L : Int) := Int.natCast_mul q L
  have hlook := (lookupFile_eq sizes j).trans (if_pos hj)
  cases k with
  | zero =>
    simp only [Nat.zero_add, List.range'_succ, List.range'_zero, seekTo, getFilePosition, hlook,
      bind, Except.bind, pure, Except.pure]
    congr 1
    omega
  | succ k =>
    -- several files: the code seeks to `size - (pos + size) % L`.  The first file ends before the last one
    -- begins, so inside the piece (`hk`): `q·L` is the last piece boundary before its end and the remainder
    -- is `pos + size - q·L`: the same offset `q·L - pos` as in the single-file branch
    have hle := files_disjoint sizes j (j + (k + 1)) (by omega)
    have hm : ((GeomSpec.pos sizes j : Int) + (GeomSpec.size sizes j : Int)) % (L : Int) =
        (GeomSpec.pos sizes j : Int) + (GeomSpec.size sizes j : Int) - (q : Int) * (L : Int) := by
      have h := Int.add_mul_emod_self_right
        ((GeomSpec.pos sizes j : Int) + (GeomSpec.size sizes j : Int) - (q : Int) * (L : Int)) q (L : Int)
      rwa [Int.emod_eq_of_lt (a := (GeomSpec.pos sizes j : Int) + (GeomSpec.size sizes j : Int) -
        (q : Int) * (L : Int)) (by omega) (by omega), Int.sub_add_cancel] at h
    simp only [List.range'_succ, seekTo, ← hqL, getFileAtPosition_owner sizes (q * L) j hj h1 h2, hlook,
      bind, Except.bind, pure, Except.pure, hm]
    congr 1
    omega

theorem pieceFiles (sizes : List Nat) (L q : Nat) (hL : 0 < L) (hne : NoEmpty sizes)
    (hlt : q * L < total sizes) :
    ∃ j k, j + k < sizes.length ∧
      GeomSpec.pos sizes j ≤ q * L ∧ q * L < GeomSpec.pos sizes j + GeomSpec.size sizes j ∧
      min (q * L + L) (total sizes) ≤ GeomSpec.pos sizes (j + (k + 1)) ∧
      getFilesAtByteRange sizes ((q : Int) * (L : Int))
        (min ((q : Int) * (L : Int) + (L : Int) - 1) ((total sizes : Int) - 1)) = .ok (List.range' j (k + 1)) ∧
      seekTo sizes L ((q : Int) * (L : Int)) (List.range' j (k + 1)) =
        .ok ((q * L - GeomSpec.pos sizes j : Nat) : Int) := by
  have hqL : ((q * L : Nat) : Int) = (q : Int) * (L : Int) := Int.natCast_mul q L
  have hT : GeomSpec.total sizes = total sizes := rfl
  generalize hb : min ((q : Int) * (L : Int) + (L : Int) - 1) ((total sizes : Int) - 1) = b
  have hab : (q : Int) * (L : Int) ≤ b := by omega
  -- the owners `j`, `j + k` of the piece's first byte and of its last one (the stream's, if that comes first)
  obtain ⟨bN, rfl⟩ := Int.eq_ofNat_of_zero_le (by omega : 0 ≤ b)
  obtain ⟨j, hj, h1, h2⟩ := exists_owner sizes (q * L) hlt
  obtain ⟨j', hj', h1', h2'⟩ := exists_owner sizes bN (by omega)
  obtain ⟨k, rfl⟩ := Nat.exists_eq_add_of_le ((owner_iff sizes (q * L) j h1 h2 j').2.mp (by omega))
  refine ⟨j, k, hj', h1, h2, ?_, ?_, ?_⟩
  · show _ ≤ GeomSpec.pos sizes (j + k + 1)
    rw [pos_succ]
    omega
  · rw [getFilesAtByteRange_spec _ _ _ hne hab, ← hqL, filesAtByteRange_owners sizes hne _ _ j k hj' h1 h2 h1' h2']
  · exact seekTo_run sizes L q j k hj h1 h2 (by omega)

theorem range_check (sizes : List Nat) (L : Nat) (i : Int) (hL : 0 < L) :
    (decide (0 ≤ i) && decide (i ≤ floorDiv ((total sizes : Int) - 1) L))
      = GeomSpec.validPiece sizes L i := by
  have hL' : (0 : Int) < (L : Int) := by omega
  simp only [GeomSpec.validPiece, floorDiv, GeomSpec.total, total, Int.le_ediv_iff_mul_le hL']
  congr 2
  apply propext
  omega

/-- the length `get_piece` expects of piece `q` is the length of the slice -/
theorem exp_lemma (T L q : Nat) (hlt : q * L < T) :
    ((min L (T - q * L) : Nat) : Int) =
      if min ((q : Int) * (L : Int) + (L : Int) - 1) ((T : Int) - 1) = (T : Int) - 1 then
        (if (T : Int) % (L : Int) = 0 then (L : Int) else (T : Int) % (L : Int))
      else (L : Int) := by
  have hqL : ((q * L : Nat) : Int) = (q : Int) * (L : Int) := Int.natCast_mul q L
  by_cases h1 : q * L + L < T
  · rw [Nat.min_eq_left (by omega), Int.min_eq_left (by omega), if_neg (by omega)]
  · -- the last piece: `T = r + q·L` with `0 < r ≤ L`
    obtain ⟨r, hr⟩ : ∃ r, T = r + q * L := ⟨T - q * L, by omega⟩
    subst hr
    rw [Int.min_eq_right (by omega), if_pos rfl, Nat.add_sub_cancel, Nat.min_eq_right (by omega),
      Int.natCast_add, hqL, Int.add_mul_emod_self_right]
    by_cases h2 : r = L
    · subst h2; rw [Int.emod_self, if_pos rfl]
    · rw [Int.emod_eq_of_lt (by omega) (by omega), if_neg (by omega)]

theorem validPiece_iff (files : List (List α)) (L : Nat) (i : Int) :
    GeomSpec.validPiece (files.map List.length) L i = true ↔
      ∃ q : Nat, i = (q : Int) ∧ q * L < files.flatten.length := by
  rw [List.length_flatten]
  unfold GeomSpec.validPiece GeomSpec.total
  rw [Bool.and_eq_true, decide_eq_true_iff, decide_eq_true_iff]
  constructor
  · rintro ⟨hi, hlt⟩
    obtain ⟨q, rfl⟩ := Int.eq_ofNat_of_zero_le hi
    exact ⟨q, rfl, by have := Int.natCast_mul q L; omega⟩
  · rintro ⟨q, rfl, hlt⟩
    exact ⟨Int.natCast_nonneg q, by have := Int.natCast_mul q L; omega⟩

theorem getPiece_eq_with (files : List (List α)) (L : Nat) (hp : Bool) (i : Int) :
    getPiece files L hp i = getPieceWith (readLoop files hp) (files.map List.length) L i := rfl

theorem getPieceWith_oor (rd : List Nat → Int → Nat → Res (List α)) (sizes : List Nat) (L : Nat) (i : Int)
    (hL : 0 < L) (hv : ¬ GeomSpec.validPiece sizes L i = true) :
    getPieceWith rd sizes L i = .error .value := by
  simp only [getPieceWith, range_check _ L i hL, hv]
  rfl

/-- Stated for any read loop `rd`, run on arguments on which the list-based one yields the arithmetic slice:
    the list-based loop, the file-system one and a failing one are instances (`getPieceWith_spec`,
    `getPieceWith_fails`). -/
theorem getPieceWith_valid (rd : List Nat → Int → Nat → Res (List α)) (files : List (List α)) (L : Nat) (i : Int)
    (hL : 0 < L) (hne : NoEmptyFiles files) (hv : GeomSpec.validPiece (files.map List.length) L i = true) :
    ∃ rel st, rel ≠ [] ∧ (∀ j ∈ rel, j < files.length) ∧
      readLoop files true rel st L = .ok ((files.flatten.drop (i.toNat * L)).take L) ∧
      getPieceWith rd (files.map List.length) L i =
        (rd rel st L >>= fun p =>
          if p.length = ((files.flatten.drop (i.toNat * L)).take L).length then .ok p
          else .error (.internal "AssertionError")) := by
  obtain ⟨q, rfl, hlt⟩ := (validPiece_iff files L i).mp hv
  obtain ⟨j, k, hk, h1, h2, hcover, hrel, hseek⟩ := pieceFiles (files.map List.length) L q hL
    (noEmpty_map_length files hne) (List.length_flatten ▸ hlt :)
  rw [List.length_map] at hk
  have hend := files_disjoint (files.map List.length) j (j + (k + 1)) (by omega)
  rw [Int.toNat_natCast]
  refine ⟨List.range' j (k + 1), ((q * L - GeomSpec.pos (files.map List.length) j : Nat) : Int),
    by simp [List.range'_succ], fun i hi => ?_, ?_, ?_⟩
  · have := (List.mem_range'_1.mp hi).2; omega
  · rw [readLoop_range' files (k + 1) j _ L (by omega)
      (fun _ => by rw [← size_map_length]; omega)]
    exact congrArg Except.ok (flatten_slice files j (k + 1) (q * L) L h1 (by omega) hcover).symm
  · have hexp := exp_lemma files.flatten.length L q hlt
    rw [← List.length_drop, ← List.length_take, List.length_flatten, ← total] at hexp
    simp only [getPieceWith, range_check _ L _ hL, hv, hrel, hseek, bind, Except.bind, ← hexp,
      Int.natCast_inj]
    rfl

theorem getPieceWith_spec (rd : List Nat → Int → Nat → Res (List α)) (files : List (List α)) (L : Nat)
    (i : Int) (hL : 0 < L) (hne : NoEmptyFiles files)
    (hrd : ∀ rel st, (∀ j ∈ rel, j < files.length) → rd rel st L = readLoop files true rel st L) :
    getPieceWith rd (files.map List.length) L i = GeomSpec.piece files L i := by
  by_cases hv : GeomSpec.validPiece (files.map List.length) L i = true
  · obtain ⟨rel, st, _, hmem, h3, h⟩ := getPieceWith_valid rd files L i hL hne hv
    simp only [h, hrd rel st hmem, h3, GeomSpec.piece, hv, if_true]
    exact if_pos rfl
  · rw [getPieceWith_oor _ _ L i hL hv]
    simp only [GeomSpec.piece, hv]
    rfl

theorem getPieceWith_fails (rd : List Nat → Int → Nat → Res (List α)) (files : List (List α)) (L : Nat)
    (i : Int) (e : Err) (hL : 0 < L) (hne : NoEmptyFiles files)
    (hrd : ∀ j rest st, j < files.length → rd (j :: rest) st L = .error e) :
    getPieceWith rd (files.map List.length) L i =
      if GeomSpec.validPiece (files.map List.length) L i then .error e else .error .value := by
  by_cases hv : GeomSpec.validPiece (files.map List.length) L i = true
  · obtain ⟨rel, st, hrel, hmem, _, h⟩ := getPieceWith_valid rd files L i hL hne hv
    obtain ⟨j, rest, rfl⟩ := List.exists_cons_of_ne_nil hrel
    rw [h, hrd j rest st (hmem j (by simp)), if_pos hv]
    rfl
  · rw [getPieceWith_oor _ _ L i hL hv, if_neg hv]

theorem getPiece_noPath (files : List (List α)) (L : Nat) (i : Int) (hL : 0 < L)
    (hne : NoEmptyFiles files) :
    Geometry.getPiece files L false i = .error .value := by
  rw [getPiece_eq_with, getPieceWith_fails _ files L i .value hL hne fun _ _ _ _ => rfl]
  split <;> rfl

end Torf.GeomLemmas
