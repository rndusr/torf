/-
  Torf.Lemmas.GenHistory — the private stream of `generate()` reads the current bytes: its table
  starts empty and stays `Consistent` with the directory, so every lookup answers the inode the
  path names now (`readPaths_private`).  The abstraction to the specification's state is `World.cur`:
  in a well-formed world (`WF`: the directory is an injection into the inode store) it moves under
  the steps like a plain list (`step_private`, `cur_create`).  On the metainfo side `infos` is that
  abstraction, and the getters keep every memo slot sound (`MemoOk`, `filesOf_ok`).
-/
import Torf.Model.GenHistory
import Torf.Lemmas.Fold
namespace Torf.GenHistory
open Torf

/-- every cached handle is open on the inode its path names now -/
def Consistent (dir : List Nat) (t : Table) : Prop := ∀ h ∈ t, h.ino = dir.getD h.file 0

theorem consistent_nil (dir : List Nat) : Consistent dir [] := by intro h hh; simp at hh

theorem evict_eq_drop (cap : Nat) (t : Table) : evict cap t = t.drop (t.length - cap) :=
  Torf.evict_eq_drop (ev := evict cap) rfl (fun _ _ => rfl) t

theorem consistent_getOpenFile {dir : List Nat} {t : Table} (cap j : Nat) (h : Consistent dir t) :
    Consistent dir (getOpenFile cap dir t j) := by
  unfold getOpenFile
  split
  · exact h
  · intro x hx
    rcases List.mem_append.1 hx with hx | hx
    · exact h x (List.mem_of_mem_drop (evict_eq_drop cap t ▸ hx))
    · simp only [List.mem_singleton] at hx
      subst hx
      rfl

theorem inoOf_eq_find? (t : Table) (j : Nat) : inoOf t j = (t.find? (·.file == j)).map (·.ino) := by
  induction t with
  | nil => rfl
  | cons e t ih =>
    simp only [inoOf, List.find?_cons]
    split <;> simp [*]

theorem hasKey_getOpenFile (cap : Nat) (dir : List Nat) (t : Table) (j : Nat) :
    hasKey (getOpenFile cap dir t j) j = true := by
  unfold getOpenFile
  split
  · assumption
  · simp [hasKey]

theorem inoOf_getOpenFile {dir : List Nat} {t : Table} (cap j : Nat) (h : Consistent dir t) :
    inoOf (getOpenFile cap dir t j) j = some (dir.getD j 0) := by
  -- afterwards the key is there, so the lookup hits a member with that key, and members are current
  obtain ⟨e, he⟩ := Option.isSome_iff_exists.1
    (List.find?_isSome.2 (List.any_eq_true.1 (hasKey_getOpenFile cap dir t j)))
  have hj := List.find?_some he
  rw [beq_iff_eq] at hj
  rw [inoOf_eq_find?, he, Option.map_some,
    consistent_getOpenFile cap j h e (List.mem_of_find?_eq_some he), hj]

theorem openAll_consistent {dir : List Nat} (cap : Nat) (js : List Nat) :
    ∀ {t : Table}, Consistent dir t → (openAll cap dir js t).1 = js.map (fun j => dir.getD j 0) := by
  induction js with
  | nil => exact fun _ => rfl
  | cons j js ih =>
    intro t h
    simp only [openAll, List.map_cons, inoOf_getOpenFile cap j h, Option.getD_some,
      ih (consistent_getOpenFile cap j h)]

/-- the private stream of `generate()` (code as it is: instance-level cache) reads exactly the
    current contents, whatever the other streams hold -/
theorem readPaths_private (cap : Nat) (w : World α) (js : List Nat) :
    readPaths false cap w js = (js.map fun j => w.inodes.getD (w.dir.getD j 0) [], w) := by
  unfold readPaths
  simp only [Bool.false_eq_true, ↓reduceIte]
  rw [openAll_consistent cap js (consistent_nil w.dir), List.map_map]
  rfl

theorem readAll_private (cap : Nat) (w : World α) :
    readAll false cap w = (w.cur, w) := by
  unfold readAll World.cur
  rw [readPaths_private]
  -- reading path after path through the directory is reading the directory
  exact congrArg (·, w) ((List.map_map (g := fun i => w.inodes.getD i [])).symm.trans
    (congrArg _ (map_range_getD w.dir 0)))

/-- invariant of the worlds a history reaches from `World.init`: every listed path names an inode of
    the store, and no two name the same one (a fresh inode per `replace` / `create`), so rewriting one
    file in place leaves the bytes of the others -/
structure WF (w : World α) : Prop where
  lt : ∀ i ∈ w.dir, i < w.inodes.length
  nodup : w.dir.Nodup

theorem WF.init (files : List (List α)) : WF (World.init files) :=
  ⟨by intro i hi; simpa [World.init] using hi, by simpa [World.init] using List.nodup_range⟩

theorem cur_init (files : List (List α)) : (World.init files).cur = files :=
  map_range_getD files []

theorem map_getD_append {w : World α} (hw : WF w) (bytes : List α) :
    w.dir.map (fun i => (w.inodes ++ [bytes]).getD i []) = w.cur :=
  List.map_congr_left fun i hi => by
    rw [List.getD_eq_getElem?_getD, List.getD_eq_getElem?_getD, List.getElem?_append_left (hw.lt i hi)]

theorem cur_replace {w : World α} (hw : WF w) (j : Nat) (bytes : List α) :
    ({ w with inodes := w.inodes ++ [bytes], dir := w.dir.set j w.inodes.length } : World α).cur =
      w.cur.set j bytes := by
  unfold World.cur
  simp only
  rw [List.map_set, map_getD_append hw, List.getD_eq_getElem?_getD, List.getElem?_concat_length]
  rfl

theorem cur_rewrite {w : World α} (hw : WF w) (j : Nat) (hj : j < w.dir.length) (bytes : List α) :
    ({ w with inodes := w.inodes.set (w.dir.getD j 0) bytes } : World α).cur = w.cur.set j bytes := by
  unfold World.cur
  simp only
  have hdj : w.dir.getD j 0 = w.dir[j] := by simp [List.getD_eq_getElem?_getD, List.getElem?_eq_getElem hj]
  rw [hdj]
  apply List.ext_getElem
  · simp
  · intro i h1 h2
    simp only [List.length_map] at h1
    simp only [List.getElem_map, List.getElem_set]
    by_cases hij : j = i
    · subst hij
      have hlt := hw.lt w.dir[j] (List.getElem_mem hj)
      simp [List.getD_eq_getElem?_getD, hlt]
    · simp only [hij, ↓reduceIte]
      have hne : w.dir[j] ≠ w.dir[i] := by
        intro heq
        exact hij ((List.getElem_inj hw.nodup).1 heq)
      simp [List.getD_eq_getElem?_getD, hne]

theorem nodup_set {β : Type} {l : List β} {x : β} (hl : l.Nodup) (hx : x ∉ l) (j : Nat) :
    (l.set j x).Nodup := by
  induction l generalizing j with
  | nil => exact hl
  | cons a t ih =>
    rw [List.nodup_cons] at hl
    cases j with
    | zero => exact List.nodup_cons.2 ⟨fun h => hx (List.mem_cons_of_mem _ h), hl.2⟩
    | succ j =>
      refine List.nodup_cons.2 ⟨fun h => ?_, ih hl.2 (fun h => hx (List.mem_cons_of_mem _ h)) j⟩
      rcases List.mem_or_eq_of_mem_set h with h | rfl
      · exact hl.1 h
      · exact hx (List.mem_cons_self ..)

theorem WF.replace {w : World α} (hw : WF w) (j : Nat) (bytes : List α) :
    WF ({ w with inodes := w.inodes ++ [bytes], dir := w.dir.set j w.inodes.length } : World α) := by
  refine ⟨fun i hi => ?_, nodup_set hw.nodup (fun h => Nat.lt_irrefl _ (hw.lt _ h)) j⟩
  simp only [List.length_append, List.length_singleton]
  rcases List.mem_or_eq_of_mem_set hi with h | h
  · have := hw.lt i h; omega
  · omega

/-- a step of the code-as-it-is variant keeps the world well-formed; the current contents change
    only by `replace` / `rewrite`, exactly as in the specification -/
theorem step_private (H : List α → δ) (L cap : Nat) {w : World α} (hw : WF w) (op : Op α) :
    WF (step false H L cap w op).1 ∧
      (step false H L cap w op).1.cur =
        (match op with
          | .replace j b => w.cur.set j b
          | .rewrite j b => w.cur.set j b
          | _ => w.cur) ∧
      (step false H L cap w op).2 =
        (match op with
          | .generate => some (Generate.seq H L w.cur)
          | _ => none) := by
  -- a path that is not listed: nothing happens
  have hout : ∀ (j : Nat) (b : List α), ¬ j < w.dir.length → w.cur = w.cur.set j b := fun j b hj => by
    rw [List.set_eq_of_length_le]
    simp [World.cur]; omega
  cases op with
  | replace j b =>
    simp only [step]
    split
    · exact ⟨hw.replace j b, cur_replace hw j b, rfl⟩
    · exact ⟨hw, hout j b ‹_›, rfl⟩
  | rewrite j b =>
    simp only [step]
    split
    · rename_i hj
      exact ⟨⟨fun i hi => by simp only [List.length_set]; exact hw.lt i hi, hw.nodup⟩,
        cur_rewrite hw j hj b, rfl⟩
    · exact ⟨hw, hout j b ‹_›, rfl⟩
  | newStream => exact ⟨⟨hw.lt, hw.nodup⟩, rfl, rfl⟩
  | touch s j =>
    simp only [step]
    split
    · exact ⟨⟨hw.lt, hw.nodup⟩, rfl, rfl⟩
    · exact ⟨hw, rfl, rfl⟩
  | close s => exact ⟨⟨hw.lt, hw.nodup⟩, rfl, rfl⟩
  | generate =>
    simp only [step, readAll_private]
    exact ⟨hw, trivial, trivial⟩

theorem map_length_set_kept (cur : List (List α)) (sizes : List Nat)
    (h : cur.map List.length = sizes) (j : Nat) (b : List α) (hb : sizes[j]? = some b.length) :
    (cur.set j b).map List.length = sizes := by
  obtain ⟨hlt, hb⟩ := List.getElem?_eq_some_iff.1 hb
  rw [List.map_set, h, ← hb, List.set_getElem_self]

theorem diskStep_private (cap : Nat) {w : World α} (hw : WF w) (op : Op α) :
    WF (diskStep cap w op) ∧
      (diskStep cap w op).cur =
        (match op with
          | .replace j b => w.cur.set j b
          | .rewrite j b => w.cur.set j b
          | _ => w.cur) := by
  obtain ⟨h1, h2, _⟩ := step_private (fun _ : List α => ()) 1 cap hw op
  exact ⟨h1, h2⟩

theorem WF.create {w : World α} (hw : WF w) (bytes : List α) :
    WF ({ w with inodes := w.inodes ++ [bytes], dir := w.dir ++ [w.inodes.length] } : World α) := by
  refine ⟨?_, ?_⟩
  · intro i hi
    simp only [List.length_append, List.length_singleton]
    rcases List.mem_append.1 hi with h | h
    · have := hw.lt i h; omega
    · simp only [List.mem_singleton] at h; omega
  · simp only
    rw [List.nodup_append]
    refine ⟨hw.nodup, by simp, ?_⟩
    intro a ha b hb
    simp only [List.mem_singleton] at hb
    have := hw.lt a ha
    omega

theorem cur_create {w : World α} (hw : WF w) (bytes : List α) :
    ({ w with inodes := w.inodes ++ [bytes], dir := w.dir ++ [w.inodes.length] } : World α).cur =
      w.cur ++ [bytes] := by
  unfold World.cur
  simp only
  rw [List.map_append, map_getD_append hw, List.map_singleton, List.getD_eq_getElem?_getD,
    List.getElem?_concat_length]
  rfl

theorem sizeOnDisk_eq_cur (w : World α) (p : Nat) :
    sizeOnDisk w p = (w.cur[p]?).map List.length := by
  unfold sizeOnDisk World.cur
  rw [List.getElem?_map]
  cases w.dir[p]? <;> rfl

/-- a path that exists names the inode the private stream reads, with the size `getsize` reports -/
theorem cur_getD_of_sizeOnDisk {w : World α} {p n : Nat} (h : sizeOnDisk w p = some n) :
    w.cur.getD p [] = w.inodes.getD (w.dir.getD p 0) [] ∧ (w.cur.getD p []).length = n := by
  unfold sizeOnDisk at h
  cases hd : w.dir[p]? with
  | none => rw [hd] at h; cases h
  | some i =>
    rw [hd] at h
    have hc : w.cur.getD p [] = w.inodes.getD i [] := by
      simp only [World.cur, List.getD_eq_getElem?_getD, List.getElem?_map, hd, Option.map_some,
        Option.getD_some]
    have hi : w.dir.getD p 0 = i := by simp only [List.getD_eq_getElem?_getD, hd, Option.getD_some]
    exact ⟨by rw [hc, hi], by rw [hc]; exact Option.some.inj h⟩

theorem metasOk_split (ms : List Meta) (ops : List (MOp α)) :
    metasOk ms ops = ((ms.all fun m => decide (0 < m.L)) && metasOk [] ops) := by
  induction ops with
  | nil => simp [metasOk]
  | cons op ops ih =>
    cases op <;> simp only [metasOk, ih] <;> simp [Bool.and_left_comm]

theorem metasOk_pos (ms : List Meta) (ops : List (MOp α)) (h : metasOk ms ops = true) (m : Meta)
    (hm : m ∈ ms) : 0 < m.L := by
  rw [metasOk_split, Bool.and_eq_true] at h
  have := List.all_eq_true.1 h.1 m hm
  simpa using this

theorem metasOk_of_pos {ms ms' : List Meta} {ops : List (MOp α)} (h : metasOk ms ops = true)
    (h' : ∀ m ∈ ms', 0 < m.L) : metasOk ms' ops = true := by
  rw [metasOk_split, Bool.and_eq_true] at h ⊢
  exact ⟨List.all_eq_true.2 fun m hm => decide_eq_true (h' m hm), h.2⟩

theorem metasOk_set (ms : List Meta) (k : Nat) (m : Meta) (ops : List (MOp α)) (hm : 0 < m.L)
    (h : metasOk ms ops = true) : metasOk (ms.set k m) ops = true :=
  metasOk_of_pos h fun x hx =>
    (List.mem_or_eq_of_mem_set hx).elim (metasOk_pos ms ops h x) fun hx => hx ▸ hm

theorem metasOk_append (ms : List Meta) (m : Meta) (ops : List (MOp α)) (hm : 0 < m.L)
    (h : metasOk ms ops = true) : metasOk (ms ++ [m]) ops = true :=
  metasOk_of_pos h fun x hx =>
    (List.mem_append.1 hx).elim (metasOk_pos ms ops h x) fun hx => List.mem_singleton.1 hx ▸ hm

/-- the current metainfo of every Torrent object -/
def infos (ts : List Tor) : List Meta := ts.map Tor.info

theorem infos_set_same {ts : List Tor} {k : Nat} {t t' : Tor} (hk : ts[k]? = some t)
    (h : t'.info = t.info) : infos (ts.set k t') = infos ts := by
  obtain ⟨hlt, rfl⟩ := List.getElem?_eq_some_iff.1 hk
  unfold infos
  rw [List.map_set, h, ← List.map_set, List.set_getElem_self]

theorem infos_modify_same (ts : List Tor) (k : Nat) (f : Tor → Tor) (hf : ∀ t, (f t).info = t.info) :
    infos (modifyTor ts k f) = infos ts := by
  unfold modifyTor
  cases hk : ts[k]? with
  | none => rfl
  | some t => exact infos_set_same hk (hf t)

theorem infos_setMeta (ts : List Tor) (k : Nat) (m : Meta) :
    infos (modifyTor ts k fun t => { t with info := m }) = (infos ts).set k m := by
  unfold infos modifyTor
  cases hk : ts[k]? with
  | some t => simp [List.map_set]
  | none =>
    have : ts.length ≤ k := by simpa using hk
    simp only
    rw [List.set_eq_of_length_le (by simpa using this)]

theorem infos_append (ts : List Tor) (m : Meta) : infos (ts ++ [{ info := m }]) = infos ts ++ [m] := by
  simp [infos]

theorem infos_init (metas : List Meta) : infos (metas.map fun m => ({ info := m } : Tor)) = metas := by
  simp [infos, List.map_map, Function.comp_def]

theorem infos_getElem? (ts : List Tor) (k : Nat) : (infos ts)[k]? = (ts[k]?).map Tor.info := by
  simp [infos]

theorem mem_modifyTor {ts : List Tor} {k : Nat} {f : Tor → Tor} {x : Tor} (hx : x ∈ modifyTor ts k f) :
    x ∈ ts ∨ ∃ t ∈ ts, x = f t := by
  unfold modifyTor at hx
  cases hk : ts[k]? with
  | none => rw [hk] at hx; exact Or.inl hx
  | some t =>
    rw [hk] at hx
    rcases List.mem_or_eq_of_mem_set hx with h | h
    · exact Or.inl h
    · exact Or.inr ⟨t, List.mem_of_getElem? hk, h⟩

/-- every filled memo slot holds the file list of some metainfo with the stored fingerprint -/
def MemoOk (fp : Meta → List Nat) (t : Tor) : Prop :=
  ∀ f es, t.memo = some (f, es) → ∃ m' : Meta, f = fp m' ∧ es = m'.files

theorem filesOf_info (memo : Bool) (fp : Meta → List Nat) (t : Tor) :
    (filesOf memo fp t).2.info = t.info := by
  unfold filesOf
  split
  · split
    · split <;> rfl
    · rfl
  · rfl

/-- the getter answers with the current file list and keeps the memo slot sound — the code's
    (`memo = false`) always, a memoising one when its key is faithful -/
theorem filesOf_ok {memo : Bool} {fp : Meta → List Nat}
    (hfp : memo = true → ∀ m m' : Meta, fp m = fp m' → m.files = m'.files) {t : Tor}
    (ht : MemoOk fp t) :
    (filesOf memo fp t).1 = t.info.files ∧ MemoOk fp (filesOf memo fp t).2 := by
  have hnew : MemoOk fp { t with memo := some (fp t.info, t.info.files) } := fun f es h => by
    cases h; exact ⟨t.info, rfl, rfl⟩
  cases memo with
  | false => exact ⟨rfl, ht⟩
  | true =>
    unfold filesOf
    simp only [↓reduceIte]
    cases hm : t.memo with
    | none => exact ⟨rfl, hnew⟩
    | some fe =>
      simp only
      split
      · rename_i hf
        obtain ⟨m', h1, h2⟩ := ht fe.1 fe.2 hm
        exact ⟨h2 ▸ (hfp rfl t.info m' (by rw [← h1, hf])).symm, ht⟩
      · exact ⟨rfl, hnew⟩

/-- a run depends on the getter through the list it answers and the object it leaves -/
theorem genM_of_files (memo : Bool) (fp : Meta → List Nat) (H : List α → δ) (cap : Nat) (w : World α)
    (t : Tor) (h : (filesOf memo fp t).1 = t.info.files) :
    genM memo fp H cap w t =
      ((genM false fp H cap w t).1, (genM false fp H cap w t).2.1, (filesOf memo fp t).2) := by
  have hf : filesOf false fp t = (t.info.files, t) := rfl
  unfold genM
  simp only [h, hf]
  split
  · rfl
  · split <;> rfl

theorem memoOk_modifyTor {fp : Meta → List Nat} {ts : List Tor} {k : Nat} {f : Tor → Tor}
    (h : ∀ t ∈ ts, MemoOk fp t) (hf : ∀ t, MemoOk fp t → MemoOk fp (f t)) :
    ∀ t ∈ modifyTor ts k f, MemoOk fp t := fun x hx => by
  rcases mem_modifyTor hx with hx | ⟨t, ht, rfl⟩
  · exact h x hx
  · exact hf t (h t ht)

end Torf.GenHistory
