/-
  Helper lemmas for C13.  The round trip (`fromStringMax_render`) in three steps: the link of a
  well-formed magnet is `magnet:?` and parameters `k=enc` joined by `&` (`epsOf`, `pieces_eq`); the
  parser's front end reads any such link back as the pairs `(k, dec)` (`fromStringMax_link`), because
  every `enc` is a concatenation of pieces that `unquote_plus` reads on their own (`Piece`); the
  constructor on those pairs rebuilds every field (`fromPairs_pairsOf`).
-/
import Torf.Spec.MagnetUri
import Torf.Lemmas.MagnetHash
import Torf.Lemmas.Basics
namespace Torf.Magnet

/-- a character that stands for itself in a query string -/
def plainChar (c : Char) : Bool := c != '%' && c != '+' && c != '&' && !isPySpace c

theorem plainChar_elim {c : Char} (h : plainChar c = true) :
    c ≠ '%' ∧ c ≠ '+' ∧ c ≠ '&' ∧ isPySpace c = false := by
  simpa [plainChar, and_assoc] using h

theorem safe_char (c : Char) (h : alwaysSafe c.toNat = true) :
    plainChar c = true ∧ String.utf8EncodeChar c = [UInt8.ofNat c.toNat] := by
  have hr : 45 ≤ c.toNat ∧ c.toNat ≤ 126 := by
    simp only [alwaysSafe, Bool.or_eq_true, Bool.and_eq_true, decide_eq_true_eq] at h; omega
  have ne : ∀ d : Char, d.toNat < 45 → c ≠ d := fun d hd => mt Char.toNat_inj.2 (by omega)
  constructor
  · have : isPySpace c = false := by simp [isPySpace]; omega
    simp [plainChar, this, ne '%' (by decide), ne '+' (by decide), ne '&' (by decide)]
  · rw [String.utf8EncodeChar_eq_singleton (Char.utf8Size_eq_one_iff.2 (by
      rw [UInt32.le_iff_toNat_le]; show c.toNat ≤ 127; omega))]
    rfl

theorem hexDigitUpper_facts : ∀ d : Fin 16,
    alwaysSafe (hexDigitUpper d.val).toNat = true ∧ hexVal (hexDigitUpper d.val) = some d.val := by
  decide +kernel

theorem alwaysSafe_alnum (n : Nat) (h : (48 ≤ n ∧ n ≤ 57) ∨ (65 ≤ n ∧ n ≤ 90) ∨ (97 ≤ n ∧ n ≤ 122)) :
    alwaysSafe n = true := by
  rcases h with h | h | h <;> simp [alwaysSafe, h]

theorem hashChar_safe (c : Char) (h : isHexAscii c = true ∨ isB32Ascii c = true) :
    alwaysSafe c.toNat = true := by
  simp only [isHexAscii, isB32Ascii, isDigit, isLowerAZ, isUpperAZ, Bool.or_eq_true, inR_iff] at h
  exact alwaysSafe_alnum _ (by omega)

theorem quotePlusByte_cases (b : UInt8) :
    (b = 32 ∧ quotePlusByte b = ['+']) ∨
    (∃ c : Char, alwaysSafe c.toNat = true ∧ UInt8.ofNat c.toNat = b ∧ quotePlusByte b = [c]) ∨
    (∃ x y : Fin 16, UInt8.ofNat (x.val * 16 + y.val) = b ∧
      quotePlusByte b = ['%', hexDigitUpper x.val, hexDigitUpper y.val]) := by
  have hlt := UInt8.toNat_lt b
  have hbb : UInt8.ofNat b.toNat = b := UInt8.ofNat_toNat
  unfold quotePlusByte
  by_cases h1 : b.toNat = 32
  · exact Or.inl ⟨by rw [← hbb, h1]; rfl, by rw [if_pos h1]⟩
  · rw [if_neg h1]
    by_cases h2 : alwaysSafe b.toNat = true
    · have e : (Char.ofNat b.toNat).toNat = b.toNat := toNat_ofNat_lt _ (by omega)
      exact Or.inr (Or.inl ⟨_, by rw [e]; exact h2, by rw [e]; exact hbb, by rw [if_pos h2]⟩)
    · refine Or.inr (Or.inr ⟨⟨b.toNat / 16, by omega⟩, ⟨b.toNat % 16, Nat.mod_lt _ (by decide)⟩, ?_,
        by rw [if_neg h2]⟩)
      rw [Nat.div_add_mod' b.toNat 16]; exact hbb

theorem utf8Decode_encode (s : Str) : utf8Decode (s.flatMap String.utf8EncodeChar) = some s := by
  have := @List.utf8Decode?_utf8Encode s
  unfold List.utf8Encode at this
  simp [utf8Decode, this]

theorem spaceForPlus_noPlus (s : Str) (h : '+' ∉ s) : spaceForPlus s = s :=
  replaceChar_of_not_mem h

theorem unquote_cons_ne (c : Char) (rest : Str) (h : c ≠ '%') :
    unquoteToBytes (c :: rest) = String.utf8EncodeChar c ++ unquoteToBytes rest := by
  rw [unquoteToBytes.eq_def]; simp [h]

theorem unquote_pct (a b : Char) (rest : Str) (x y : Nat) (ha : hexVal a = some x)
    (hb : hexVal b = some y) :
    unquoteToBytes ('%' :: a :: b :: rest) = UInt8.ofNat (x * 16 + y) :: unquoteToBytes rest := by
  rw [unquoteToBytes.eq_def]; simp [ha, hb]

/-- `unquote_plus` undoes `quote_plus`, and leaves plain text alone, for one reason: the text is a
    concatenation of pieces — a quoted byte, a character that stands for itself — each of which
    `unquote` reads as its bytes whatever text follows (a `%` never reaches beyond its piece).  `chars`
    is what splitting at `&` and stripping whitespace need of the same text. -/
structure Piece (enc : Str) (bs : List UInt8) : Prop where
  chars : ∀ c ∈ enc, c ≠ '&' ∧ isPySpace c = false
  decodes : ∀ rest, unquoteToBytes (spaceForPlus enc ++ rest) = bs ++ unquoteToBytes rest

theorem Piece.append {a b : Str} {x y : List UInt8} (ha : Piece a x) (hb : Piece b y) :
    Piece (a ++ b) (x ++ y) := by
  refine ⟨fun c hc => (List.mem_append.1 hc).elim (ha.chars c) (hb.chars c), fun rest => ?_⟩
  rw [spaceForPlus, List.map_append, List.append_assoc, List.append_assoc]
  exact (ha.decodes _).trans (congrArg _ (hb.decodes rest))

theorem Piece.flatMap {α : Type} {f : α → Str} {g : α → List UInt8} {l : List α}
    (h : ∀ a ∈ l, Piece (f a) (g a)) : Piece (l.flatMap f) (l.flatMap g) := by
  induction l with
  | nil => exact ⟨nofun, fun _ => rfl⟩
  | cons a t ih => exact (h a (by simp)).append (ih fun x hx => h x (by simp [hx]))

theorem Piece.decode {enc s : Str} (h : Piece enc (s.flatMap String.utf8EncodeChar)) :
    unquotePlus enc = some s := by
  have := h.decodes []
  rw [unquoteToBytes, List.append_nil, List.append_nil] at this
  rw [unquotePlus, this, utf8Decode_encode]

theorem Piece.noAmp {enc : Str} {bs : List UInt8} (h : Piece enc bs) : '&' ∉ enc :=
  fun hm => (h.chars '&' hm).1 rfl

theorem piece_plain {c : Char} (h : plainChar c = true) : Piece [c] (String.utf8EncodeChar c) := by
  obtain ⟨n1, n2, n3, n4⟩ := plainChar_elim h
  refine ⟨by simpa using ⟨n3, n4⟩, fun rest => ?_⟩
  rw [spaceForPlus_noPlus _ (by simpa using n2.symm)]
  exact unquote_cons_ne c rest n1

theorem piece_byte (b : UInt8) : Piece (quotePlusByte b) [b] := by
  rcases quotePlusByte_cases b with ⟨rfl, e⟩ | ⟨c, hc, rfl, e⟩ | ⟨x, y, rfl, e⟩ <;> rw [e]
  · exact ⟨by decide, fun rest => unquote_cons_ne ' ' rest (by decide)⟩
  · obtain ⟨hp, h8⟩ := safe_char c hc
    exact h8 ▸ piece_plain hp
  · obtain ⟨sx, vx⟩ := hexDigitUpper_facts x
    obtain ⟨sy, vy⟩ := hexDigitUpper_facts y
    obtain ⟨_, px, ax, wx⟩ := plainChar_elim (safe_char _ sx).1
    obtain ⟨_, py, ay, wy⟩ := plainChar_elim (safe_char _ sy).1
    refine ⟨by simpa using ⟨by decide, ⟨ax, wx⟩, ay, wy⟩, fun rest => ?_⟩
    rw [spaceForPlus_noPlus _ (by simp [px.symm, py.symm])]
    exact unquote_pct _ _ rest _ _ vx vy

theorem piece_quotePlus (s : Str) : Piece (quotePlus s) (s.flatMap String.utf8EncodeChar) := by
  have := Piece.flatMap (l := s.flatMap String.utf8EncodeChar) fun b _ => piece_byte b
  rwa [List.flatMap_singleton'] at this

theorem piece_of_plain {s : Str} (h : s.all plainChar = true) : Piece s (s.flatMap String.utf8EncodeChar) := by
  have := Piece.flatMap (l := s) fun c hc => piece_plain (List.all_eq_true.1 h c hc)
  rwa [List.flatMap_singleton'] at this

theorem Piece.ne_nil {enc s : Str} (h : Piece enc (s.flatMap String.utf8EncodeChar)) (hs : s ≠ []) :
    enc ≠ [] := by
  rintro rfl
  -- the empty text stands for the empty string, and a piece decodes to one string only
  exact hs (Option.some.inj (h.decode.symm.trans (piece_of_plain (s := []) rfl).decode))

theorem quotePlus_append (a b : Str) : quotePlus (a ++ b) = quotePlus a ++ quotePlus b := by
  simp [quotePlus, List.flatMap_append]

theorem quotePlus_space : quotePlus [' '] = ['+'] := by decide +kernel

theorem quotePlus_intercalate (ks : List Str) :
    quotePlus (intercalateStr [' '] ks) = intercalateStr ['+'] (ks.map quotePlus) := by
  induction ks with
  | nil => rfl
  | cons k t ih =>
    cases t with
    | nil => rfl
    | cons q t' =>
      simp only [intercalateStr, List.map_cons, quotePlus_append, quotePlus_space] at ih ⊢
      rw [ih]

theorem splitOnAux_word (sep : Char) (p rest cur : Str) (h : sep ∉ p) :
    splitOnAux sep (p ++ rest) cur = splitOnAux sep rest (p.reverse ++ cur) := by
  induction p generalizing cur with
  | nil => rfl
  | cons c t ih =>
    have hc : c ≠ sep := fun e => h (by simp [e])
    simp only [List.cons_append, splitOnAux, hc, if_false]
    rw [ih _ (fun e => h (by simp [e]))]; simp

theorem splitOn_intercalate (sep : Char) (ps : List Str) (hne : ps ≠ [])
    (h : ∀ p ∈ ps, sep ∉ p) : splitOn sep (intercalateStr [sep] ps) = ps := by
  unfold splitOn
  induction ps with
  | nil => exact absurd rfl hne
  | cons p t ih =>
    cases t with
    | nil =>
      have := splitOnAux_word sep p [] [] (h p (by simp))
      simpa [intercalateStr, splitOnAux] using this
    | cons q t' =>
      simp only [intercalateStr, List.append_assoc, List.cons_append, List.nil_append]
      rw [splitOnAux_word sep p _ [] (h p (by simp))]
      simp only [splitOnAux, if_true, List.append_nil, List.reverse_reverse]
      rw [ih (by simp) (fun x hx => h x (by simp [hx]))]

theorem length_splitOn (sep : Char) (s : Str) : (splitOn sep s).length = s.count sep + 1 := by
  suffices ∀ cur, (splitOnAux sep s cur).length = s.count sep + 1 from this []
  induction s with
  | nil => exact fun _ => rfl
  | cons c cs ih =>
    intro cur
    by_cases h : c = sep <;> simp [splitOnAux, h, ih]

theorem splitFirst_kv (sep : Char) (k v : Str) (h : sep ∉ k) :
    splitFirst sep (k ++ sep :: v) = (k, some v) := by
  induction k with
  | nil => simp [splitFirst]
  | cons c t ih =>
    have hc : c ≠ sep := fun e => h (by simp [e])
    have ht : sep ∉ t := fun e => h (by simp [e])
    simp only [List.cons_append, splitFirst, hc, if_false, ih ht]

theorem mem_intercalate (sep : Str) (ps : List Str) (c : Char) (h : c ∈ intercalateStr sep ps) :
    c ∈ sep ∨ ∃ p ∈ ps, c ∈ p := by
  induction ps with
  | nil => simp [intercalateStr] at h
  | cons p t ih =>
    cases t with
    | nil => exact Or.inr ⟨p, by simp, by simpa [intercalateStr] using h⟩
    | cons q t' =>
      simp only [intercalateStr, List.mem_append] at h
      rcases h with (h | h) | h
      · exact Or.inr ⟨p, by simp, h⟩
      · exact Or.inl h
      · rcases ih h with h' | ⟨x, hx, hc⟩
        · exact Or.inl h'
        · exact Or.inr ⟨x, by simp [hx], hc⟩

theorem intercalate_ne_nil (sep : Str) (ks : List Str) (h : ∀ k ∈ ks, k ≠ []) (hne : ks ≠ []) :
    intercalateStr sep ks ≠ [] := by
  cases ks with
  | nil => exact absurd rfl hne
  | cons k t =>
    have hk := h k (by simp)
    cases t with
    | nil => simpa [intercalateStr] using hk
    | cons q t' => simp [intercalateStr, hk]

theorem intercalate_pieces_ne_nil (ps : List Str) (hne : ps ≠ []) (h : ∀ p ∈ ps, p ≠ []) :
    intercalateStr ['&'] ps ≠ [] := intercalate_ne_nil _ ps h hne

/-- an encoded parameter: key, encoded value, decoded value -/
structure EP where
  k : Str
  enc : Str
  dec : Str

/-- what `parse_qsl` needs to read `k=enc`, joined to others by `&`, back as `(k, dec)`: it splits at every
    `&` and at the first `=`, drops a parameter whose value is blank, and unquotes key and value -/
def EP.good (e : EP) : Prop :=
  '&' ∉ e.k ∧ '=' ∉ e.k ∧ '&' ∉ e.enc ∧ e.enc ≠ [] ∧ unquotePlus e.k = some e.k ∧
  unquotePlus e.enc = some e.dec

theorem EP.good.noAmp {e : EP} (h : e.good) : '&' ∉ kv e.k e.enc := by
  unfold kv
  simp only [List.mem_append, List.mem_cons, not_or]
  obtain ⟨keyAmp, _, encAmp, _⟩ := h
  exact ⟨keyAmp, by decide, encAmp⟩

/-- free of whitespace as well: `from_string` strips the link, and `urlparse` deletes tab, CR and LF from it -/
def EP.clean (e : EP) : Prop := e.good ∧ ∀ c ∈ e.k ++ e.enc, isPySpace c = false

/-- a key the renderer may write unquoted, as it does: every character stands for itself, none is `=` -/
def keyOk (k : Str) : Bool := k.all plainChar && !k.contains '='

theorem clean_of (k enc dec : Str) (hk : keyOk k = true) (hne : dec ≠ [])
    (hp : Piece enc (dec.flatMap String.utf8EncodeChar)) : (EP.mk k enc dec).clean := by
  simp only [keyOk, Bool.and_eq_true, Bool.not_eq_true', List.contains_eq_mem, decide_eq_false_iff_not] at hk
  have hpk := piece_of_plain hk.1
  exact ⟨⟨hpk.noAmp, hk.2, hp.noAmp, hp.ne_nil hne, hpk.decode, hp.decode⟩,
    fun c h => ((hpk.append hp).chars c h).2⟩

theorem clean_quoted (k s : Str) (hk : keyOk k = true) (hs : s ≠ []) : (EP.mk k (quotePlus s) s).clean :=
  clean_of k _ s hk hs (piece_quotePlus s)

theorem clean_plain (k v : Str) (hk : keyOk k = true) (hv : v ≠ []) (hc : v.all plainChar = true) :
    (EP.mk k v v).clean :=
  clean_of k v v hk hv (piece_of_plain hc)

theorem parseQsl_pieces (eps : List EP) (h : ∀ e ∈ eps, e.good) :
    parseQsl (intercalateStr ['&'] (eps.map fun e => kv e.k e.enc)) =
      some (eps.map fun e => (e.k, e.dec)) := by
  unfold parseQsl
  by_cases hne : eps = []
  · subst hne; rfl
  rw [splitOn_intercalate '&' _ (by simpa using hne)
    (List.forall_mem_map.2 fun e he => (h e he).noAmp)]
  clear hne
  induction eps with
  | nil => rfl
  | cons e t ih =>
    obtain ⟨_, keyEq, _, encNe, keyDec, encDec⟩ := h e (by simp)
    simp only [List.map_cons, List.foldr_cons]
    rw [ih (fun x hx => h x (by simp [hx]))]
    have hk : (e.k ++ '=' :: e.enc).isEmpty = false := by
      cases e.k <;> simp
    have he : e.enc.isEmpty = false := List.isEmpty_eq_false_iff.2 encNe
    simp only [kv, hk, splitFirst_kv '=' e.k e.enc keyEq, he, keyDec, encDec, Bool.false_eq_true, if_false]

theorem pySplitAux_word (k rest cur : Str) (h : ∀ c ∈ k, isPySpace c = false) :
    pySplitAux (k ++ rest) cur = pySplitAux rest (k.reverse ++ cur) := by
  induction k generalizing cur with
  | nil => rfl
  | cons c t ih =>
    simp only [List.cons_append, pySplitAux, h c (by simp), Bool.false_eq_true, if_false]
    rw [ih _ (fun x hx => h x (by simp [hx]))]
    simp

theorem pySplit_intercalate (ks : List Str)
    (h : ∀ k ∈ ks, k ≠ [] ∧ ∀ c ∈ k, isPySpace c = false) :
    pySplit (intercalateStr [' '] ks) = ks := by
  unfold pySplit
  induction ks with
  | nil => rfl
  | cons k t ih =>
    obtain ⟨hk1, hk2⟩ := h k (by simp)
    have hrev : k.reverse.isEmpty = false :=
      List.isEmpty_eq_false_iff.2 (mt List.reverse_eq_nil_iff.1 hk1)
    cases t with
    | nil =>
      have := pySplitAux_word k [] [] hk2
      simp only [List.append_nil] at this
      simp only [intercalateStr, this, pySplitAux, hrev, Bool.false_eq_true, if_false, List.reverse_reverse]
    | cons q t' =>
      simp only [intercalateStr, List.append_assoc, List.cons_append, List.nil_append]
      rw [pySplitAux_word k _ [] hk2]
      have hsp : isPySpace ' ' = true := by decide
      simp only [List.append_nil]
      simp only [pySplitAux, hsp, if_true, hrev, Bool.false_eq_true, if_false, List.reverse_reverse]
      rw [ih (fun x hx => h x (by simp [hx]))]

theorem decLen_spec (fuel n : Nat) (h : n ≤ fuel) : n < 10 ^ decLen fuel n := by
  induction fuel generalizing n with
  | zero => have : n = 0 := by omega
            subst this; simp [decLen]
  | succ f ih =>
    unfold decLen
    by_cases hn : n < 10
    · simp [hn]
    · simp only [hn, if_false, Nat.pow_succ]
      have := ih (n / 10) (by omega)
      omega

theorem decLen_pos (fuel n : Nat) : 0 < decLen fuel n := by
  cases fuel with
  | zero => simp [decLen]
  | succ f => unfold decLen; split <;> omega

theorem decimal_mem (n : Nat) (c : Char) (hc : c ∈ decimal n) :
    ∃ d, d < 10 ∧ c.toNat = 48 + d := by
  unfold decimal at hc
  obtain ⟨d, hd, rfl⟩ := List.mem_map.mp hc
  have := toDigits_lt 10 _ n (by decide) d hd
  exact ⟨d, this, toNat_ofNat_lt _ (by omega)⟩

theorem decimal_ne_nil (n : Nat) : decimal n ≠ [] := by
  intro h
  have := congrArg List.length h
  simp [decimal, toDigits_length] at this
  have := decLen_pos n n
  omega

theorem decimal_plain (n : Nat) : (decimal n).all plainChar = true := by
  rw [List.all_eq_true]
  intro c hc
  obtain ⟨d, hd, e⟩ := decimal_mem n c hc
  exact (safe_char c (alwaysSafe_alnum _ (Or.inl (by omega)))).1

theorem pyIntStr_decimal (oracle : Str → IntResult) (n : Nat) (h : decLen n n ≤ 4300) :
    pyIntStr oracle (decimal n) = some (Int.ofNat n) := by
  unfold pyIntStr
  have h1 : (decimal n).isEmpty = false := List.isEmpty_eq_false_iff.2 (decimal_ne_nil n)
  have h2 : (decimal n).all isDigit = true := by
    rw [List.all_eq_true]; intro c hc
    obtain ⟨d, hd, e⟩ := decimal_mem n c hc
    rw [isDigit, inR_iff, e]; omega
  have h3 : (decimal n).length ≤ 4300 := by simpa [decimal, toDigits_length] using h
  simp only [h1, h2, h3, Bool.not_false, Bool.and_self, decide_true, if_true]
  congr 2
  have : (decimal n).map (fun c => c.toNat - 48) = toDigits 10 (decLen n n) n := by
    unfold decimal
    rw [List.map_map]
    exact map_eq_self fun d hd =>
      (congrArg (· - 48) (toNat_ofNat_lt (48 + d) (by
        have := toDigits_lt 10 _ n (by decide) d hd; omega))).trans (by omega)
  rw [this]
  exact ofDigits_toDigits 10 _ n (decLen_spec n n (Nat.le_refl n))

theorem dropWhile_none (p : Char → Bool) (s : Str) (h : ∀ c ∈ s, p c = false) : s.dropWhile p = s := by
  cases s with
  | nil => rfl
  | cons c t => simp [List.dropWhile, h c (by simp)]

theorem pyStrip_id (s : Str) (h : ∀ c ∈ s, isPySpace c = false) : pyStrip s = s := by
  unfold pyStrip
  rw [dropWhile_none _ s h, dropWhile_none _ s.reverse (fun c hc => h c (by simpa using hc))]
  simp

theorem notSpace_notCtl (c : Char) (h : isPySpace c = false) :
    (!(c = '\t' || c = '\r' || c = '\n')) = true := by
  have ne : ∀ d : Char, isPySpace d = true → c ≠ d := fun d hd e => by rw [e, hd] at h; cases h
  simp [ne '\t' (by decide), ne '\r' (by decide), ne '\n' (by decide)]

theorem urlparse_rendered (q : Str) (h : ∀ c ∈ q, isPySpace c = false) :
    urlparseMagnet (pyStrip (magnetPrefix ++ q)) = some (['m', 'a', 'g', 'n', 'e', 't'], q) := by
  have hall : ∀ c ∈ magnetPrefix ++ q, isPySpace c = false := by
    intro c hc
    rcases List.mem_append.mp hc with hc | hc
    · have : ∀ x ∈ magnetPrefix, isPySpace x = false := by decide +kernel
      exact this c hc
    · exact h c hc
  rw [pyStrip_id _ hall]
  unfold urlparseMagnet
  have hf : (magnetPrefix ++ q).filter (fun c => !(c = '\t' || c = '\r' || c = '\n')) = magnetPrefix ++ q := by
    rw [List.filter_eq_self]
    intro c hc
    exact notSpace_notCtl c (hall c hc)
  have hd : (magnetPrefix ++ q).dropWhile (fun c => decide (c.toNat ≤ 32)) = magnetPrefix ++ q := by
    simp [magnetPrefix]
  simp only [hd, hf]
  simp [magnetPrefix, splitFirst, isLowerAZ, isUpperAZ, isSchemeChar, isDigit, inR, asciiLower]

theorem numFields_link (eps : List EP) (h : ∀ e ∈ eps, e.good) :
    numFields (intercalateStr ['&'] (eps.map fun e => kv e.k e.enc)) = eps.length := by
  by_cases hne : eps = []
  · subst hne; rfl
  have hne' : eps.map (fun e => kv e.k e.enc) ≠ [] := by simpa using hne
  have hq : (intercalateStr ['&'] (eps.map fun e => kv e.k e.enc)).isEmpty = false :=
    List.isEmpty_eq_false_iff.2
      (intercalate_pieces_ne_nil _ hne' (List.forall_mem_map.2 fun e _ => by simp [kv]))
  have := length_splitOn '&' (intercalateStr ['&'] (eps.map fun e => kv e.k e.enc))
  rw [splitOn_intercalate '&' _ hne' (List.forall_mem_map.2 fun e he => (h e he).noAmp), List.length_map] at this
  rw [numFields, hq, this, Nat.add_comm]
  rfl

theorem fromStringMax_none (isUrl : Str → Bool) (intO : Str → IntResult) (uri : Str) :
    fromStringMax none isUrl intO uri = fromString isUrl intO uri := by
  unfold fromStringMax fromString
  cases urlparseMagnet (pyStrip uri) with
  | none => rfl
  | some p => obtain ⟨scheme, query⟩ := p; simp

theorem fromStringMax_link (limit : Option Nat) (isUrl : Str → Bool) (intO : Str → IntResult)
    (eps : List EP) (h : ∀ e ∈ eps, e.clean) :
    fromStringMax limit isUrl intO (magnetPrefix ++ intercalateStr ['&'] (eps.map fun e => kv e.k e.enc)) =
      if limit.any (· < eps.length) then .err .magnet
      else match fromPairs isUrl intO (eps.map fun e => (e.k, e.dec)) with
        | .ok m => .ok m
        | .error e => .err e := by
  have hq : ∀ c ∈ intercalateStr ['&'] (eps.map fun e => kv e.k e.enc), isPySpace c = false := by
    intro c hc
    rcases mem_intercalate _ _ c hc with hc | ⟨p, hp, hc⟩
    · obtain rfl : c = '&' := by simpa using hc
      decide
    · obtain ⟨e, he, rfl⟩ := List.mem_map.mp hp
      have := (h e he).2
      simp only [kv, List.mem_append, List.mem_cons] at hc this
      rcases hc with hc | rfl | hc
      · exact this c (Or.inl hc)
      · decide
      · exact this c (Or.inr hc)
  unfold fromStringMax
  rw [urlparse_rendered _ hq]
  have hg := fun e he => (h e he).1
  simp only [ne_eq, not_true_eq_false, if_false, numFields_link eps hg, parseQsl_pieces eps hg]
  cases limit <;> rfl

/-- `WF` clause by clause (`WF_iff`), an optional field as what holds of its value if it has one -/
structure WellFormed (isUrl : Str → Bool) (m : MagnetObj) : Prop where
  hash : validHash m.infohash = true
  dn : ∀ d, m.dn = some d → d ≠ [] ∧ '\n' ∉ d
  xl : ∀ n, m.xl = some n → 1 ≤ n ∧ decLen n n ≤ 4300
  tr : ∀ u ∈ m.tr, urlOk isUrl u = true
  tr_nodup : m.tr.Nodup
  xs : ∀ u, m.xs = some u → urlOk isUrl u = true
  as_ : m.as_ = none
  ws : ∀ u ∈ m.ws, urlOk isUrl u = true
  ws_nodup : m.ws.Nodup
  kt : ∀ k ∈ m.kt, k ≠ [] ∧ ∀ c ∈ k, isPySpace c = false
  x : m.x = []

theorem WF_iff (isUrl : Str → Bool) (m : MagnetObj) : WF isUrl m = true ↔ WellFormed isUrl m := by
  simp only [WF, Bool.and_eq_true, and_assoc, List.all_eq_true, decide_eq_true_eq,
    Option.isNone_iff_eq_none, List.isEmpty_iff, keywordOk, Bool.not_eq_true', List.isEmpty_eq_false_iff]
  -- clause by clause onto the conjunction of the fields; only the three optional fields need a case distinction
  refine (and_congr Iff.rfl (and_congr ?dn (and_congr ?xl (and_congr Iff.rfl (and_congr Iff.rfl
    (and_congr ?xs Iff.rfl)))))).trans
    ⟨fun ⟨a, b, c, d, e, f, g, h, i, j, k⟩ => ⟨a, b, c, d, e, f, g, h, i, j, k⟩,
     fun w => ⟨w.hash, w.dn, w.xl, w.tr, w.tr_nodup, w.xs, w.as_, w.ws, w.ws_nodup, w.kt, w.x⟩⟩
  case dn => cases m.dn <;> simp
  case xl => cases m.xl <;> simp
  case xs => cases m.xs <;> simp

/-- Every field renders to a block of parameters under one key, one per item (an optional field is a
    list of at most one item); the link is the concatenation of the blocks. -/
def block (k : Str) (enc : Str → Str) (vals : List Str) : List EP := vals.map fun v => ⟨k, enc v, v⟩

/-- `xt` and `xl` are written as they are, every other value through `quote_plus` (the keywords as one
    value: `quote_plus` of the blank between them is the `+` the renderer joins them with) -/
def epsOf (m : MagnetObj) : List EP :=
  block kXt id [urnPrefix ++ m.infohash]
  ++ block kDn quotePlus m.dn.toList
  ++ block kXl id (m.xl.map decimal).toList
  ++ block kXs quotePlus m.xs.toList
  ++ block kKt quotePlus (if m.kt.isEmpty then [] else [intercalateStr [' '] m.kt])
  ++ block kTr quotePlus m.tr
  ++ block kWs quotePlus m.ws

def pairsOf (m : MagnetObj) : List (Str × Str) := (epsOf m).map (fun e => (e.k, e.dec))

theorem optPiece_eq {α : Type} (k : Str) (enc : α → Str) (o : Option α) :
    optPiece k enc o = (o.map enc).toList.map (kv k) := by
  cases o <;> rfl

theorem map_block {β : Type} (f : EP → β) (k : Str) (enc : Str → Str) (l : List Str) :
    (block k enc l).map f = l.map fun v => f ⟨k, enc v, v⟩ := by
  simp [block, List.map_map, Function.comp_def]

theorem map_ite_nil {α β : Type} (c : Prop) [Decidable c] (f : α → β) (a : α) :
    (if c then [] else [a]).map f = if c then [] else [f a] := by
  split <;> rfl

theorem pieces_eq {isUrl : Str → Bool} {m : MagnetObj} (w : WellFormed isUrl m) :
    pieces m = (epsOf m).map (fun e => kv e.k e.enc) := by
  unfold pieces epsOf
  rw [w.as_, w.x]
  simp only [List.map_append, map_block, optPiece_eq, Option.toList_map, List.map_map, map_ite_nil,
    Function.comp_def, id, quotePlus_intercalate]
  simp

theorem valuesOf_append (k : Str) (a b : List (Str × Str)) :
    valuesOf k (a ++ b) = valuesOf k a ++ valuesOf k b := by
  simp [valuesOf, List.filterMap_append]

theorem valuesOf_block (key k : Str) (enc : Str → Str) (l : List Str) :
    valuesOf key ((block k enc l).map fun e => (e.k, e.dec)) = if k = key then l else [] := by
  by_cases h : k = key <;> simp [valuesOf, block, List.filterMap_map, Function.comp_def, h]

/-- `fromPairs` reads the pairs only through these eight lists and the known-key test (`epsOf_known`) -/
theorem valuesOf_pairsOf (m : MagnetObj) :
    valuesOf kXt (pairsOf m) = [urnPrefix ++ m.infohash] ∧
    valuesOf kDn (pairsOf m) = m.dn.toList ∧
    valuesOf kXl (pairsOf m) = (m.xl.map decimal).toList ∧
    valuesOf kXs (pairsOf m) = m.xs.toList ∧
    valuesOf kAs (pairsOf m) = [] ∧
    valuesOf kKt (pairsOf m) = (if m.kt.isEmpty then [] else [intercalateStr [' '] m.kt]) ∧
    valuesOf kTr (pairsOf m) = m.tr ∧
    valuesOf kWs (pairsOf m) = m.ws := by
  unfold pairsOf epsOf
  simp +decide only [List.map_append, valuesOf_append, valuesOf_block, if_true, if_false, List.append_nil,
    List.nil_append, and_self]

theorem hash_plain (ih : Str) (h : validHash ih = true) : (urnPrefix ++ ih).all plainChar = true := by
  rw [List.all_append, Bool.and_eq_true]
  refine ⟨by decide, List.all_eq_true.2 fun c hc => (safe_char c (hashChar_safe c ?_)).1⟩
  rcases (validHash_iff ih).1 h with ⟨_, h⟩ | ⟨_, h⟩
  · exact Or.inl (h c hc)
  · exact Or.inr (h c hc)

theorem epsOf_clean {isUrl : Str → Bool} {m : MagnetObj} (w : WellFormed isUrl m) :
    ∀ e ∈ epsOf m, e.clean := by
  have url : ∀ u, urlOk isUrl u = true → u ≠ [] := by
    intro u hu e; subst e; simp [urlOk] at hu
  simp only [epsOf, block, List.forall_mem_append, List.forall_mem_map, and_assoc]
  refine ⟨?_, ?_, ?_, ?_, ?_, ?_, ?_⟩
  · intro a ha
    obtain rfl := List.mem_singleton.1 ha
    exact clean_plain _ _ (by decide) (List.append_ne_nil_of_left_ne_nil (by decide) _) (hash_plain _ w.hash)
  · intro d hd
    exact clean_quoted _ _ (by decide) (w.dn d (Option.mem_toList.1 hd)).1
  · intro s hs
    obtain ⟨n, _, rfl⟩ : ∃ n, m.xl = some n ∧ decimal n = s := by simpa using hs
    exact clean_plain _ _ (by decide) (decimal_ne_nil n) (decimal_plain n)
  · intro u hu
    exact clean_quoted _ _ (by decide) (url u (w.xs u (Option.mem_toList.1 hu)))
  · intro v hv
    split at hv
    · cases hv
    · rename_i hne
      obtain rfl := List.mem_singleton.1 hv
      exact clean_quoted _ _ (by decide)
        (intercalate_ne_nil _ _ (fun k hk => (w.kt k hk).1) (mt List.isEmpty_iff.2 hne))
  · intro u hu
    exact clean_quoted _ _ (by decide) (url u (w.tr u hu))
  · intro u hu
    exact clean_quoted _ _ (by decide) (url u (w.ws u hu))

theorem epsOf_known (m : MagnetObj) : ∀ e ∈ epsOf m, isKnownKey e.k = true := by
  simp only [epsOf, block, List.forall_mem_append, List.forall_mem_map, and_assoc]
  exact ⟨fun _ _ => rfl, fun _ _ => rfl, fun _ _ => rfl, fun _ _ => rfl, fun _ _ => rfl, fun _ _ => rfl,
    fun _ _ => rfl⟩

theorem epsOf_length (m : MagnetObj) : (epsOf m).length = fieldCount m := by
  have kt : (if m.kt.isEmpty then [] else [intercalateStr [' '] m.kt]).length = if m.kt.isEmpty then 0 else 1 := by
    split <;> rfl
  simp only [epsOf, fieldCount, block, List.length_append, List.length_map, Option.length_toList,
    Option.isSome_map, kt, List.length_cons, List.length_nil]

theorem construct_urn (ih : Str) (h : validHash ih = true) :
    construct (urnPrefix ++ ih) = (none, some ih) := by
  rw [construct, setXt_urn, if_pos h]

theorem liftSet_ok {σ : Type} {r : Option MErr × σ} {a : σ} (h : liftSet r = .ok a) : r = (none, a) := by
  obtain ⟨e, s⟩ := r
  cases e with
  | none => cases h; rfl
  | some e => cases h

theorem magnetOfTorrent_tr {isUrl : Str → Bool} {t : TorrentView} {m : MagnetObj}
    (h : magnetOfTorrent isUrl t = .ok m) : m.tr = keepFirst (t.trackers.map plusForSpace) := by
  unfold magnetOfTorrent at h
  obtain ⟨a1, -, h⟩ := bind_ok h
  cases a1 with
  | none => cases h
  | some ih =>
    obtain ⟨_, -, h⟩ := bind_ok h
    obtain ⟨_, -, h⟩ := bind_ok h
    obtain ⟨tr, htr, h⟩ := bind_ok h
    obtain ⟨_, -, h⟩ := bind_ok h
    cases h
    have := liftSet_ok htr
    rw [setUrls_eq] at this
    split at this
    · exact (Prod.ext_iff.1 this).2.symm
    · cases this

theorem torrentOfMagnet_ok {m : MagnetObj} {v : TorrentView} (h : torrentOfMagnet m = .ok v) :
    v.name = m.dn ∧ v.size = m.xl ∧ v.trackers = m.tr ∧ v.webseeds = m.ws := by
  simp only [torrentOfMagnet, bind, Except.bind] at h
  split at h
  · cases h
  · cases h; exact ⟨rfl, rfl, rfl, rfl⟩

theorem normDn_id (d : Str) (h : '\n' ∉ d) : normDn d = d :=
  replaceChar_of_not_mem h

theorem urlOk_elim (isUrl : Str → Bool) (u : Str) (h : urlOk isUrl u = true) :
    isUrl u = true ∧ ' ' ∉ u := by
  simp only [urlOk, Bool.and_eq_true, Bool.not_eq_true', List.contains_eq_mem, decide_eq_false_iff_not] at h
  exact ⟨h.1.1, h.2⟩

theorem urlOk_intro (isUrl : Str → Bool) (hne : isUrl [] = false) (u : Str) (h : isUrl u = true ∧ ' ' ∉ u) :
    urlOk isUrl u = true := by
  have : u ≠ [] := by intro e; rw [e, hne] at h; cases h.1
  simp [urlOk, h.1, this, h.2]

theorem urlOk_coerced (isUrl : Str → Bool) (hne : isUrl [] = false) (v : Str)
    (h : urlAccepts isUrl v = true) : urlOk isUrl (plusForSpace v) = true :=
  urlOk_intro isUrl hne _ (coerced_valid h)

/-- `keepFirst (us.map plusForSpace)` is what the magnet's setters (`setUrls_eq`) and the torrent's getters
    (`flatTrackersSpec`, `webseedsSpec`) alike keep of acceptable URLs -/
theorem coerced_urlOk (isUrl : Str → Bool) (hne : isUrl [] = false) (us : List Str)
    (h : us.all (urlAccepts isUrl) = true) :
    (keepFirst (us.map plusForSpace)).all (urlOk isUrl) = true ∧ (keepFirst (us.map plusForSpace)).Nodup :=
  ⟨List.all_eq_true.2 fun u hu => urlOk_intro isUrl hne u (stored_valid h u hu), keepFirst_nodup _⟩

theorem urlOk_accepts (isUrl : Str → Bool) (u : Str) (h : urlOk isUrl u = true) :
    urlAccepts isUrl u = true ∧ plusForSpace u = u := by
  obtain ⟨h1, h2⟩ := urlOk_elim isUrl u h
  have := plusForSpace_noSpace u h2
  simp [urlAccepts, this, h1]

theorem setUrls_ok (isUrl : Str → Bool) (us : List Str) (h : us.all (urlOk isUrl) = true)
    (hn : us.Nodup) : setUrls isUrl [] us = (none, us) := by
  rw [List.all_eq_true] at h
  rw [setUrls_eq, if_pos (List.all_eq_true.2 fun u hu => (urlOk_accepts isUrl u (h u hu)).1),
    map_eq_self fun u hu => (urlOk_accepts isUrl u (h u hu)).2, keepFirst_of_nodup us hn]

theorem setUrl_ok (isUrl : Str → Bool) (o : Option Str) (h : ∀ u, o = some u → urlOk isUrl u = true) :
    setUrl isUrl none o = (none, o) := by
  cases o with
  | none => rfl
  | some u =>
    obtain ⟨h1, h2⟩ := urlOk_accepts isUrl u (h u rfl)
    rw [setUrl_eq, if_pos h1, h2]

theorem setUrl_none (isUrl : Str → Bool) : setUrl isUrl none none = (none, none) := rfl

theorem single_toList (o : Option Str) : single o.toList = .ok o := by
  cases o <;> rfl

theorem setXl_ofNat (n : Nat) (h : 1 ≤ n) :
    setXl none (some (some (Int.ofNat n))) = (none, some (Int.ofNat n)) := by
  have : ¬ ((n : Int) < 1) := by omega
  simp [setXl, this]

theorem single_ite (c : Prop) [Decidable c] (v : Str) :
    single (if c then [] else [v]) = .ok (if c then none else some v) := by
  split <;> rfl

theorem fromPairs_pairsOf {isUrl : Str → Bool} (intO : Str → IntResult) {m : MagnetObj}
    (w : WellFormed isUrl m) : fromPairs isUrl intO (pairsOf m) = .ok m := by
  have hknown : ((pairsOf m).all fun p => isKnownKey p.1) = true :=
    List.all_eq_true.2 (List.forall_mem_map.2 (epsOf_known m))
  obtain ⟨vXt, vDn, vXl, vXs, vAs, vKt, vTr, vWs⟩ := valuesOf_pairsOf m
  have c1 := construct_urn m.infohash w.hash
  have c2 := setUrls_ok isUrl m.tr (List.all_eq_true.2 w.tr) w.tr_nodup
  have c3 := setUrls_ok isUrl m.ws (List.all_eq_true.2 w.ws) w.ws_nodup
  have c4 := setUrl_ok isUrl m.xs w.xs
  have hd : m.dn.map normDn = m.dn := by
    cases hd' : m.dn with
    | none => rfl
    | some d => rw [Option.map_some, normDn_id d (w.dn d hd').2]
  have hsp := pySplit_intercalate m.kt w.kt
  have hxl : ∀ n, m.xl = some n → setXl none (some (pyIntStr intO (decimal n))) = (none, some (Int.ofNat n)) :=
    fun n hn => by rw [pyIntStr_decimal intO n (w.xl n hn).2, setXl_ofNat n (w.xl n hn).1]
  obtain ⟨ih, dn, xl, tr, xs, as_, ws, kt, x⟩ := m
  obtain rfl : as_ = none := w.as_
  obtain rfl : x = [] := w.x
  unfold fromPairs
  simp only [hknown, vXt, vDn, vXl, vXs, vAs, vKt, vTr, vWs, single_toList, single_ite, c1, c2, c3, c4, liftSet, hd,
    bind, Except.bind, pure, Except.pure, Bool.not_true, Bool.false_eq_true, if_false,
    show single [] = .ok none from rfl, setUrl_none]
  -- every field is settled by its own lemma above; only the parser's two `match`es (on the parsed `xl`,
  -- on the `kt` value) still need the shape of a field
  cases xl with
  | none =>
    cases kt with
    | nil => rfl
    | cons k t => simp only [Option.map_none, List.isEmpty_cons, Bool.false_eq_true, if_false, hsp]
  | some n =>
    cases kt with
    | nil => simp only [Option.map_some, hxl n rfl, List.isEmpty_nil, if_true]; rfl
    | cons k t =>
      simp only [Option.map_some, hxl n rfl, List.isEmpty_cons, Bool.false_eq_true, if_false, hsp]
      rfl

theorem fromStringMax_render (limit : Option Nat) (isUrl : Str → Bool) (intO : Str → IntResult)
    (m : MagnetObj) (h : WF isUrl m = true) :
    fromStringMax limit isUrl intO (render m) =
      if limit.any (· < fieldCount m) then .err .magnet else .ok m := by
  have w := (WF_iff isUrl m).1 h
  rw [render, pieces_eq w, fromStringMax_link limit isUrl intO _ (epsOf_clean w), epsOf_length,
    show (epsOf m).map (fun e => (e.k, e.dec)) = pairsOf m from rfl, fromPairs_pairsOf intO w]

end Torf.Magnet
