/-
  Facts about core's `Except` and `List` that the models of several properties need and core does not state.
-/
namespace Torf

/-- core has none; low priority, so that an instance a model declares for its own result type is still the one found -/
instance (priority := low) instDecEqExcept {ε α : Type} [DecidableEq ε] [DecidableEq α] : DecidableEq (Except ε α)
  | .ok a, .ok b => if h : a = b then isTrue (by rw [h]) else isFalse (by intro h'; cases h'; exact h rfl)
  | .error a, .error b => if h : a = b then isTrue (by rw [h]) else isFalse (by intro h'; cases h'; exact h rfl)
  | .ok _, .error _ => isFalse (by intro h; cases h)
  | .error _, .ok _ => isFalse (by intro h; cases h)

theorem ok_bind {ε α β : Type} (a : α) (f : α → Except ε β) : (Except.ok a >>= f) = f a := rfl

theorem error_bind {ε α β : Type} (e : ε) (f : α → Except ε β) : (Except.error e >>= f) = .error e := rfl

theorem bind_ok {ε α β : Type} {x : Except ε α} {f : α → Except ε β} {b : β}
    (h : x >>= f = .ok b) : ∃ a, x = .ok a ∧ f a = .ok b := by
  cases x with
  | error e => cases h
  | ok a => exact ⟨a, rfl, h⟩

theorem bind_err {ε α β : Type} {x : Except ε α} {f : α → Except ε β} {e : ε}
    (h : x >>= f = .error e) : x = .error e ∨ ∃ a, x = .ok a ∧ f a = .error e := by
  cases x with
  | error e' => cases h; exact .inl rfl
  | ok a => exact .inr ⟨a, rfl, h⟩

theorem ite_ok_iff {ε α : Type} {c : Prop} [Decidable c] {e : ε} {v r : α} :
    (if c then Except.ok v else Except.error e) = .ok r ↔ c ∧ r = v := by
  by_cases h : c <;> simp [h, eq_comm]

/-- `pure` is `some` in `Option`, `.ok` in `Except`: a hypothesis written with the constructor is accepted for `h` -/
theorem mapM_eq_pure {m : Type → Type} [Monad m] [LawfulMonad m] {α β : Type} {f : α → m β} {g : α → β}
    {l : List α} (h : ∀ a ∈ l, f a = pure (g a)) : l.mapM f = pure (l.map g) := by
  induction l with
  | nil => rfl
  | cons a t ih =>
    rw [List.mapM_cons, h a (by simp), ih fun x hx => h x (by simp [hx]), pure_bind, pure_bind]
    rfl

theorem mem_map_inj {α β : Type} {f : α → β} (hf : Function.Injective f) {l : List α} {a : α} :
    f a ∈ l.map f ↔ a ∈ l :=
  ⟨fun h => by obtain ⟨x, hx, e⟩ := List.mem_map.mp h; exact hf e ▸ hx, List.mem_map_of_mem⟩

theorem nodup_map_inj {α β : Type} {f : α → β} (hf : Function.Injective f) {l : List α} (h : l.Nodup) :
    (l.map f).Nodup :=
  List.Pairwise.map f (fun _ _ hab e => hab (hf e)) h

/-! A slice assignment `l[a:b] = vs` on a Python list is `l.take a ++ vs ++ l.drop b`; `list.insert` and `del l[a:b]` are
    its cases `b = a`, `vs = [v]` and `vs = []`. -/

theorem mem_take_append_drop {α : Type _} {l vs : List α} {a b : Nat} {y : α}
    (h : y ∈ l.take a ++ vs ++ l.drop b) : y ∈ l ∨ y ∈ vs := by
  rcases List.mem_append.1 h with h | h
  · exact (List.mem_append.1 h).imp_left List.mem_of_mem_take
  · exact .inl (List.mem_of_mem_drop h)

theorem take_append_drop_sublist {α : Type _} (l : List α) {a b : Nat} (h : a ≤ b) :
    (l.take a ++ l.drop b).Sublist l := by
  have := List.Sublist.append (List.Sublist.refl (l.take a)) (List.drop_sublist_drop_left l h)
  rwa [List.take_append_drop] at this

theorem take_cons_drop_perm {α : Type _} (l : List α) (k : Nat) (v : α) : (l.take k ++ v :: l.drop k).Perm (v :: l) := by
  have := List.perm_middle (a := v) (l₁ := l.take k) (l₂ := l.drop k)
  rwa [List.take_append_drop] at this

end Torf
