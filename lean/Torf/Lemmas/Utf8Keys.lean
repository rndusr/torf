/-
  Values whose dict keys are UTF-8 at every level (`utf8Keys`): on the canonical ones
  `encode_value ∘ decode_value` is the identity; everything `encode_dict` produces is one, and so
  is its key-sorted normal form (what a parser reads back from the dump).
-/
import Torf.Lemmas.CodecRep
import Torf.Spec.RoundTrip
namespace Torf.ReadStream
open Torf Torf.Bencode Torf.Codec

theorem utf8KeysList_iff {l : List BVal} :
    utf8KeysList l = true ↔ ∀ v ∈ l, utf8Keys v = true :=
  all_iff rfl fun _ _ => rfl

theorem utf8KeysKvs_iff {l : List (Bytes × BVal)} :
    utf8KeysKvs l = true ↔ ∀ p ∈ l, (utf8Dec p.1).isSome = true ∧ utf8Keys p.2 = true :=
  (all_iff (g := fun p : Bytes × BVal => (utf8Dec p.1).isSome && utf8Keys p.2) rfl
    fun _ _ => rfl).trans (by simp only [Bool.and_eq_true])

theorem bytes_roundtrip (b : Bytes) : encodeValue (decodeBytes b) = .ok (.bytes b) := by
  unfold decodeBytes
  split
  · rename_i s hs
    simp only [encodeValue, Except.ok.injEq, BVal.bytes.injEq]
    exact utf8Enc_of_dec hs
  · rfl

mutual
theorem enc_dec : ∀ v : BVal, canon v = true → utf8Keys v = true →
    encodeValue (decodeValue v) = .ok v
  | .int _, _, _ => rfl
  | .bytes b, _, _ => bytes_roundtrip b
  | .list l, hc, hu => by
    simp only [decodeValue, encodeValue,
      enc_decList l (by simpa [canon] using hc) (by simpa [utf8Keys] using hu)]
  | .dict kvs, hc, hu => by
    simp only [canon, Bool.and_eq_true] at hc
    simp only [decodeValue]
    exact encodeValue_dict_of_rep (enc_decKvs kvs hc.2 (by simpa [utf8Keys] using hu))
      (List.Perm.refl _) hc.1
theorem enc_decList : ∀ l : List BVal, canonList l = true → utf8KeysList l = true →
    encodeList (decodeList l) = .ok l
  | [], _, _ => rfl
  | v :: t, hc, hu => by
    simp only [canonList, utf8KeysList, Bool.and_eq_true] at hc hu
    simp only [decodeList, encodeList, enc_dec v hc.1 hu.1, enc_decList t hc.2 hu.2]
theorem enc_decKvs : ∀ kvs : List (Bytes × BVal), canonKvs kvs = true → utf8KeysKvs kvs = true →
    Rep (decodeKvs kvs) kvs
  | [], _, _ => Rep.nil
  | (k, v) :: t, hc, hu => by
    simp only [canonKvs, utf8KeysKvs, Bool.and_eq_true] at hc hu
    obtain ⟨s, hs⟩ := Option.isSome_iff_exists.mp hu.1.1
    have hk := utf8Enc_of_dec hs
    simp only [decodeKvs, decodeBytes_of_dec hs]
    subst hk
    exact Rep.cons (enc_dec v hc.1 hu.1.2) (enc_decKvs t hc.2 hu.2)
end

theorem utf8Keys_encodeValue : ∀ (m : PyVal) (u : BVal), encodeValue m = .ok u →
    utf8Keys u = true :=
  encode_induct (fun _ _ => rfl) (fun _ _ => rfl)
    (fun _ _ _ _ _ ih => utf8KeysList_iff.mpr fun v' hv' => (ih v' hv').elim fun _ h => h.2.2)
    (fun _ es _ ih => utf8KeysKvs_iff.mpr fun p hp => by
      obtain ⟨q, hq, rfl⟩ := List.mem_map.mp hp
      -- the keys are UTF-8 encodings of `str` keys
      exact ⟨by simp [encKey, utf8Dec_enc],
        (ih q ((isort_perm strLe es).subset hq)).elim fun _ h => h.2.2.2⟩)

theorem utf8Keys_encodeList : ∀ (l : List PyVal) (l' : List BVal), encodeList l = .ok l' →
    utf8KeysList l' = true := fun _ _ h =>
  utf8KeysList_iff.mpr fun v' hv' =>
    (encodeList_mem h v' hv').elim fun v hv => utf8Keys_encodeValue v v' hv.2

theorem utf8Keys_encodeKvs : ∀ (kvs : List (PyVal × PyVal)) (es : List (String × BVal)),
    encodeKvs kvs = .ok es → ∀ p ∈ es, utf8Keys p.2 = true := fun _ _ h p hp =>
  ((encodeKvs_keys h).mem p hp).elim fun q hq => utf8Keys_encodeValue q.2 p.2 hq.2.2

theorem utf8Keys_norm : ∀ v : BVal, utf8Keys v = true → utf8Keys (norm v) = true :=
  norm_keeps (K := fun k => (utf8Dec k).isSome = true) (fun _ => utf8KeysList_iff)
    fun _ => utf8KeysKvs_iff

theorem utf8KeysList_norm : ∀ l : List BVal, utf8KeysList l = true →
    utf8KeysList (normList l) = true := fun l => utf8Keys_norm (.list l)

theorem utf8KeysKvs_norm : ∀ kvs : List (Bytes × BVal), utf8KeysKvs kvs = true →
    utf8KeysKvs (normKvs kvs) = true := fun kvs h => by
  rw [utf8KeysKvs_iff, normKvs_eq_map]
  exact List.forall_mem_map.mpr fun p hp => (utf8KeysKvs_iff.mp h p hp).imp_right (utf8Keys_norm p.2)

end Torf.ReadStream
