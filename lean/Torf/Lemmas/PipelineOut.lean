/-
  Torf.Lemmas.PipelineOut — the outcome of a fault-free run with a passive callback (clauses
  (v), (vii) of the invariant sketched in DESIGN.md, Appendix A): when main takes the sentinel
  from the hash queue every piece has been collected; main only carries the exception of a
  raising piece; a returned result stores the digests of exactly the data pieces.
-/
import Torf.Lemmas.PipelineInv
namespace Torf.Pipeline

/-- main has left `Collector.collect`'s loop -/
def joined : MPc → Bool
  | .joinReaderChk _ | .joinReader _ | .joinHasherChk .. | .joinHasher ..
  | .joinJanitorChk _ | .joinJanitor _ | .finished _ => true
  | _ => false

@[simp] theorem joined_joinTarget (s : State) (idx : Nat) (e : Option Exc) :
    joined (joinTarget s idx e) = true := by unfold joinTarget; split <;> rfl

theorem hk_of_not_running {p : HPc} (h : p.running = false) : hk p = none := by
  cases p <;> simp_all [HPc.running, hk]

/-- main receives the sentinel: everything has been collected -/
theorem closed_complete {cfg : Cfg} {s : State} {rest : List (Option Nat)} (h : Inv cfg s)
    (hq : s.hq = none :: rest) (hstop : s.stop = false) (hrexc : s.rexc = false) :
    s.seen.Perm (List.range cfg.items.length) := by
  -- the sentinel is in the hash queue ⇒ the janitor is done ⇒ the event is set and no hasher runs
  -- ⇒ the reader is done: nothing is left outside `seen`, and `InvA.full` counts it
  have hjd := h.b3.done_of_closed (by simp [hq])
  have hfin := h.b3.jc1 (Or.inr hjd)
  have hdead := h.b3.jc2 (Or.inr hjd)
  have hrpc := h.b2.done_of_fin hfin
  have hrest : rest = [] := q_closed hq h.b3.h3
  have hpq : s.pq.filterMap id = [] := by
    rw [List.filterMap_eq_nil_iff]
    intro x hx
    rw [h.b2.r2 hfin x hx]; rfl
  have hheld : s.hs.filterMap hk = [] := by
    rw [List.filterMap_eq_nil_iff]
    intro p hp
    obtain ⟨i, hi⟩ := List.mem_iff_getElem?.1 hp
    exact hk_of_not_running (hdead i p hi)
  have hin : inFlight s = s.seen := by
    rw [inFlight_def, hq, hrest, hpq, hheld]; simp
  have hlen := h.a.full (Or.inr hrpc) hstop hrexc
  have hp := h.a.perm
  rw [hlen, hin] at hp
  exact hp

structure InvC (cfg : Cfg) (s : State) : Prop where
  rexc : s.rexc = false
  pre : joined s.main = false →
    s.stop = false ∧ ∀ k ∈ s.seen, isRaising cfg (cfg.items.getD k .nodata) = false
  ok : joined s.main = true → mainExc s.main = none →
    s.seen.Perm (List.range cfg.items.length) ∧
      ∀ k ∈ s.seen, isRaising cfg (cfg.items.getD k .nodata) = false
  ret : ∀ c, s.main = .finished (.returned c) → c = s.collected
  exc : ∀ x, mainExc s.main = some x →
    ∃ k, x = .item k ∧ k < cfg.items.length ∧ isRaising cfg (cfg.items.getD k .nodata) = true

theorem InvC.init (cfg : Cfg) : InvC cfg (init cfg) := by
  constructor <;> simp [Pipeline.init, joined, mainExc]

/-- What the invariant reads of main's program counter: whether it has left the collect loop, the
    exception it carries, and a returned list. -/
theorem InvC.congr {cfg : Cfg} {s s' : State} (h : InvC cfg s) (hx : s'.rexc = s.rexc)
    (hst : s'.stop = s.stop) (hsn : s'.seen = s.seen) (hj : joined s'.main = joined s.main)
    (he : mainExc s'.main = mainExc s.main)
    (hret : ∀ c, s'.main = .finished (.returned c) → c = s'.collected) : InvC cfg s' where
  rexc := hx ▸ h.rexc
  pre := by rw [hj, hst, hsn]; exact h.pre
  ok := by rw [hj, he, hsn]; exact h.ok
  ret := hret
  exc := by rw [he]; exact h.exc

theorem InvC.frame {cfg : Cfg} {s s' : State} (h : InvC cfg s) (hx : s'.rexc = s.rexc)
    (hst : s'.stop = s.stop) (hsn : s'.seen = s.seen) (hc : s'.collected = s.collected)
    (hm : s'.main = s.main) : InvC cfg s' :=
  h.congr hx hst hsn (by rw [hm]) (by rw [hm]) (hm ▸ hc ▸ h.ret)

theorem InvC.worker {cfg : Cfg} {s s' : State} (h : InvC cfg s) (f : WorkerFrame s s') :
    InvC cfg s' :=
  h.frame f.rexc f.stop f.seen f.collected f.main

theorem InvC.main {cfg : Cfg} {s s' : State} (hcb : ∀ k d, cfg.cb k d = .pass) (h : Inv cfg s)
    (hc : InvC cfg s) (hs : MainStep cfg s s') : InvC cfg s' := by
  have hret := hs.ret
  cases hs with
  | collectClosed rest hm hq =>
    have hp := hc.pre (by rw [hm]; rfl)
    exact ⟨hc.rexc, nofun, fun _ _ => ⟨closed_complete (s := s) h hq hp.1 hc.rexc, hp.2⟩, hret, nofun⟩
  | collectRaise k rest hm hq hk hr =>
    have hlt : k < cfg.items.length := h.a.lt (by rw [inFlight_def, hq]; simp)
    refine ⟨hc.rexc, nofun, fun _ => nofun, hret, fun x hx => ?_⟩
    cases hx
    exact ⟨k, rfl, hlt, hr⟩
  | collectPass k rest hm hq hk hr hcb' =>
    have hj : joined s.main = false := by rw [hm]; rfl
    have hp := hc.pre hj
    refine ⟨hc.rexc, fun _ => ⟨hp.1, fun k' hk' => ?_⟩, by simp [hj], hret,
      by simp [hm, mainExc]⟩
    rcases List.mem_append.1 hk' with hk' | hk'
    · exact hp.2 k' hk'
    · rw [List.mem_singleton.1 hk']; exact hr
  | collectCancel k rest hm hq hk hr hcb' => rw [hcb] at hcb'; cases hcb'
  | collectCbRaise k rest hm hq hk hr hcb' => rw [hcb] at hcb'; cases hcb'
  | joinJanitorSkip e hm hr | joinJanitorDone e hm hr =>
    exact hc.congr rfl rfl rfl (by rw [hm]; rfl) (by rw [hm]; exact mainExc_finished s e) hret
  | joinReaderSkip e hm hr | joinReaderDone e hm hr =>
    exact hc.congr rfl rfl rfl (by rw [hm, joined_joinTarget]; rfl)
      (by rw [hm, mainExc_joinTarget, hc.rexc]; rfl) hret
  | joinHasherSkip hh idx e hm hr | joinHasherDone hh idx e hm hr =>
    exact hc.congr rfl rfl rfl (by rw [hm, joined_joinTarget]; rfl)
      (by rw [hm, mainExc_joinTarget]; rfl) hret
  | _ =>
    have hm := ‹s.main = _›
    exact hc.congr rfl rfl rfl (by rw [hm] <;> rfl) (by rw [hm] <;> rfl) hret

theorem InvC.reader {cfg : Cfg} {s s' : State} (hnf : cfg.readFault = none) (hc : InvC cfg s)
    (hs : ReaderStep cfg s s') : InvC cfg s' := by
  have next : ∀ t k t', InvC cfg t → ReaderNext cfg t k t' → InvC cfg t' := fun t k t' ht hn => by
    cases hn with
    | fault h1 => rw [hnf] at h1; cases h1
    | _ => exact ht.frame rfl rfl rfl rfl rfl
  cases hs with
  | begin hr t hn => exact next _ _ _ hc hn
  | put k hr hc' t hn => exact next { s with pq := s.pq ++ [some k] } _ _ (hc.frame rfl rfl rfl rfl rfl) hn
  | close hr hc' => exact hc.frame rfl rfl rfl rfl rfl

theorem InvC.hasher {cfg : Cfg} {s s' : State} {i : Nat} (hc : InvC cfg s)
    (hs : HasherStep cfg s i s') : InvC cfg s' :=
  hc.worker hs.frame

theorem InvC.janitor {cfg : Cfg} {s s' : State} (hc : InvC cfg s)
    (hs : JanitorStep s s') : InvC cfg s' :=
  hc.worker hs.frame

theorem InvC.step {cfg : Cfg} {s s' : State} (hnf : cfg.readFault = none)
    (hcb : ∀ k d, cfg.cb k d = .pass) (h : Inv cfg s) (hc : InvC cfg s) (hs : Step cfg s s') :
    InvC cfg s' := by
  cases hs with
  | main h' => exact hc.main hcb h h'
  | reader h' => exact hc.reader hnf h'
  | hasher i h' => exact hc.hasher h'
  | janitor h' => exact hc.janitor h'

theorem InvC.of_reachable {cfg : Cfg} {s : State} (hnf : noFaults cfg = true)
    (hcb : ∀ k d, cfg.cb k d = .pass) (h : Reachable cfg s) : Inv cfg s ∧ InvC cfg s := by
  simp only [noFaults, Bool.and_eq_true, Option.isNone_iff_eq_none, List.isEmpty_iff] at hnf
  exact ⟨.of_reachable hnf.2 h,
    h.inductionS hnf.2 (InvC.init cfg) fun _ _ hI hp hs => hp.step hnf.1 hcb hI hs⟩

theorem hashedItems_eq (cfg : Cfg) :
    hashedItems cfg = (List.range cfg.items.length).filter (isHashed cfg) := rfl

theorem pairwise_le_hashedItems (cfg : Cfg) : (hashedItems cfg).Pairwise (fun a b => a ≤ b) := by
  rw [hashedItems_eq]; exact List.pairwise_le_range.filter _

theorem InvA.sorted_of_complete {cfg : Cfg} {s : State} (h : InvA cfg s)
    (hp : s.seen.Perm (List.range cfg.items.length)) :
    s.collected.mergeSort (fun a b => decide (a ≤ b)) = hashedItems cfg := by
  rw [h.coll]
  exact mergeSort_eq_of_perm_sorted (hp.filter _) (pairwise_le_hashedItems cfg)

theorem InvC.returned {cfg : Cfg} {s : State} {c : List Nat} (hA : InvA cfg s) (hc : InvC cfg s)
    (hm : s.main = .finished (.returned c)) :
    s.seen.Perm (List.range cfg.items.length) ∧ badItems cfg = [] ∧
      c.mergeSort (fun a b => decide (a ≤ b)) = hashedItems cfg := by
  obtain ⟨hp, hnr⟩ := hc.ok (by rw [hm]; rfl) (by rw [hm]; rfl)
  refine ⟨hp, ?_, hc.ret c hm ▸ hA.sorted_of_complete hp⟩
  unfold badItems
  rw [List.filter_eq_nil_iff]
  intro k hk
  rw [hnr k (hp.mem_iff.2 hk)]
  simp

theorem InvC.outcome {cfg : Cfg} {s : State} (h : Inv cfg s) (hc : InvC cfg s)
    (ht : terminal s = true) : ∃ r, result? s = some r ∧ outcomeOk cfg r = true := by
  obtain ⟨r, hm⟩ := result_of_terminal ht
  refine ⟨r, by simp [result?, hm], ?_⟩
  cases r with
  | returned c =>
    obtain ⟨-, hbad, hsort⟩ := hc.returned h.a hm
    simp only [outcomeOk, hbad, List.isEmpty_nil, hsort, beq_self_eq_true, Bool.and_self]
  | raised x =>
    obtain ⟨k, hx, hlt, hr⟩ := hc.exc x (by simp [hm, mainExc])
    subst hx
    simp only [outcomeOk, badItems, List.contains_eq_mem, List.mem_filter, List.mem_range,
      decide_eq_true_eq]
    exact ⟨hlt, hr⟩

end Torf.Pipeline
