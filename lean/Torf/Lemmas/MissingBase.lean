/-
  Lemmas for C10: list facts, file positions, the expected stream, and what the iteration does
  over a good file (`step_of_good`: it is an iteration of the loop of `Stream.iterPieces`, begun
  with the carried bytes).
-/
import Torf.Lemmas.Stream
import Torf.Lemmas.Layout
import Torf.Spec.Missing
namespace Torf.Missing
open Torf

theorem nPieces_le_of_le_mul (L : Nat) (hL : 0 < L) (T q : Nat) (h : T ≤ q * L) :
    nPieces L T ≤ q :=
  Nat.le_of_not_lt fun hlt => Nat.not_lt_of_le h ((lt_nPieces_iff L T q hL).mp hlt)

theorem chunkData_map_some (c : List α) : chunkData (c.map some) = some c := by
  unfold chunkData
  simp [List.filterMap_map]

theorem map_chunkData_some (L : Nat) (hL : 0 < L) (X : List α) :
    (chunks L (X.map some)).map chunkData = (chunks L X).map some := by
  rw [chunks_map L hL, List.map_map]
  exact List.map_congr_left fun p _ => chunkData_map_some p

theorem chunkData_eq_none (c : List (Option α)) (h : none ∈ c) : chunkData c = none :=
  if_neg fun hall => Bool.false_ne_true (List.all_eq_true.mp hall none h)

theorem map_data_chunks (L : Nat) (hL : 0 < L) (X : List α) :
    ((chunks L X).map dataItem).map (·.data) = (chunks L (X.map some)).map chunkData := by
  rw [map_chunkData_some L hL, List.map_map]
  rfl

theorem reported_append (a b : List (Item α)) : reported (a ++ b) = reported a ++ reported b := by
  simp [reported]

theorem bycatchExcs_append (sizes : List Nat) (disk : List (Option (List α))) (a b : List Nat) :
    bycatchExcs sizes disk (a ++ b) = bycatchExcs sizes disk a ++ bycatchExcs sizes disk b :=
  List.filterMap_append

theorem bycatchExcs_good (sizes : List Nat) (disk : List (Option (List α))) (a : List Nat)
    (h : ∀ k ∈ a, fileError sizes disk k = none) : bycatchExcs sizes disk a = [] := by
  unfold bycatchExcs
  rw [List.filterMap_eq_nil_iff]
  intro k hk
  rw [h k hk]; rfl

theorem slice_add (l : List α) (a b c : Nat) (hab : a ≤ b) (hbc : b ≤ c) (hc : c ≤ l.length) :
    (l.take c).drop a = (l.take b).drop a ++ (l.take c).drop b := by
  have h1 : l.take c = l.take b ++ (l.take c).drop b := by
    have := (List.take_append_drop b (l.take c)).symm
    rwa [List.take_take, Nat.min_eq_left hbc] at this
  conv => lhs; rw [h1]
  rw [List.drop_append_of_le_length (by rw [List.length_take]; omega)]

/-! `pos` and `sizeOf` are `GeomSpec.pos` and `GeomSpec.size` (the same bodies), so the layout lemmas
hold for them as they stand -/

theorem pos_zero (sizes : List Nat) : pos sizes 0 = 0 := GeomLemmas.pos_zero sizes

theorem pos_succ (sizes : List Nat) (j : Nat) :
    pos sizes (j + 1) = pos sizes j + sizeOf sizes j := GeomLemmas.pos_succ sizes j

theorem pos_mono (sizes : List Nat) {j k : Nat} (h : j ≤ k) : pos sizes j ≤ pos sizes k :=
  GeomLemmas.pos_mono sizes j k h

theorem pos_length (sizes : List Nat) : pos sizes sizes.length = sizes.sum :=
  GeomLemmas.pos_length sizes

theorem pos_le_sum (sizes : List Nat) (k : Nat) : pos sizes k ≤ sizes.sum :=
  GeomLemmas.pos_le_total sizes k

theorem expFile_good (sizes : List Nat) (disk : List (Option (List α))) (k : Nat)
    (h : fileError sizes disk k = none) :
    expFile sizes disk k = ((disk.getD k none).getD []).map some ∧
      ((disk.getD k none).getD []).length = sizeOf sizes k := by
  refine ⟨by unfold expFile; rw [h], ?_⟩
  unfold fileError at h
  split at h
  · cases h
  · rename_i c hc
    rw [hc]
    split at h
    · assumption
    · cases h

theorem expFile_bad (sizes : List Nat) (disk : List (Option (List α))) (k : Nat)
    (h : fileError sizes disk k ≠ none) :
    expFile sizes disk k = List.replicate (sizeOf sizes k) none := by
  unfold expFile
  split
  · rename_i h'; exact absurd h' h
  · rfl

theorem length_expFile (sizes : List Nat) (disk : List (Option (List α))) (k : Nat) :
    (expFile sizes disk k).length = sizeOf sizes k := by
  by_cases h : fileError sizes disk k = none
  · rw [(expFile_good sizes disk k h).1, List.length_map, (expFile_good sizes disk k h).2]
  · rw [expFile_bad sizes disk k h, List.length_replicate]

/-- the expected stream is the content of a layout with the listed sizes, so it is cut up by file as
    every such stream is (`Lemmas/Layout`) -/
theorem map_length_expFiles (sizes : List Nat) (disk : List (Option (List α))) :
    ((List.range sizes.length).map (expFile sizes disk)).map List.length = sizes := by
  apply List.ext_getElem (by simp)
  intro k _ h2
  simp [length_expFile, sizeOf, List.getD_eq_getElem?_getD, h2]

theorem expStream_of_good (sizes : List Nat) (disk : List (Option (List α)))
    (hgood : ∀ k < sizes.length, fileError sizes disk k = none) :
    expStream sizes disk =
      (((List.range sizes.length).map fun k => (disk.getD k none).getD []).flatten).map some := by
  rw [expStream, List.map_flatten, List.map_map]
  exact congrArg List.flatten (List.map_congr_left fun k hk =>
    (expFile_good sizes disk k (hgood k (List.mem_range.mp hk))).1)

theorem length_expStream (sizes : List Nat) (disk : List (Option (List α))) :
    (expStream sizes disk).length = sizes.sum := by
  rw [expStream, List.length_flatten, map_length_expFiles]

theorem pos_le_length_expStream (sizes : List Nat) (disk : List (Option (List α))) (k : Nat) :
    pos sizes k ≤ (expStream sizes disk).length :=
  length_expStream sizes disk ▸ pos_le_sum sizes k

theorem drop_take_pos_succ (sizes : List Nat) (disk : List (Option (List α))) (k : Nat)
    (hk : k < sizes.length) (s : Nat) :
    ((expStream sizes disk).take (pos sizes (k + 1))).drop (pos sizes k + s) =
      (expFile sizes disk k).drop s := by
  have h := GeomLemmas.drop_take_pos_succ_flatten ((List.range sizes.length).map (expFile sizes disk)) k s
    (by simpa using hk)
  rw [map_length_expFiles, List.getElem_map, List.getElem_range] at h
  exact h

theorem expStream_getElem?_bad (sizes : List Nat) (disk : List (Option (List α))) (k : Nat)
    (hk : k < sizes.length) (hbad : fileError sizes disk k ≠ none) (y : Nat)
    (h1 : pos sizes k ≤ y) (h2 : y < pos sizes (k + 1)) :
    (expStream sizes disk)[y]? = some none := by
  obtain ⟨i, rfl⟩ := Nat.exists_eq_add_of_le h1
  have h := drop_take_pos_succ sizes disk k hk 0
  rw [Nat.add_zero, List.drop_zero, expFile_bad sizes disk k hbad] at h
  rw [← List.getElem?_take_of_lt h2, ← List.getElem?_drop, h, List.getElem?_replicate, if_pos]
  rw [pos_succ] at h2
  exact Nat.lt_of_add_lt_add_left h2

theorem length_specData (L : Nat) (hL : 0 < L) (sizes : List Nat) (disk : List (Option (List α))) :
    (specData L sizes disk).length = nPieces L sizes.sum := by
  unfold specData
  rw [List.length_map, length_chunks L hL, length_expStream]

theorem specData_of_good (L : Nat) (hL : 0 < L) (sizes : List Nat) (disk : List (Option (List α)))
    (hgood : ∀ k < sizes.length, fileError sizes disk k = none) :
    specData L sizes disk =
      (chunks L ((List.range sizes.length).map fun k => (disk.getD k none).getD []).flatten).map some := by
  rw [specData, expStream_of_good sizes disk hgood, map_chunkData_some L hL]

theorem specData_take (L : Nat) (hL : 0 < L) (sizes : List Nat) (disk : List (Option (List α)))
    (q : Nat) :
    (specData L sizes disk).take q =
      (chunks L ((expStream sizes disk).take (q * L))).map chunkData := by
  unfold specData
  rw [← List.map_take, chunks_take L hL]

theorem specData_drop (L : Nat) (hL : 0 < L) (sizes : List Nat) (disk : List (Option (List α)))
    (q : Nat) :
    (specData L sizes disk).drop q =
      (chunks L ((expStream sizes disk).drop (q * L))).map chunkData := by
  unfold specData
  rw [← List.map_drop, chunks_drop L hL]

theorem specData_getElem?_none (L : Nat) (hL : 0 < L) (sizes : List Nat)
    (disk : List (Option (List α))) (i y : Nat)
    (h1 : i * L ≤ y) (h2 : y < i * L + L) (hy : (expStream sizes disk)[y]? = some none) :
    (specData L sizes disk)[i]? = some none := by
  have hylt : y < (expStream sizes disk).length := (List.getElem?_eq_some_iff.mp hy).1
  obtain ⟨j, rfl⟩ := Nat.exists_eq_add_of_le h1
  unfold specData
  rw [List.getElem?_map, getElem?_chunks L hL,
    if_pos (Nat.lt_of_le_of_lt (Nat.le_add_right _ j) hylt)]
  refine congrArg some (chunkData_eq_none _ (List.mem_iff_getElem?.mpr ⟨j, ?_⟩))
  rw [List.getElem?_take_of_lt (Nat.lt_of_add_lt_add_left h2), List.getElem?_drop]
  exact hy

theorem drop_take_eq_replicate (l : List β) (x : β) (q d : Nat)
    (h : ∀ i, q ≤ i → i < q + d → l[i]? = some x) :
    (l.drop q).take d = List.replicate d x := by
  apply List.ext_getElem?
  intro i
  rw [List.getElem?_take, List.getElem?_drop, List.getElem?_replicate]
  split
  · exact h _ (by omega) (by omega)
  · rfl

theorem specData_blank (L : Nat) (hL : 0 < L) (sizes : List Nat) (disk : List (Option (List α)))
    (m : Nat) (hm : m < sizes.length) (hbad : fileError sizes disk m ≠ none)
    (hS : 0 < sizeOf sizes m) (q k : Nat) (hq : pos sizes m < q * L + L)
    (hb : (q + k) * L < pos sizes (m + 1)) :
    ((specData L sizes disk).drop q).take (k + 1) = List.replicate (k + 1) none := by
  apply drop_take_eq_replicate
  intro i hi1 hi2
  have hiL1 : q * L ≤ i * L := Nat.mul_le_mul_right L hi1
  have hiL2 : i * L ≤ (q + k) * L := Nat.mul_le_mul_right L (Nat.le_of_lt_succ hi2)
  have hps := pos_succ sizes m
  -- a byte of `m` in piece `i`: the first of the piece, or the first of the file
  rcases Nat.le_total (pos sizes m) (i * L) with h | h
  · exact specData_getElem?_none L hL sizes disk i (i * L) (Nat.le_refl _)
      (Nat.lt_add_of_pos_right hL)
      (expStream_getElem?_bad sizes disk m hm hbad _ h (Nat.lt_of_le_of_lt hiL2 hb))
  · exact specData_getElem?_none L hL sizes disk i (pos sizes m) h (by omega)
      (expStream_getElem?_bad sizes disk m hm hbad _ (Nat.le_refl _) (by omega))

theorem noBadEmpty_size (sizes : List Nat) (disk : List (Option (List α)))
    (hyp : NoBadEmpty sizes disk = true) (k : Nat) (hk : k < sizes.length)
    (hbad : fileError sizes disk k ≠ none) : 0 < sizeOf sizes k := by
  unfold NoBadEmpty at hyp
  rw [List.all_eq_true] at hyp
  have := hyp k (List.mem_range.mpr hk)
  cases h : fileError sizes disk k with
  | none => exact absurd h hbad
  | some e =>
    simp [h] at this
    omega

theorem noBadEmpty_of_good (sizes : List Nat) (disk : List (Option (List α)))
    (hgood : ∀ k < sizes.length, fileError sizes disk k = none) : NoBadEmpty sizes disk = true := by
  unfold NoBadEmpty
  rw [List.all_eq_true]
  intro k hk
  rw [hgood k (List.mem_range.mp hk)]
  rfl

theorem step_of_good (L : Nat) (sizes : List Nat) (disk : List (Option (List α))) (st : St α) (m : Nat)
    (hf : st.failed = false) (hnb : st.bycatch.contains m = false)
    (hgood : fileError sizes disk m = none) :
    step L sizes disk st m =
      let r := Stream.fileStep L (st.trailing, []) (((disk.getD m none).getD []).drop st.skip)
      { st with trailing := r.1, skip := 0, out := st.out ++ r.2.map dataItem } := by
  unfold step
  simp only [hf, hnb, hgood, Bool.false_eq_true, if_false]
  rfl

end Torf.Missing
