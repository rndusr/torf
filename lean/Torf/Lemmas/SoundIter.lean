/-
  What the values that pass the rules of `validate` are exported as: the atoms, and the "iterables" it lets through
  (lists/tuples, but also the empty byte string and the empty mapping).
-/
import Torf.Lemmas.SoundBridge
import Torf.Lemmas.ValidateTop
namespace Torf.Sound
open Torf Torf.Bencode Torf.Validate

theorem Exported.strOrBytes {v : PyVal} {b : BVal} (h : isStrOrBytes v = true) (he : Exported v b) :
    ∃ x, b = .bytes x := by
  cases v with
  | str s | bytes s => exact ⟨_, he.eq_norm rfl⟩
  | _ => cases h

theorem Exported.url {urlOk : Bytes → Bool} {v : PyVal} {b : BVal} (h1 : v.isStr = true)
    (h2 : isUrl urlOk v = true) (he : Exported v b) : urlB urlOk b = true := by
  obtain ⟨s, rfl⟩ := isStr_iff.mp h1
  cases he.eq_norm rfl
  simpa only [norm, urlB, isUrl, Export.utf8] using h2

theorem Exported.num {l : PyVal} {len : Int} {b : BVal} (hn : numVal? l = some len) (he : Exported l b) :
    b = .int len := by
  cases l with
  | int i | bool i => cases hn; exact he.eq_norm rfl
  | float f =>
    cases f with
    | fin t integral neg =>
      cases integral with
      | true => cases hn; exact he.eq_norm rfl
      | false => cases hn
    | _ => cases hn
  | _ => cases hn

theorem Exported.int {v : PyVal} {b : BVal} (hi : v.isInt = true) (he : Exported v b) : b = .int (intVal v) :=
  he.num (by cases v with | int i | bool i => rfl | _ => cases hi)

/-- what an "iterable" whose every position holds a value with property `Q` (never an `int`) is exported as: a list
    or tuple as the list of its elements; all that is left besides are the empty byte string and the empty
    mapping (a non-empty byte string yields `int`s, a non-empty mapping is subscripted with its own keys) -/
theorem Exported.iter {Q : PyVal → Prop} (hQ : ∀ n, ¬ Q (.int n)) {p : PyVal} {b : BVal} (h : Indexed Q p)
    (he : Exported p b) :
    ∃ comps, pyIter p = some comps ∧
      ((Exported (.list comps) b ∧ ∀ v ∈ comps, Q v) ∨ (comps = [] ∧ (b = .bytes [] ∨ b = .dict []))) := by
  have hmem : p.isDict = false → ∀ {xs}, pyIter p = some xs → ∀ v ∈ xs, Q v := fun hd _ => h.mem hd
  obtain ⟨hpi, comps, hcomps, hall⟩ := h
  refine ⟨comps, hcomps, ?_⟩
  cases p with
  | list l => cases hcomps; exact .inl ⟨he, hmem rfl rfl⟩
  | tuple l => cases hcomps; exact .inl ⟨he.tuple, hmem rfl rfl⟩
  | bytes x =>
    cases hcomps
    cases x with
    | nil => exact .inr ⟨rfl, .inl he.bytes_eq⟩
    | cons y t => exact absurd (hmem rfl rfl _ List.mem_cons_self) (hQ _)
  | dict kvs =>
    cases hcomps
    cases kvs with
    | nil => exact .inr ⟨rfl, .inr he.empty_dict⟩
    | cons kv t =>
      -- `p[0]` must exist, so some key of `p` equals `0` (`keyEqNat`); but a mapping that is exported has `str` keys only
      obtain ⟨v, hv, _⟩ := hall 0 (by simp)
      obtain ⟨k, hk, hk0⟩ := key_of_getItem_i hv
      obtain ⟨q, hq, rfl⟩ := List.mem_map.mp hk
      obtain ⟨s, hs⟩ := he.str_keys q hq
      rw [hs] at hk0
      cases hk0
  | _ => cases hpi

theorem Exported.all {Q : PyVal → Prop} {g : BVal → Bool} (hg : ∀ v b, Q v → Exported v b → g b = true) :
    ∀ {l : List PyVal} {b : BVal}, Exported (.list l) b → (∀ v ∈ l, Q v) → ∃ bs, b = .list bs ∧ bs.all g = true
  | [], _, he, _ => ⟨[], he.nil, rfl⟩
  | v :: t, _, he, hq => by
    obtain ⟨b₁, bs, rfl, h1, ht⟩ := he.cons
    obtain ⟨_, hbs, hall⟩ := Exported.all hg ht fun x hx => hq x (List.mem_cons_of_mem _ hx)
    cases hbs
    exact ⟨_, rfl, by rw [List.all_cons, hg v b₁ (hq v List.mem_cons_self) h1, hall]; rfl⟩

/-- the shape of `pathOk`, `tierB` and the `announce-list` clause of `announceOk` -/
theorem Exported.iter_all {Q : PyVal → Prop} {g : BVal → Bool} (hQ : ∀ n, ¬ Q (.int n))
    (hg : ∀ v b, Q v → Exported v b → g b = true) {p : PyVal} {b : BVal} (h : Indexed Q p) (he : Exported p b) :
    (∃ bs, b = .list bs ∧ bs.all g = true) ∨ b = .bytes [] ∨ b = .dict [] := by
  obtain ⟨_, _, ⟨hl, hq⟩ | ⟨_, h⟩⟩ := he.iter hQ h
  · exact .inl (hl.all hg hq)
  · exact .inr h

end Torf.Sound
