/-
  `Magnet.xt` (setter + getter) applied to `'urn:btih:' + infohash`, and `_INFOHASH_REGEX` on a hex digest.
-/
import Torf.Lemmas.Base32
import Torf.Model.ReadStream
namespace Torf.ReadStream
open Torf Torf.Bencode Torf.Codec

theorem not_matchesInfohash_urn (h : Bytes) : matchesInfohash (urnBtih ++ h) = false := by
  -- the prefix alone fails both character classes: `u` is no hex digit, `:` no base-32 character
  have h1 : (urnBtih ++ h).all isHexDigitCI = false := by
    rw [List.all_append, show urnBtih.all isHexDigitCI = false by decide, Bool.false_and]
  have h2 : (urnBtih ++ h).all isB32CharCI = false := by
    rw [List.all_append, show urnBtih.all isB32CharCI = false by decide, Bool.false_and]
  simp only [matchesInfohash, h1, h2, Bool.and_false, Bool.or_false]

theorem magnetXt_urn (h : Bytes) :
    magnetXt (urnBtih ++ h) = if matchesInfohash h then .ok (urnBtih ++ h) else .error .magnet := by
  have ht : (urnBtih ++ h).take 9 = urnBtih := List.take_left' rfl
  have hd : (urnBtih ++ h).drop 9 = h := List.drop_left' rfl
  simp only [magnetXt, not_matchesInfohash_urn, ht, hd]
  simp

theorem matchesInfohash_hexLower (d : Bytes) (hd : d.length = 20) :
    matchesInfohash (Base32.hexLower d) = true := by
  have hl := Base32.hexLower_length d
  have ha : (Base32.hexLower d).all isHexDigitCI = true := by
    rw [List.all_eq_true]
    intro c hc
    have := Base32.hexLower_all_hex d c hc
    simp only [isHexDigitCI, Bool.or_eq_true, Bool.and_eq_true, decide_eq_true_eq]
    omega
  simp [matchesInfohash, hl, hd, ha]

end Torf.ReadStream
