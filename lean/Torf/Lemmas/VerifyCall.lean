/-
  The content-path chain never changes what `_MissingPieces` computes (`stepP_eq`); the interval
  gate only thins out progress reports (`GateRel`), and the reports it lets through are those C12's
  gate lets through (`gate_is_C12`).
-/
import Torf.Model.VerifyCall
import Torf.Lemmas.VerifyCb
import Torf.Lemmas.Callbacks
namespace Torf.VerifyCall
open Torf Torf.Missing Torf.Verify Torf.VerifyFs
open Torf.Pipeline (ItemKind)

variable {α δ : Type}

/-- with `content_path=''` every file comes back as the torrent's own `File` object, whatever
    `Torrent.path` is -/
theorem returned_missingPiecesArg (single : Bool) (tpath : Option String) (k : Nat) :
    Geometry.returned single (Geometry.contentPath missingPiecesArg none tpath) k
      = .torrentFile k := by
  simp [missingPiecesArg, Geometry.contentPath, Geometry.returned]

theorem contains_torrentFile (fs : List Nat) (j : Nat) :
    (fs.map Geometry.Returned.torrentFile).contains (.torrentFile j) = fs.contains j := by
  rw [Bool.eq_iff_iff, List.contains_iff_mem, List.contains_iff_mem, List.mem_map]
  exact ⟨fun ⟨k, hk, h⟩ => by cases h; exact hk, fun h => ⟨j, h, rfl⟩⟩

theorem missingCallP_eq (single : Bool) (tpath : Option String) (L : Nat) (sizes : List Nat)
    (disk : List (Option (List α))) (seen bycatch : List Nat) (j : Nat) (reason : ErrKind) :
    missingCallP single tpath L sizes disk seen bycatch j reason =
      missingCall L sizes disk seen bycatch j reason := by
  unfold missingCallP
  simp only
  cases hl : (pyRemoveSeen seen (pieceIndexesOfFile L sizes j)).getLast? with
  | none => unfold missingCall; simp only [hl]
  | some last =>
    simp only
    cases hf : filesAtPieceIndex L sizes last with
    | none => unfold missingCall; simp only [hl, hf]
    | some fs =>
      simp only
      rw [show Geometry.returned single (Geometry.contentPath missingPiecesArg none tpath) =
        Geometry.Returned.torrentFile from funext (returned_missingPiecesArg single tpath),
        contains_torrentFile]
      by_cases hc : fs.contains j = true
      · simp only [hc, if_true]
      · -- `missingCall` has the ValueError of `list.remove` itself
        simp only [hc, Bool.false_eq_true, if_false]
        unfold missingCall
        simp only [hl, hf, hc, Bool.false_eq_true, not_false_eq_true, if_true]

theorem stepP_eq [Inhabited α] (single : Bool) (tpath : Option String) (L : Nat)
    (sizes : List Nat) (fd : List (FState α)) :
    stepP single tpath L sizes fd = stepFs L sizes fd := by
  funext s j
  unfold stepP stepFs
  simp only [missingCallP_eq]
  rfl

theorem iterItemsP_eq [Inhabited α] (single : Bool) (tpath : Option String) (L : Nat)
    (sizes : List Nat) (fd : List (FState α)) :
    iterItemsP single tpath L sizes fd = iterItemsFs L sizes fd := by
  unfold iterItemsP iterItemsFs
  rw [stepP_eq]

variable [DecidableEq δ]

theorem verifyCall_eq_gate [Inhabited α] (H : List α → δ) (L : Nat) (sizes : List Nat)
    (fd : List (FState α)) (stored : List δ) (hasCb single pathIsDir : Bool)
    (tpath : Option String) (interval : Int) (clock : List Int) :
    verifyCall H L sizes fd stored hasCb single pathIsDir tpath interval clock =
      pathKindGate hasCb single pathIsDir
        (match iterItemsFs L sizes fd with
          | none => (.error .internal, [])
          | some run =>
            finish stored ((run.items.zipIdx.map fun x => (x, clock.getD x.2 0)).foldl
              (collectItemG H L sizes stored hasCb interval (nPieces L sizes.sum)) {}).acc
              run.fault) := by
  unfold verifyCall pathKindGate
  rw [iterItemsP_eq]
  cases iterItemsFs L sizes fd <;> rfl

theorem collectItemG_eq (H : List α → δ) (L : Nat) (sizes : List Nat) (stored : List δ)
    (hasCb : Bool) (interval : Int) (total : Nat) (g : AccG δ) (x : Item α × Nat) (now : Int) :
    collectItemG H L sizes stored hasCb interval total g (x, now) =
      if g.acc.raised.isSome then g
      else if Callbacks.force true total (x.2 + 1) (itemKind H stored x) ||
          decide (now - g.prev ≥ interval) then
        { acc := collectItem H L sizes stored hasCb g.acc x, prev := now }
      else { g with acc := { g.acc with collected := g.acc.collected ++ itemHashes H x.1 } } :=
  rfl

theorem itemKind_eq_kindOf (H : List α → δ) (stored : List δ) (x : Item α × Nat) :
    itemKind H stored x = C02.kindOf H stored x := rfl

theorem unforced_item (H : List α → δ) (L : Nat) (sizes : List Nat) (stored : List δ)
    (total done : Nat) (x : Item α × Nat)
    (h : Callbacks.force true total done (itemKind H stored x) = false) :
    itemExc H L sizes stored x = none ∧ excsOf (itemCalls H L sizes stored x) = [] := by
  rw [itemKind_eq_kindOf] at h
  unfold itemExc itemCalls excsOf
  -- `_force_callback` forces `exc` and `mismatch` whatever `done` is
  cases hk : C02.kindOf H stored x <;> simp_all [Callbacks.force]

/-- the throttled run and the run that reports everything -/
structure GateRel (g : AccG δ) (a : Acc δ) : Prop where
  collected : g.acc.collected = a.collected
  raised : g.acc.raised = a.raised
  excs : excsOf g.acc.calls = excsOf a.calls
  sub : g.acc.calls.Sublist a.calls

theorem gate_step (H : List α → δ) (L : Nat) (sizes : List Nat) (stored : List δ)
    (hasCb : Bool) (interval : Int) (total : Nat) (g : AccG δ) (a : Acc δ)
    (x : Item α × Nat) (now : Int) (hr : GateRel g a) :
    GateRel (collectItemG H L sizes stored hasCb interval total g (x, now))
      (collectItem H L sizes stored hasCb a x) := by
  obtain ⟨h1, h2, h3, h4⟩ := hr
  rw [collectItemG_eq]
  cases hgn : g.acc.raised with
  | some e =>
    rw [Option.isSome_some, if_pos rfl, collectItem_raised _ _ _ _ _ _ _ (by rw [← h2, hgn]; rfl)]
    exact ⟨h1, h2, h3, h4⟩
  | none =>
    have han : a.raised = none := by rw [← h2]; exact hgn
    rw [Option.isSome_none, if_neg Bool.false_ne_true, collectItem_eq H L sizes stored hasCb a x han]
    cases hpass : (Callbacks.force true total (x.2 + 1) (itemKind H stored x) ||
        decide (now - g.prev ≥ interval)) with
    | true =>
      rw [if_pos rfl, collectItem_eq H L sizes stored hasCb g.acc x hgn]
      exact ⟨by simp only [h1], rfl, by simp only [excsOf_append, h3],
        List.Sublist.append h4 (List.Sublist.refl _)⟩
    | false =>
      -- only the digest is remembered; the full run adds a call without exception at most
      rw [if_neg Bool.false_ne_true]
      obtain ⟨u2, u3⟩ := unforced_item H L sizes stored total (x.2 + 1) x
        (Bool.or_eq_false_iff.mp hpass).1
      refine ⟨by simp only [h1], by simp only [hgn, u2, ite_self], ?_,
        h4.trans (List.sublist_append_left _ _)⟩
      rw [excsOf_append, h3]
      split
      · rw [u3, List.append_nil]
      · exact (List.append_nil _).symm

theorem gate_fold (H : List α → δ) (L : Nat) (sizes : List Nat) (stored : List δ)
    (hasCb : Bool) (interval : Int) (total : Nat) (xs : List (Item α × Nat))
    (now : Item α × Nat → Int) (g : AccG δ) (a : Acc δ) (hr : GateRel g a) :
    GateRel ((xs.map fun x => (x, now x)).foldl
        (collectItemG H L sizes stored hasCb interval total) g)
      (xs.foldl (collectItem H L sizes stored hasCb) a) := by
  rw [List.foldl_map]
  exact List.foldl_rel hr fun x _ g a h =>
    gate_step H L sizes stored hasCb interval total g a x (now x) h

theorem finish_gateRel (stored : List δ) {g : AccG δ} {a : Acc δ} (hr : GateRel g a)
    (fault : Option (Nat × Nat)) :
    (finish stored g.acc fault).1 = (finish stored a fault).1 ∧
    excsOf (finish stored g.acc fault).2 = excsOf (finish stored a fault).2 ∧
    (finish stored g.acc fault).2.Sublist (finish stored a fault).2 := by
  obtain ⟨h1, h2, h3, h4⟩ := hr
  refine ⟨?_, by rw [finish_snd, finish_snd, h3], by rw [finish_snd, finish_snd]; exact h4⟩
  unfold finish
  rw [h1, h2]
  cases a.raised with
  | some e => rfl
  | none => cases fault <;> rfl

theorem gate_fold_zero (H : List α → δ) (L : Nat) (sizes : List Nat) (stored : List δ)
    (hasCb : Bool) (interval : Int) (hi : interval ≤ 0) (total : Nat) (clock : Nat → Int)
    (hmono : ∀ i j, i ≤ j → clock i ≤ clock j) (items : List (Item α)) (k : Nat)
    (g : AccG δ) (hprev : ∀ j, k ≤ j → g.prev ≤ clock j) :
    (((items.zipIdx k).map fun x => (x, clock x.2)).foldl
      (collectItemG H L sizes stored hasCb interval total) g).acc =
    (items.zipIdx k).foldl (collectItem H L sizes stored hasCb) g.acc := by
  induction items generalizing k g with
  | nil => rfl
  | cons it items ih =>
    simp only [List.zipIdx_cons, List.map_cons, List.foldl_cons]
    rw [collectItemG_eq]
    by_cases hra : g.acc.raised.isSome = true
    · rw [if_pos hra, collectItem_raised _ _ _ _ _ _ _ hra]
      exact ih (k + 1) g (fun j hj => hprev j (by omega))
    · have hpass : decide (clock k - g.prev ≥ interval) = true := by
        have := hprev k (Nat.le_refl k)
        simp only [decide_eq_true_eq]; omega
      rw [if_neg hra, hpass, Bool.or_true, if_pos rfl]
      exact ih (k + 1) _ (fun j hj => hmono k j (by omega))

/-- a collected result as `Torf.Callbacks` (C12) sees it -/
def evOf (H : List α → δ) (stored : List δ) (clock : List Int) (x : Item α × Nat) : Callbacks.Ev :=
  ⟨x.2, itemKind H stored x, x.1.excs.length, clock.getD x.2 0⟩

/-- what C12 speaks about: pieces_done, piece index, "carries an exception" -/
def view (c : CbCall δ) : Nat × Nat × Bool := (c.done, c.piece, c.exc.isSome)
def viewC (c : Callbacks.Call) : Nat × Nat × Bool := (c.done, c.piece, c.exc.isSome)

theorem itemCalls_view (H : List α → δ) (L : Nat) (sizes : List Nat) (stored : List δ)
    (clock : List Int) (x : Item α × Nat) :
    (itemCalls H L sizes stored x).map view =
      (Callbacks.emit true (x.2 + 1) (evOf H stored clock x)).map viewC := by
  -- kind by kind; for `exc` one call per exception on either side, all with the same view
  unfold itemCalls Callbacks.emit evOf
  simp only [if_true, itemKind_eq_kindOf]
  cases C02.kindOf H stored x <;> simp [view, viewC, List.map_const', Function.comp_def]

/-- what the throttled fold of `verify` hands to the callback is what C12's gate selects from the events of the
    items (`Callbacks.callsFrom`, the recursive form of C12's fold: `Callbacks.calls_eq`) -/
theorem gate_is_C12 (H : List α → δ) (L : Nat) (sizes : List Nat) (stored : List δ)
    (interval : Int) (total : Nat) (clock : List Int) (items : List (Item α)) (k : Nat)
    (hk : k + items.length ≤ stored.length) (g : AccG δ) (hr : g.acc.raised = none) :
    (((items.zipIdx k).map fun x => (x, clock.getD x.2 0)).foldl
      (collectItemG H L sizes stored true interval total) g).acc.calls.map view =
    g.acc.calls.map view ++ (Callbacks.callsFrom true interval total g.prev k
      ((items.zipIdx k).map (evOf H stored clock))).map viewC := by
  induction items generalizing k g with
  | nil => simp [Callbacks.callsFrom]
  | cons it items ih =>
    simp only [List.zipIdx_cons, List.map_cons, List.foldl_cons, List.length_cons] at hk ⊢
    rw [Callbacks.callsFrom, collectItemG_eq, hr, Option.isSome_none, if_neg Bool.false_ne_true]
    -- the condition of `callsFrom` for `evOf … (it, k)` is the gate's, literally
    cases hpass : (Callbacks.force true total (k + 1) (itemKind H stored (it, k)) ||
        decide (clock.getD k 0 - g.prev ≥ interval)) with
    | true =>
      rw [if_pos rfl, if_pos (by exact hpass),
        collectItem_cb H L sizes stored g.acc (it, k) hr (by simp only; omega),
        ih (k + 1) (by omega) _ rfl]
      simp only [List.map_append, List.append_assoc, itemCalls_view H L sizes stored clock (it, k)]
      rfl
    | false =>
      rw [if_neg Bool.false_ne_true, if_neg (by exact Bool.eq_false_iff.mp hpass)]
      exact ih (k + 1) (by omega) _ hr

end Torf.VerifyCall
