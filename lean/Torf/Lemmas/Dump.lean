/-
  What `dump`, `infoBytes` and `infohash` return and when they fail.  Both `dump` and `infoBytes` are
  a validation gate in front of `emit` (`encode_dict`, the digit limit, `ser`), which is the form
  their lemmas go through (`dump_eq`, `infoBytes_eq`): every failure is a `MetainfoError`; a
  metainfo that can be dumped has a calculable hash, and the hashed bytes sit in the dump at the
  span of `info`.  Also the concrete metainfo used by the non-vacuity examples of C05/C06.
-/
import Torf.Lemmas.CodecLookup
import Torf.Lemmas.Span
import Torf.Model.ReadStream
namespace Torf.ReadStream
open Torf Torf.Bencode Torf.Codec

theorem kInfo_eq : utf8Enc "info" = kInfo := by decide +kernel
theorem kPieces_eq : utf8Enc "pieces" = kPieces := by decide +kernel
theorem kPrivate_eq : utf8Enc "private" = kPrivate := by decide +kernel
theorem kCreationDate_eq : utf8Enc "creation date" = kCreationDate := by decide +kernel

/-- `bencode.encode(utils.encode_dict(D))` as `dump` and `infohash` call it: whatever goes wrong — the
    converter refuses a value, a numeral exceeds the digit limit — is re-raised as `MetainfoError` -/
def emit (lim : Nat) (D : List (PyVal × PyVal)) : Except Err Bytes :=
  match encodeDict D with
  | .error _ => .error .metainfo
  | .ok v => if small lim v then .ok (ser v) else .error .metainfo

theorem emit_ok_iff {lim : Nat} {D : List (PyVal × PyVal)} {bs : Bytes} :
    emit lim D = .ok bs ↔ ∃ u, encodeDict D = .ok u ∧ small lim u = true ∧ bs = ser u := by
  unfold emit
  cases encodeDict D with
  | error e => simp
  | ok u => cases hs : small lim u <;> simp [hs, @eq_comm _ bs]

theorem emit_err_iff {lim : Nat} {D : List (PyVal × PyVal)} :
    emit lim D = .error .metainfo ↔
      (∃ e, encodeDict D = .error e) ∨ ∃ u, encodeDict D = .ok u ∧ small lim u = false := by
  unfold emit
  cases encodeDict D with
  | error e => exact iff_of_true rfl (.inl ⟨e, rfl⟩)
  | ok u => cases hs : small lim u <;> simp [hs]

theorem emit_err {lim : Nat} {D : List (PyVal × PyVal)} {e : Err} (h : emit lim D = .error e) :
    e = .metainfo := by
  unfold emit at h
  split at h
  · exact (Except.error.inj h).symm
  · split at h
    · exact nomatch h
    · exact (Except.error.inj h).symm

theorem dump_eq (env : Env) (md : List (PyVal × PyVal)) (validate : Bool) :
    dump env md validate =
      if validate && !env.validate (.dict (ensureInfo md)) then .error .metainfo
      else emit env.lim (ensureInfo md) := by
  unfold dump convert emit
  cases encodeDict (ensureInfo md) <;> rfl

theorem infoBytes_eq (env : Env) (md : List (PyVal × PyVal)) :
    infoBytes env md =
      if !env.validate (.dict (ensureInfo md)) then .error .metainfo
      else match PyVal.lookupStr "info" (ensureInfo md) with
        | some (.dict ikvs) => emit env.lim ikvs
        | _ => .error .metainfo :=
  rfl

theorem infoBytes_of_info {env : Env} {md ikvs : List (PyVal × PyVal)}
    (hl : PyVal.lookupStr "info" (ensureInfo md) = some (.dict ikvs)) :
    infoBytes env md =
      if !env.validate (.dict (ensureInfo md)) then .error .metainfo else emit env.lim ikvs := by
  rw [infoBytes_eq, hl]

theorem dump_ok {env : Env} {md : List (PyVal × PyVal)} {validate : Bool} {bs : Bytes}
    (h : dump env md validate = .ok bs) :
    ∃ u, encodeDict (ensureInfo md) = .ok u ∧ small env.lim u = true ∧ bs = ser u := by
  rw [dump_eq] at h
  split at h
  · exact nomatch h
  · exact emit_ok_iff.mp h

theorem dump_err {env : Env} {md : List (PyVal × PyVal)} {validate : Bool} {e : Err}
    (h : dump env md validate = .error e) : e = .metainfo := by
  rw [dump_eq] at h
  split at h
  · exact (Except.error.inj h).symm
  · exact emit_err h

theorem validate_of_dump_true {env : Env} {md : List (PyVal × PyVal)} {bs : Bytes}
    (hd : dump env md true = .ok bs) : env.validate (.dict (ensureInfo md)) = true := by
  rw [dump_eq] at hd
  split at hd
  · exact nomatch hd
  · rename_i h; simpa using h

theorem dump_validate_irrel {env : Env} {md : List (PyVal × PyVal)} (v w : Bool)
    (hv : env.validate (.dict (ensureInfo md)) = true) : dump env md v = dump env md w := by
  simp [dump_eq, hv]

theorem infoBytes_ok_iff {env : Env} {md : List (PyVal × PyVal)} {ib : Bytes} :
    infoBytes env md = .ok ib ↔
      ∃ ikvs iu, env.validate (.dict (ensureInfo md)) = true ∧
        PyVal.lookupStr "info" (ensureInfo md) = some (.dict ikvs) ∧
        encodeDict ikvs = .ok iu ∧ small env.lim iu = true ∧ ib = ser iu := by
  constructor
  · intro h
    rw [infoBytes_eq] at h
    split at h
    · exact nomatch h
    · rename_i hval
      split at h
      · rename_i ikvs hl
        obtain ⟨iu, h⟩ := emit_ok_iff.mp h
        exact ⟨ikvs, iu, by simpa using hval, hl, h⟩
      · exact nomatch h
  · rintro ⟨ikvs, iu, hv, hl, h⟩
    rw [infoBytes_of_info hl, hv]
    exact emit_ok_iff.mpr ⟨iu, h⟩

theorem infoBytes_err {env : Env} {md : List (PyVal × PyVal)} {e : Err}
    (h : infoBytes env md = .error e) : e = .metainfo := by
  rw [infoBytes_eq] at h
  split at h
  · exact (Except.error.inj h).symm
  · split at h
    · exact emit_err h
    · exact (Except.error.inj h).symm

theorem infohash_err {env : Env} {H : Bytes → Bytes} {md : List (PyVal × PyVal)} {e : Err}
    (h : infohash env H md = .error e) : infoBytes env md = .error .metainfo ∧ e = .metainfo := by
  unfold infohash at h
  split at h
  · exact absurd h (by simp)
  · rename_i e' he'
    have := infoBytes_err he'
    subst this
    exact ⟨he', (Except.error.inj h).symm⟩

theorem infohash_of_infoBytes {env : Env} {H : Bytes → Bytes} {md : List (PyVal × PyVal)} {ib : Bytes}
    (h : infoBytes env md = .ok ib) : infohash env H md = .ok (Base32.hexLower (H ib)) := by
  simp only [infohash, h]

/-- `Torrent.infohash` with its handler: the stored hash is consulted only when the calculation
    fails, and every failure of it is the `MetainfoError` the handler catches -/
theorem infohashOf_eq (env : Env) (H : Bytes → Bytes) (md : List (PyVal × PyVal)) (explicit : Option Bytes) :
    infohashOf env H md explicit =
      match infoBytes env md with
      | .ok ib => .ok (Base32.hexLower (H ib))
      | .error _ =>
        match explicit with
        | some x => .ok x
        | none => .error .metainfo := by
  unfold infohashOf infohash
  cases h : infoBytes env md with
  | ok ib => rfl
  | error e => cases infoBytes_err h; rfl

theorem small_of_mem {lim : Nat} {ukvs : List (Bytes × BVal)} {k : Bytes} {v : BVal}
    (hs : small lim (.dict ukvs) = true) (hm : (k, v) ∈ ukvs) : small lim v = true :=
  (smallKvs_iff.mp hs (k, v) hm).2

/-- **If the whole metainfo can be dumped, the hash can be calculated**: validation accepts, `info`
    is a dict (what validation establishes: hypothesis `hval`), the converter accepted the whole
    metainfo, hence its `info` entry, and the numerals of the part fit the limit because those of
    the whole do. -/
theorem infoBytes_of_dump {env : Env} {md : List (PyVal × PyVal)} {validate : Bool} {bs : Bytes}
    (hv : env.validate (.dict (ensureInfo md)) = true)
    (hval : env.validate (.dict (ensureInfo md)) = true →
      ∃ ikvs, PyVal.lookupStr "info" (ensureInfo md) = some (.dict ikvs))
    (hd : dump env md validate = .ok bs) :
    ∃ ib, infoBytes env md = .ok ib := by
  obtain ⟨ikvs, hl⟩ := hval hv
  obtain ⟨u, hu, hs, _⟩ := dump_ok hd
  obtain ⟨ukvs, v, hukvs, hev, hm⟩ := mem_encodeDict "info" (.dict ikvs) _ u hu hl
  subst hukvs
  have hiu : encodeDict ikvs = .ok v := hev
  exact ⟨ser v, infoBytes_ok_iff.mpr ⟨ikvs, v, hv, hl, hiu, small_of_mem hs hm, rfl⟩⟩

/-- The bytes that are hashed sit in the dumped file where a conforming parser finds the value of
    the top-level key `info`: `encode_dict` emits `metainfo['info']` under the key `info`
    (`mem_encodeDict`), and the serialisation of a dictionary with distinct keys holds each value at
    the span the strict parser reports for its key (`spanOf_ser_dict`). -/
theorem infoBytes_span {env : Env} {md : List (PyVal × PyVal)} {validate : Bool} {bs ib : Bytes}
    (hw : wf (.dict (ensureInfo md)) = true) (hd : dump env md validate = .ok bs)
    (hib : infoBytes env md = .ok ib) :
    ∃ pre post ikvs iu, PyVal.lookupStr "info" (ensureInfo md) = some (.dict ikvs) ∧
      encodeDict ikvs = .ok iu ∧ ib = ser iu ∧ bs = pre ++ ib ++ post ∧
      spanOf env.lim kInfo bs = some (pre.length, ib.length) := by
  obtain ⟨ikvs, iu, -, hl, hiu, -, rfl⟩ := infoBytes_ok_iff.mp hib
  obtain ⟨u, hu, hs, rfl⟩ := dump_ok hd
  obtain ⟨ukvs, v, rfl, hv, hm⟩ := mem_encodeDict "info" (.dict ikvs) _ u hu hl
  obtain rfl : v = iu := Except.ok.inj (hv.symm.trans hiu)
  rw [kInfo_eq] at hm
  obtain ⟨pre, post, hsplit, hspan⟩ :=
    spanOf_ser_dict env.lim kInfo v ukvs (uniq_encodeValue _ _ hu hw) hs hm
  exact ⟨pre, post, ikvs, v, hl, hiu, rfl, hsplit, hspan⟩

theorem exists_ok_of_toBool {ε α : Type} {x : Except ε α} (h : x.toBool = true) : ∃ a, x = .ok a := by
  cases x with
  | ok b => exact ⟨b, rfl⟩
  | error e => simp [Except.toBool] at h

/-- a validating environment, a 20-byte "digest" and a metainfo with a non-ASCII top-level key
    sorting after `info`, a key sorting before it, a bool, a float and a tuple -/
def exEnv : Env := { fromTs := fun _ => none, validate := fun _ => true }
def exH : Bytes → Bytes := fun x => List.replicate 20 (UInt8.ofNat x.length)
def exMd : List (PyVal × PyVal) :=
  [(.str "é", .tuple [.bool true, .float (.fin 1 false false)]),
   (.str "info", .dict [(.str "name", .str "a"), (.str "piece length", .int 16384)]),
   (.str "a", .datetime (some 5))]

def exDump : Bytes :=
  [100, 49, 58, 97, 105, 53, 101, 52, 58, 105, 110, 102, 111, 100, 52, 58, 110, 97, 109, 101, 49,
   58, 97, 49, 50, 58, 112, 105, 101, 99, 101, 32, 108, 101, 110, 103, 116, 104, 105, 49, 54, 51,
   56, 52, 101, 101, 50, 58, 195, 169, 108, 105, 49, 101, 105, 49, 101, 101, 101]
   -- d1:ai5e4:infod4:name1:a12:piece lengthi16384ee2:él i1e i1e ee

theorem dump_exMd : dump exEnv exMd true = .ok exDump := by decide +kernel

theorem infohash_exMd : infohash exEnv exH exMd = .ok (List.replicate 20 [50, 49]).flatten :=
  by decide +kernel

/-- a representable-date environment and a canonical document with a multi-byte UTF-8 key, a
    non-UTF-8 `pieces`, `private = 1`, a creation date, nested containers and a non-UTF-8 byte
    string value -/
def rtEnv : Env := { fromTs := fun i => some (.datetime (some i)), validate := fun _ => true }
def rtInfo : List (Bytes × BVal) :=
  [([110, 97, 109, 101], .bytes [97]), (kPieces, .bytes [255, 254]), (kPrivate, .int 1),
   ([195, 169], .list [.int (-3), .dict []])]
def rtEnc : List (Bytes × BVal) :=
  [(kCreationDate, .int 5), (kInfo, .dict rtInfo), ([122], .bytes [255])]
/-- `d13:creation datei5e4:infod4:name1:a6:pieces2:\xff\xfe7:privatei1e2:éli-3edeee1:z1:\xffe` -/
def rtX : Bytes :=
  [100, 49, 51, 58, 99, 114, 101, 97, 116, 105, 111, 110, 32, 100, 97, 116, 101, 105, 53, 101, 52,
   58, 105, 110, 102, 111, 100, 52, 58, 110, 97, 109, 101, 49, 58, 97, 54, 58, 112, 105, 101, 99,
   101, 115, 50, 58, 255, 254, 55, 58, 112, 114, 105, 118, 97, 116, 101, 105, 49, 101, 50, 58, 195,
   169, 108, 105, 45, 51, 101, 100, 101, 101, 101, 49, 58, 122, 49, 58, 255, 101]

/-- `read_stream(x).dump()` as one function, `none` = some step raised (used to state counterexamples) -/
def readDump (env : Env) (x : Bytes) (v : Bool) : Option Bytes :=
  match read env x v with
  | .ok t => (dump env t v).toOption
  | .error _ => none

theorem readDump_of {env : Env} {x y : Bytes} {v : Bool} {t : List (PyVal × PyVal)}
    (hr : read env x v = .ok t) (hd : dump env t v = .ok y) : readDump env x v = some y := by
  simp [readDump, hr, hd, Except.toOption]

end Torf.ReadStream
