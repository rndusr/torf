/-
  Helper lemmas for C20 in a world with typed lengths (Torf.Model.FileSizeEnv): behind the type gate of
  `validate()` the typed model run as the code is the plain model on the erased torrent and the stat
  answers — `partial_size` for every path (`partialSizeN_erase`), the loop over every list
  (`loopG_code`), the call (`verifyFilesizeG_code`); no hypothesis on the layout is needed.  And the
  call, run as any variant, depends on variant and world only through the stat answers of the listed
  paths, the probe's answers and the float lengths the integer conversion meets
  (`verifyFilesizeG_congr`).
-/
import Torf.Model.FileSizeEnv
import Torf.Lemmas.FileSize
namespace Torf.FileSize

theorem natCast_eq_iff_toNat {a : Nat} {z : Int} (h : 0 ≤ z) : (a : Int) = z ↔ a = z.toNat :=
  ⟨fun e => by rw [← e, Int.toNat_natCast], fun e => by rw [e, Int.toNat_of_nonneg h]⟩

theorem pyEq_valid (a : Nat) (n : PyNum) (h : n.isFileLength = true) :
    pyEq a n = decide (a = n.value) := by
  cases n with
  | int z => exact decide_eq_decide.mpr (natCast_eq_iff_toNat (of_decide_eq_true h))
  | bool b => cases b <;> rfl
  | floatWhole z => exact decide_eq_decide.mpr (natCast_eq_iff_toNat (of_decide_eq_true h))
  | floatFrac => cases h
  | floatNonFinite => cases h
  | other => cases h

theorem toInt_nonneg {n : PyNum} (h : n.isFileLength = true) : 0 ≤ n.toInt := by
  cases n with
  | int z => exact of_decide_eq_true h
  | bool b => cases b <;> decide
  | floatWhole z => exact of_decide_eq_true h
  | floatFrac => cases h
  | floatNonFinite => cases h
  | other => cases h

theorem pySum_valid (l : List PyNum) (h : ∀ n ∈ l, n.isFileLength = true) :
    (pySum l).isFileLength = true ∧ (pySum l).value = (l.map PyNum.value).sum := by
  have key : 0 ≤ (l.map PyNum.toInt).sum ∧ (l.map PyNum.toInt).sum.toNat = (l.map PyNum.value).sum := by
    induction l with
    | nil => exact ⟨Int.le_refl 0, rfl⟩
    | cons a l ih =>
      obtain ⟨h0, hs⟩ := ih fun n hn => h n (List.mem_cons_of_mem _ hn)
      have ha := toInt_nonneg (h a (List.mem_cons_self ..))
      simp only [List.map_cons, List.sum_cons]
      exact ⟨Int.add_nonneg ha h0, by rw [Int.toNat_add ha h0, hs]; rfl⟩
  unfold pySum
  split <;> exact ⟨decide_eq_true key.1, key.2⟩

theorem erase_listed (nt : NTorrent) : nt.erase.listed = nt.nlisted.map NListed.erase := by
  unfold NTorrent.erase Torrent.listed NTorrent.nlisted
  cases nt.mode <;> simp [NListed.erase]

theorem erase_isSingle (nt : NTorrent) : nt.erase.isSingle = nt.isSingle := by
  unfold NTorrent.erase Torrent.isSingle NTorrent.isSingle
  cases nt.mode <;> rfl

theorem erase_name (nt : NTorrent) : nt.erase.name = nt.name := rfl

/-- a typed `partial_size` answer `r` and the plain answer `r'` on the erased torrent: the same error, or
    a valid length and its number of bytes -/
def Erases (r : Except Err PyNum) (r' : Except Err Nat) : Prop :=
  match r with
  | .ok x => x.isFileLength = true ∧ r' = .ok x.value
  | .error e => r' = .error e

theorem partialSizeLoopN_erase (name : String) (path : List String) (l : List NListed) (acc : List PyNum)
    (hl : ∀ f ∈ l, f.len.isFileLength = true) (hacc : ∀ n ∈ acc, n.isFileLength = true) :
    Erases (partialSizeLoopN name path l acc)
      (partialSizeLoop name path (l.map NListed.erase) (acc.map PyNum.value)) := by
  induction l generalizing acc with
  | nil =>
    rw [partialSizeLoopN, List.map_nil, partialSizeLoop, List.isEmpty_map]
    cases acc.isEmpty with
    | true => rfl
    | false => exact ⟨(pySum_valid acc hacc).1, congrArg Except.ok (pySum_valid acc hacc).2.symm⟩
  | cons f rest ih =>
    have hf := hl f (List.mem_cons_self ..)
    have ih' := fun acc => ih acc fun g hg => hl g (List.mem_cons_of_mem _ hg)
    rw [partialSizeLoopN, List.map_cons]
    -- the erased entry as a variable, so that its path can be rewritten also where it is decided
    generalize hg : NListed.erase f = g
    rw [partialSizeLoop, show g.path = f.path from hg ▸ rfl, show g.size = f.len.value from hg ▸ rfl]
    by_cases h1 : name :: f.path.filter (· ≠ "") = path
    · rw [if_pos h1, if_pos h1]; exact ⟨hf, rfl⟩
    · rw [if_neg h1, if_neg h1]
      cases startsWith (name :: f.path.filter (· ≠ "")) path with
      | false => exact ih' acc hacc
      | true =>
        have := ih' (acc ++ [f.len]) fun n hn =>
          (List.mem_append.mp hn).elim (hacc n) fun h => List.mem_singleton.mp h ▸ hf
        rwa [List.map_append] at this

theorem partialSizeN_erase (nt : NTorrent) (hv : nt.lengthsValid = true) (p : List String) :
    Erases (partialSizeN nt p) (partialSize nt.erase p) := by
  unfold NTorrent.lengthsValid NTorrent.nlisted at hv
  unfold partialSizeN partialSize NTorrent.erase
  cases hm : nt.mode with
  | single n =>
    rw [hm] at hv
    dsimp only
    split
    · exact ⟨by simpa using hv, rfl⟩
    · rfl
  | multi files =>
    rw [hm] at hv
    exact partialSizeLoopN_erase nt.name p files [] (List.all_eq_true.mp hv) (List.forall_mem_nil _)

theorem report_lift (cb : Callback) (total i : Nat) (exc : Option Err)
    (c : Unit → OutG × List Call) (r : Res × List Call) (h : c () = lift r) :
    report cb total i exc c = lift (reportL cb total i exc r) := by
  unfold report reportL
  rw [h]
  cases cancel cb total i exc with
  | error e => rfl
  | ok p => obtain ⟨stop, calls⟩ := p; cases stop <;> rfl

theorem loopG_code (nt : NTorrent) (hv : nt.lengthsValid = true) (w : World) (cb : Callback)
    (total : Nat) (l : List NListed) (i : Nat) (exc : Option Err) :
    loopG code nt w cb total i l exc =
      lift (loop nt.erase w.stat cb total i (l.map NListed.erase) exc) := by
  induction l generalizing i exc with
  | nil => rfl
  | cons f rest ih =>
    have hps := partialSizeN_erase nt hv (nt.name :: f.path)
    rw [loopG, List.map_cons]
    generalize hg : NListed.erase f = g
    rw [loop_cons_report, show g.path = f.path from hg ▸ rfl, erase_name]
    cases pathExists (w.stat f.path) with
    | false => rw [Bool.not_false, if_pos rfl, if_pos rfl]; exact report_lift _ _ _ _ _ _ (ih _ _)
    | true =>
      simp only [code, Bool.not_true, Bool.false_eq_true, if_false, Bool.false_and]
      cases realSize (w.stat f.path) with
      | error e => rfl
      | ok n =>
        cases hpn : partialSizeN nt (nt.name :: f.path) with
        | error e => rw [hpn] at hps; rw [hps]; rfl
        | ok x =>
          rw [hpn] at hps
          simp only [hps.2, pyEq_valid n x hps.1, Bool.not_eq_true', decide_eq_false_iff_not, ne_eq]
          split <;> exact report_lift _ _ _ _ _ _ (ih _ _)

theorem verifyFilesizeG_code (nt : NTorrent) (w : World) (cb : Callback) :
    verifyFilesizeG code nt w cb =
      if nt.lengthsValid then lift (verifyFilesize nt.erase w.stat cb)
      else (.res (.raised .metainfo), []) := by
  unfold verifyFilesizeG validateN verifyFilesize
  cases hlv : nt.lengthsValid with
  | false => rfl
  | true =>
    simp only [Bool.true_and, if_true, erase_isSingle, erase_listed, List.length_map]
    split
    · rfl
    · split
      · cases cancel cb nt.nlisted.length 0 (some Err.isDir) <;> rfl
      · exact loopG_code nt hlv w cb _ _ 0 none

theorem partialSizeLoopN_noFloat (name : String) (path : List String) (l : List NListed)
    (acc : List PyNum) (hl : ∀ f ∈ l, f.len.isFloat = false)
    (hacc : ∀ n ∈ acc, n.isFloat = false) (e : PyNum)
    (h : partialSizeLoopN name path l acc = .ok e) : e.isFloat = false := by
  induction l generalizing acc with
  | nil =>
    rw [partialSizeLoopN] at h
    split at h
    · cases h
    · cases h
      rw [pySum, if_neg (by simpa using hacc)]; rfl
  | cons f rest ih =>
    have hf := hl f (List.mem_cons_self ..)
    have ih' := fun acc => ih acc fun g hg => hl g (List.mem_cons_of_mem _ hg)
    rw [partialSizeLoopN] at h
    by_cases h1 : name :: f.path.filter (· ≠ "") = path
    · rw [if_pos h1] at h; cases h; exact hf
    · rw [if_neg h1] at h
      cases hs : startsWith (name :: f.path.filter (· ≠ "")) path with
      | false => rw [hs] at h; exact ih' _ hacc h
      | true =>
        rw [hs] at h
        exact ih' _ (fun n hn => (List.mem_append.mp hn).elim (hacc n) fun h => List.mem_singleton.mp h ▸ hf) h

theorem partialSizeN_noFloat (nt : NTorrent) (hl : ∀ f ∈ nt.nlisted, f.len.isFloat = false)
    (p : List String) (e : PyNum) (h : partialSizeN nt p = .ok e) : e.isFloat = false := by
  unfold partialSizeN at h
  unfold NTorrent.nlisted at hl
  cases hm : nt.mode with
  | single n =>
    simp only [hm] at h hl
    split at h
    · simp only [Except.ok.injEq] at h; subst h
      exact hl ⟨[], n⟩ (List.mem_singleton.mpr rfl)
    · cases h
  | multi files =>
    simp only [hm] at h hl
    exact partialSizeLoopN_noFloat nt.name p files [] hl (List.forall_mem_nil _) e h

/-- `hprobe` names `w'.stat` on both sides: the stat answers agree (`hstat`), so it does not matter
    whose.  `isdir(path)` needs no hypothesis of its own: a single-file torrent lists the top itself
    (`[]`), so that answer is among `hstat`'s. -/
theorem verifyFilesizeG_congr (v v' : Variant) (nt : NTorrent) (w w' : World) (cb : Callback)
    (hstat : ∀ f ∈ nt.nlisted, w.stat f.path = w'.stat f.path)
    (hprobe : ∀ f ∈ nt.nlisted,
      (if v.probe && !isDirEntry (w'.stat f.path) then w.opens f.path else .opens) =
        (if v'.probe && !isDirEntry (w'.stat f.path) then w'.opens f.path else .opens))
    (hfmt : ∀ f ∈ nt.nlisted, ∀ e, partialSizeN nt (nt.name :: f.path) = .ok e →
      (v.intFmt && e.isFloat) = (v'.intFmt && e.isFloat)) :
    verifyFilesizeG v nt w cb = verifyFilesizeG v' nt w' cb := by
  have hloop : ∀ l : List NListed, (∀ f ∈ l, f ∈ nt.nlisted) → ∀ i exc,
      loopG v nt w cb nt.nlisted.length i l exc = loopG v' nt w' cb nt.nlisted.length i l exc := by
    intro l
    induction l with
    | nil => intro _ i exc; rfl
    | cons f rest ih =>
      intro hsub i exc
      have hf := hsub f (List.mem_cons_self ..)
      unfold loopG
      simp only [hstat f hf, hprobe f hf, ih fun g hg => hsub g (List.mem_cons_of_mem _ hg)]
      cases hps : partialSizeN nt (nt.name :: f.path) with
      | error e => rfl
      | ok e => simp only [hfmt f hf e hps]
  unfold verifyFilesizeG
  simp only [hloop nt.nlisted fun _ h => h]
  cases hs : nt.isSingle with
  | false => rfl
  | true =>
    unfold NTorrent.isSingle at hs
    unfold NTorrent.nlisted at hstat
    cases hm : nt.mode with
    | single n => rw [hm] at hstat; rw [hstat ⟨[], n⟩ (List.mem_singleton.mpr rfl)]
    | multi fs => rw [hm] at hs; cases hs

end Torf.FileSize
