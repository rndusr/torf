/-
  `parse (ser v) = some v` for canonical values: the stack machine run on a serialisation.
  `Reach` is the loop of `run` without the fuel.  `step_token` lists what one iteration can do;
  `step_length` (every iteration consumes input, so the fuel of `parse` suffices) and the stack
  invariant of `Lemmas/BencodeSmall.lean` are case analyses on it.  As in flatbencode, the keys and
  values of a dict go on the stack like the elements of a list (`flatPairs`, `pushPairs_eq`,
  `serEntries_eq`), so one induction over the items serves both containers (`reach_list`,
  `reach_container`); only the closing `e` differs, and for distinct keys it rebuilds the dict
  entry by entry, in order (`listToDict_flatPairs`).
-/
import Torf.Lemmas.BencodeNum
import Torf.Lemmas.BencodeSort
import Torf.Lemmas.BencodeInduct
import Torf.Lemmas.BencodeDict
namespace Torf.Bencode

inductive Reach (lim : Nat) : Bytes → List Item → Option BVal → Prop where
  | done {inp st r} : step lim inp st = .done r → Reach lim inp st r
  | cont {inp st inp' st' r} : step lim inp st = .cont inp' st' → Reach lim inp' st' r →
      Reach lim inp st r

def ReachR (lim : Nat) : StepResult → Option BVal → Prop
  | .done r', r => r = r'
  | .cont inp st, r => Reach lim inp st r

theorem reach_of_step {lim inp st r} (h : ReachR lim (step lim inp st) r) : Reach lim inp st r := by
  cases hs : step lim inp st with
  | done r' => rw [hs] at h; exact .done (by rw [hs]; exact congrArg _ h.symm)
  | cont inp' st' => rw [hs] at h; exact .cont hs h

theorem deliver_cont {elem rest st inp' st'} (h : deliver elem rest st = .cont inp' st') :
    inp' = rest ∧ st' = .val elem :: st := by
  unfold deliver at h
  split at h
  · exact nomatch h
  · exact ⟨(StepResult.cont.inj h).1.symm, (StepResult.cont.inj h).2.symm⟩

/-- the outcomes of one iteration: failure, or one of the five kinds of token — `e`, which pops a
    container off the stack, or one of the four that push (`i…e`, `d`, `l`, a string) -/
theorem step_token (lim : Nat) (inp : Bytes) (st : List Item) :
    step lim inp st = .done none ∨ ∃ c rest, inp = c :: rest ∧
      ((c = 101 ∧ ∃ elem st', popUntil st [] = some (elem, st') ∧
          step lim inp st = deliver elem rest st') ∨
       (c ≠ 101 ∧
        ((∃ n rest', readInteger lim rest = some (n, rest') ∧
            step lim inp st = deliver (.int n) rest' st) ∨
         step lim inp st = .cont rest (.dct :: st) ∨ step lim inp st = .cont rest (.lst :: st) ∨
         (∃ b rest', readString lim inp = some (b, rest') ∧
            step lim inp st = deliver (.bytes b) rest' st)))) := by
  cases inp with
  | nil => exact .inl rfl
  | cons c rest =>
    simp only [step]
    by_cases h1 : c = 101
    · rw [if_pos h1]
      cases popUntil st [] with
      | none => exact .inl rfl
      | some p => exact .inr ⟨c, rest, rfl, .inl ⟨h1, p.1, p.2, rfl, rfl⟩⟩
    rw [if_neg h1]
    by_cases h2 : c = 105
    · rw [if_pos h2]
      cases hr : readInteger lim rest with
      | none => exact .inl rfl
      | some p => exact .inr ⟨c, rest, rfl, .inr ⟨h1, .inl ⟨p.1, p.2, hr, rfl⟩⟩⟩
    rw [if_neg h2]
    by_cases h3 : c = 100
    · rw [if_pos h3]; exact .inr ⟨c, rest, rfl, .inr ⟨h1, .inr (.inl rfl)⟩⟩
    rw [if_neg h3]
    by_cases h4 : c = 108
    · rw [if_pos h4]; exact .inr ⟨c, rest, rfl, .inr ⟨h1, .inr (.inr (.inl rfl))⟩⟩
    rw [if_neg h4]
    cases readString lim (c :: rest) with
    | none => exact .inl rfl
    | some p => exact .inr ⟨c, rest, rfl, .inr ⟨h1, .inr (.inr (.inr ⟨p.1, p.2, rfl, rfl⟩))⟩⟩

theorem step_length {lim inp st inp' st'} (h : step lim inp st = .cont inp' st') :
    inp'.length < inp.length := by
  rcases step_token lim inp st with hs | ⟨c, rest, rfl, hs⟩
  · rw [hs] at h; exact absurd h (by simp)
  rw [List.length_cons]
  rcases hs with ⟨_, _, _, _, hs⟩ | ⟨_, ⟨_, _, hr, hs⟩ | hs | hs | ⟨_, _, hr, hs⟩⟩ <;> rw [hs] at h
  · rw [(deliver_cont h).1]; exact Nat.lt_succ_self _
  · rw [(deliver_cont h).1]; exact Nat.lt_succ_of_lt (readInteger_length hr)
  · rw [(StepResult.cont.inj h).1]; exact Nat.lt_succ_self _
  · rw [(StepResult.cont.inj h).1]; exact Nat.lt_succ_self _
  · rw [(deliver_cont h).1]; exact readString_length hr

theorem run_of_reach {lim inp st r} (h : Reach lim inp st r) :
    ∀ f, inp.length < f → run lim f inp st = r := by
  induction h with
  | done hs =>
    intro f hf
    cases f with
    | zero => omega
    | succ f => simp only [run, hs]
  | cont hs _ ih =>
    intro f hf
    cases f with
    | zero => omega
    | succ f =>
      simp only [run, hs]
      exact ih f (by have := step_length hs; omega)

theorem step_int {lim : Nat} {i : Int} (h : small lim (.int i) = true) (rest : Bytes)
    (st : List Item) : step lim (ser (.int i) ++ rest) st = deliver (.int i) rest st := by
  simp only [ser, step, List.cons_append, List.append_assoc, List.nil_append]
  rw [if_neg (by decide), if_pos trivial, readInteger_decInt lim i rest (of_decide_eq_true h)]

/-- whatever `readString` accepts starts with a digit, so `step` takes it for a string -/
theorem step_string {lim : Nat} {inp b rest' : Bytes} {st : List Item}
    (h : readString lim inp = some (b, rest')) : step lim inp st = deliver (.bytes b) rest' st := by
  obtain ⟨ds, rfl, hne, hd, _⟩ := readString_iff.mp h
  obtain ⟨d, t, rfl⟩ := List.exists_cons_of_ne_nil hne
  -- the markers `e`, `i`, `d`, `l` are not digits
  have hm : ∀ c, isDigit c = false → d ≠ c := fun c hc e => by
    rw [← e, hd d List.mem_cons_self] at hc; cases hc
  rw [List.cons_append] at h ⊢
  rw [step, if_neg (hm 101 rfl), if_neg (hm 105 rfl), if_neg (hm 100 rfl), if_neg (hm 108 rfl), h]

theorem step_bytes {lim : Nat} {b : Bytes} (h : small lim (.bytes b) = true) (rest : Bytes)
    (st : List Item) : step lim (ser (.bytes b) ++ rest) st = deliver (.bytes b) rest st :=
  step_string (readString_serBytes lim b rest (of_decide_eq_true h))

theorem deliver_nonempty (v : BVal) (rest : Bytes) (x : Item) (st : List Item) :
    deliver v rest (x :: st) = .cont rest (.val v :: x :: st) := by
  simp [deliver]

def pushVals (l : List BVal) (st : List Item) : List Item := l.foldl (fun s v => .val v :: s) st

def pushPairs (kvs : List (Bytes × BVal)) (st : List Item) : List Item :=
  kvs.foldl (fun s p => .val p.2 :: .val (.bytes p.1) :: s) st

theorem popUntil_pushVals (l : List BVal) (st : List Item) (acc : List BVal) :
    popUntil (pushVals l st) acc = popUntil st (l ++ acc) := by
  induction l generalizing st acc with
  | nil => rfl
  | cons v t ih =>
    simp only [pushVals, List.foldl_cons] at ih ⊢
    rw [ih]; simp [popUntil]

theorem serKvs_eq_map (kvs : List (Bytes × BVal)) :
    serKvs kvs = kvs.map fun p => (p.1, serBytes p.1 ++ ser p.2) := by
  induction kvs with
  | nil => rfl
  | cons p t ih => obtain ⟨k, v⟩ := p; simp [serKvs, ih]

theorem serKvs_keys (kvs : List (Bytes × BVal)) : (serKvs kvs).map (·.1) = kvs.map (·.1) := by
  rw [serKvs_eq_map, List.map_map]; rfl

theorem keysAsc_of_canon {kvs : List (Bytes × BVal)} (h : canon (.dict kvs) = true) :
    keysAsc (kvs.map (·.1)) = true := ((Bool.and_eq_true _ _).mp h).1

theorem ser_dict_canon (kvs : List (Bytes × BVal)) (h : keysAsc (kvs.map (·.1)) = true) :
    ser (.dict kvs) = 100 :: serEntries kvs ++ [101] := by
  rw [← serKvs_keys] at h
  simp only [ser, serEntries, isort_of_keysAsc _ h]

theorem serEntries_cons (k : Bytes) (v : BVal) (t : List (Bytes × BVal)) :
    serEntries ((k, v) :: t) = serBytes k ++ ser v ++ serEntries t := by
  simp [serEntries, serKvs]

theorem pushPairs_eq : ∀ (kvs : List (Bytes × BVal)) (st : List Item),
    pushPairs kvs st = pushVals (flatPairs kvs) st
  | [], _ => rfl
  | _ :: t, _ => pushPairs_eq t _

theorem serEntries_eq : ∀ kvs : List (Bytes × BVal), serEntries kvs = serList (flatPairs kvs)
  | [] => rfl
  | (k, v) :: t => by
    rw [serEntries_cons, flatPairs, serList, serList, ser, serEntries_eq t, List.append_assoc]

/-- The loop, started on the serialisation of `v` in any context, delivers `v` to that context.
    In continuation style (whatever the loop reaches after delivering `v` it reaches from
    `ser v ++ rest`): an item of a container is parsed on the stack its predecessors left, and the
    loop goes on after it. -/
def Decodes (lim : Nat) (v : BVal) : Prop :=
  ∀ rest st r, ReachR lim (deliver v rest st) r → Reach lim (ser v ++ rest) st r

theorem decodes_of_step {lim : Nat} {v : BVal}
    (h : ∀ rest st, step lim (ser v ++ rest) st = deliver v rest st) : Decodes lim v :=
  fun rest st _ hr => reach_of_step (h rest st ▸ hr)

theorem reach_list {lim : Nat} : ∀ {l : List BVal}, (∀ v ∈ l, Decodes lim v) → ∀ tail x st r,
    Reach lim tail (pushVals l (x :: st)) r → Reach lim (serList l ++ tail) (x :: st) r
  | [], _, _, _, _, _, h => h
  | v :: t, hl, tail, x, st, r, h => by
    rw [serList, List.append_assoc]
    refine hl v List.mem_cons_self _ _ _ ?_
    rw [deliver_nonempty]
    exact reach_list (fun w hw => hl w (List.mem_cons_of_mem _ hw)) tail (.val v) (x :: st) r h

theorem reach_container {lim : Nat} {c : UInt8} {o : Item} {l : List BVal} {elem : BVal}
    (hl : ∀ v ∈ l, Decodes lim v) (hopen : ∀ rest st, step lim (c :: rest) st = .cont rest (o :: st))
    (hclose : ∀ st, popUntil (o :: st) l = some (elem, st)) (rest : Bytes) (st : List Item)
    (r : Option BVal) (h : ReachR lim (deliver elem rest st) r) :
    Reach lim (c :: (serList l ++ 101 :: rest)) st r := by
  refine .cont (hopen _ st) (reach_list hl _ o st r (reach_of_step ?_))
  simp only [step, if_true, popUntil_pushVals, List.append_nil, hclose st]
  exact h

theorem decodes_entries {lim : Nat} {kvs : List (Bytes × BVal)}
    (h : ∀ p ∈ kvs, canon p.2 = true → small lim p.2 = true → Decodes lim p.2)
    (hc : canonKvs kvs = true) (hs : smallKvs lim kvs = true) : ∀ v ∈ flatPairs kvs, Decodes lim v :=
  forall_mem_flatPairs.mpr fun p hp =>
    have ⟨hk, hv⟩ := smallKvs_iff.mp hs p hp
    ⟨decodes_of_step (step_bytes (decide_eq_true hk)), h p hp (canonKvs_iff.mp hc p hp) hv⟩

theorem reach_ser (lim : Nat) : ∀ v : BVal, canon v = true → small lim v = true → Decodes lim v :=
  BVal.induct
    (fun _ _ hs => decodes_of_step (step_int hs)) (fun _ _ hs => decodes_of_step (step_bytes hs))
    (fun l ih hc hs rest st r h => by
      rw [show ser (.list l) ++ rest = 108 :: (serList l ++ 101 :: rest) by simp [ser]]
      exact reach_container (o := .lst)
        (fun v hv => ih v hv (canonList_iff.mp hc v hv) (smallList_iff.mp hs v hv))
        (fun _ _ => rfl) (fun _ => rfl) rest st r h)
    (fun kvs ih hc hs rest st r h => by
      obtain ⟨hk, hc⟩ := (Bool.and_eq_true _ _).mp hc
      rw [show ser (.dict kvs) ++ rest = 100 :: (serList (flatPairs kvs) ++ 101 :: rest) by
        simp [ser_dict_canon kvs hk, serEntries_eq]]
      exact reach_container (o := .dct) (decodes_entries ih hc hs) (fun _ _ => rfl)
        (fun st => by rw [popUntil, listToDict_flatPairs kvs (keysAsc_nodup _ hk)]; rfl) rest st r h)

theorem reach_serList (lim : Nat) : ∀ (l : List BVal), canonList l = true → smallList lim l = true →
    ∀ tail x st r, Reach lim tail (pushVals l (x :: st)) r →
      Reach lim (serList l ++ tail) (x :: st) r :=
  fun _ hc hs => reach_list fun v hv =>
    reach_ser lim v (canonList_iff.mp hc v hv) (smallList_iff.mp hs v hv)

theorem reach_serKvs (lim : Nat) : ∀ (kvs : List (Bytes × BVal)), canonKvs kvs = true →
    smallKvs lim kvs = true →
    ∀ tail x st r, Reach lim tail (pushPairs kvs (x :: st)) r →
      Reach lim (serEntries kvs ++ tail) (x :: st) r :=
  fun kvs hc hs tail x st r h => by
    rw [serEntries_eq]
    exact reach_list (decodes_entries (fun p _ => reach_ser lim p.2) hc hs) tail x st r
      (pushPairs_eq kvs _ ▸ h)

theorem parse_ser (lim : Nat) (v : BVal) (hc : canon v = true) (hs : small lim v = true) :
    parse lim (ser v) = some v := by
  unfold parse
  apply run_of_reach _ _ (Nat.lt_succ_self _)
  have := reach_ser lim v hc hs [] [] (some v) (by simp [deliver, ReachR])
  simpa using this

end Torf.Bencode
