/-
  Helper lemmas for the torrent side of C13 with arbitrary (foreign) tracker / webseed metainfo:
  what C16's getters (`Torf.Lists.getTrackers`, `urlsReplace`) return on metainfo that torf's own
  setters did not write — in closed form, as a value of `Except` (`viewOfMeta_eq`): a getter succeeds
  iff every URL it meets is acceptable, then shows the coerced URLs at their first occurrences, and
  raises URLError otherwise — and the `String` ↔ `List Char` transport that leads there.
-/
import Torf.Lemmas.Lists
import Torf.Lemmas.MagnetUri
import Torf.Lemmas.MagnetHash
import Torf.Spec.MagnetTorrent

namespace Torf.Magnet
open Torf.Lists (Tiers readd accepts tiersInsert tiersAddAll getTrackers rawTiers)

theorem map_toList_ofList (l : List Str) : (l.map String.ofList).map String.toList = l := by
  simp [List.map_map]

theorem spaceToPlus_toList (u : String) : (Lists.spaceToPlus u).toList = plusForSpace u.toList := by
  simp [Lists.spaceToPlus, plusForSpace]

theorem map_spaceToPlus_toList (xs : List String) :
    (xs.map Lists.spaceToPlus).map String.toList = (xs.map String.toList).map plusForSpace := by
  simp [List.map_map, Function.comp_def, spaceToPlus_toList]

theorem accepts_isUrlS (isUrl : Str → Bool) (u : String) :
    accepts (isUrlS isUrl) u = urlAccepts isUrl u.toList := by
  simp [accepts, urlAccepts, isUrlS, spaceToPlus_toList]

theorem all_accepts_isUrlS (isUrl : Str → Bool) (us : List String) :
    (∀ u ∈ us, accepts (isUrlS isUrl) u = true) ↔ (us.map String.toList).all (urlAccepts isUrl) = true := by
  simp only [List.all_map, List.all_eq_true, Function.comp_apply, accepts_isUrlS]

/-- `URLs(us)` keeps what `readd` keeps (Lemmas/ListsUrl); read as `List Char` and with the URLs known
    elsewhere in front, that filter is C14's accumulating loop `dedup`. -/
theorem readd_toList (known acc xs : List String) :
    (known ++ readd known acc xs).map String.toList =
      dedup ((known ++ acc).map String.toList) (xs.map String.toList) := by
  induction xs generalizing acc with
  | nil => rfl
  | cons x xs ih =>
    simp only [readd, List.map_cons, dedup, mem_map_inj (fun _ _ => String.toList_injective), List.mem_append,
      Or.comm (a := x ∈ acc)]
    split
    · exact ih acc
    · rw [ih, ← List.append_assoc, List.map_append, List.map_singleton]

theorem dedup_append (acc a b : List Str) : dedup acc (a ++ b) = dedup (dedup acc a) b := by
  induction a generalizing acc with
  | nil => rfl
  | cons c cs ih =>
    simp only [List.cons_append, dedup]
    split <;> exact ih _

-- C16's predicate, on `String`; the theorems about `TorrentMeta` below bind their own
-- `isUrl : Str → Bool` (which hides this one) and hand `isUrlS isUrl` to C16's routines
variable {isUrl : String → Bool}

theorem tiersInsert_flat {T T' : Tiers} {us : List String}
    (hr : tiersInsert isUrl T T.length (.list us) = .ok T') :
    T'.flatten.map String.toList =
      dedup (T.flatten.map String.toList) ((us.map String.toList).map plusForSpace) := by
  obtain ⟨-, rfl⟩ := ite_ok_iff.1 (Lists.tiersInsert_spec T _ _ ▸ hr)
  rw [← map_spaceToPlus_toList, ← List.append_nil T.flatten, ← readd_toList, List.append_nil]
  dsimp only [Lists.tierValUrls]
  -- what `readd` keeps goes in as a tier at the end (`T.length`), unless it keeps nothing
  split
  · rw [‹readd _ _ _ = []›, List.append_nil]
  · simp [Lists.clampIdx_length, Lists.splice]

theorem tiersAddAll_flat {acc T' : Tiers} {ts : Tiers}
    (hr : tiersAddAll isUrl acc (ts.map .list) = .ok T') :
    T'.flatten.map String.toList =
      dedup (acc.flatten.map String.toList) ((ts.flatten.map String.toList).map plusForSpace) := by
  induction ts generalizing acc with
  | nil => cases hr; rfl
  | cons t ts ih =>
    simp only [List.map_cons, tiersAddAll] at hr
    split at hr
    · cases hr
    · rename_i T1 h1
      rw [ih hr, tiersInsert_flat h1, List.flatten_cons, List.map_append, List.map_append, dedup_append]

theorem rawTiers_miOf (t : TorrentMeta) :
    ((rawTiers (miOf t)).flatten).map String.toList = rawTrackerUrls t := by
  -- an absent `announce-list` is no tiers on either side; what transports is the flat tiers and, through
  -- them, whether `announce` occurs there
  have hF : ((miOf t).announceList.getD []).flatten.map String.toList = (t.announceList.getD []).flatten := by
    cases h : t.announceList <;> simp [miOf, h, ← List.map_flatten]
  unfold rawTiers rawTrackerUrls
  cases ha : t.announce with
  | none => simpa [miOf, ha] using hF
  | some a =>
    have hm : (miOf t).announce = some (String.ofList a) := by simp [miOf, ha]
    have hiff : String.ofList a ∈ ((miOf t).announceList.getD []).flatten ↔
        a ∈ (t.announceList.getD []).flatten := by
      rw [← hF, ← mem_map_inj (fun _ _ => String.toList_injective) (a := String.ofList a), String.toList_ofList]
    simp only [hm, hiff]
    split
    · exact hF
    · simp [hF]

theorem trackersOfMeta_flat (isUrl : Str → Bool) (t : TorrentMeta) :
    (trackersOfMeta isUrl t).map List.flatten =
      if (rawTrackerUrls t).all (urlAccepts isUrl) then .ok (flatTrackersSpec t) else .error .url := by
  have hiff := Lists.tiersAddAll_ok_iff (isUrl := isUrlS isUrl) (T := []) (vs := (rawTiers (miOf t)).map .list)
  rw [Lists.flatMap_tierValUrls_list, all_accepts_isUrlS, rawTiers_miOf] at hiff
  unfold trackersOfMeta getTrackers
  cases hT : tiersAddAll (isUrlS isUrl) [] ((rawTiers (miOf t)).map .list) with
  | ok T' =>
    rw [if_pos (hiff.1 ⟨T', hT⟩)]
    show Except.ok (List.flatten _) = _
    rw [← List.map_flatten, tiersAddAll_flat hT, rawTiers_miOf]
    exact congrArg _ (dedup_nil _)
  | error e =>
    obtain rfl := Lists.tiersAddAll_error hT
    rw [if_neg fun h => by obtain ⟨T', h'⟩ := hiff.2 h; cases hT.symm.trans h']
    rfl

theorem webseedsOfMeta_eq (isUrl : Str → Bool) (t : TorrentMeta) :
    webseedsOfMeta isUrl t =
      match Lists.urlsReplace (isUrlS isUrl) [] ((rawWebseedUrls t).map String.ofList) with
      | .ok W => .ok (W.map String.toList)
      | .error e => .error (errOf e) := by
  unfold webseedsOfMeta rawWebseedUrls
  cases t.urlList with
  | absent => rfl
  | str s => by_cases hb : s.all isPySpace = true <;> simp only [hb] <;> rfl
  | list us => rfl

theorem webseedsOfMeta_spec (isUrl : Str → Bool) (t : TorrentMeta) :
    webseedsOfMeta isUrl t =
      if (rawWebseedUrls t).all (urlAccepts isUrl) then .ok (webseedsSpec t) else .error .url := by
  have h := all_accepts_isUrlS isUrl ((rawWebseedUrls t).map String.ofList)
  rw [map_toList_ofList, ← List.all_eq_true] at h
  rw [webseedsOfMeta_eq, Lists.urlsReplace_spec]
  by_cases hc : (rawWebseedUrls t).all (urlAccepts isUrl) = true
  · rw [if_pos hc, if_pos (h.2 hc)]
    have := readd_toList [] [] (((rawWebseedUrls t).map String.ofList).map Lists.spaceToPlus)
    rw [map_spaceToPlus_toList, map_toList_ofList] at this
    exact congrArg Except.ok (this.trans (dedup_nil _))
  · rw [if_neg hc, if_neg (mt h.1 hc)]; rfl

theorem viewOfMeta_eq (isUrl : Str → Bool) (t : TorrentMeta) :
    viewOfMeta isUrl t =
      if (rawTrackerUrls t ++ rawWebseedUrls t).all (urlAccepts isUrl) then
        .ok { infohash := t.infohash, name := t.name, size := t.size, trackers := flatTrackersSpec t,
              webseeds := webseedsSpec t }
      else .error .url := by
  have : viewOfMeta isUrl t = (do
      let tr ← (trackersOfMeta isUrl t).map List.flatten
      let W ← webseedsOfMeta isUrl t
      pure { infohash := t.infohash, name := t.name, size := t.size, trackers := tr, webseeds := W }) := by
    unfold viewOfMeta; cases trackersOfMeta isUrl t <;> rfl
  rw [this, trackersOfMeta_flat, webseedsOfMeta_spec, List.all_append]
  cases (rawTrackerUrls t).all (urlAccepts isUrl) <;> cases (rawWebseedUrls t).all (urlAccepts isUrl) <;> rfl

theorem view_torrentOk (isUrl : Str → Bool) (hne : isUrl [] = false) (t : TorrentMeta)
    (hb : MetaBaseOk t = true) (v : TorrentView) (hv : viewOfMeta isUrl t = .ok v) :
    TorrentOk isUrl v = true := by
  obtain ⟨h, rfl⟩ := ite_ok_iff.1 (viewOfMeta_eq isUrl t ▸ hv)
  rw [List.all_append, Bool.and_eq_true] at h
  obtain ⟨h1, h2⟩ := coerced_urlOk isUrl hne _ h.1
  obtain ⟨h3, h4⟩ := coerced_urlOk isUrl hne _ h.2
  simp only [MetaBaseOk, Bool.and_eq_true] at hb
  simp only [TorrentOk, Bool.and_eq_true, decide_eq_true_eq]
  exact ⟨⟨⟨⟨hb, h1⟩, h2⟩, h3⟩, h4⟩

end Torf.Magnet
