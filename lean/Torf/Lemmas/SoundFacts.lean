/-
  The pieces of `Sound.soundVal` on the exported value of a validated metainfo: file entries and
  their sum, tiers and the announce list.
-/
import Torf.Lemmas.SoundIter
namespace Torf.Sound
open Torf Torf.Bencode Torf.Validate

theorem pathOk_exported {p : PyVal} {b : BVal} (h : Indexed (fun v => isStrOrBytes v = true) p)
    (he : Exported p b) : pathOk b = true := by
  rcases he.iter_all (g := isBytesB) (by intro n; simp [isStrOrBytes, PyVal.isStr, PyVal.isBytes])
    (fun v b hv hb => by obtain ⟨x, rfl⟩ := hb.strOrBytes hv; rfl) h with ⟨bs, rfl, hall⟩ | rfl | rfl
  · exact hall
  · rfl
  · rfl

theorem fileLen_exported {x : PyVal} {b : BVal} (hx : EntryFacts x) (he : Exported x b) :
    ∃ n : Nat, fileLen? b = some n ∧ (n : Int) = Validate.fileLen x := by
  obtain ⟨e, l, len, p, rfl, hl, hnum, hlen0, hp, hpath⟩ := hx
  obtain ⟨L, rfl, hlook⟩ := he.dict
  obtain ⟨_, hlv, hlb⟩ := hlook.some hl
  obtain ⟨pv, hpv, hpb⟩ := hlook.some hp
  cases hlv.num hnum
  refine ⟨len.toNat, ?_, by rw [fileLen_dict hl hnum]; omega⟩
  simp only [fileLen?, hlb, hpb, pathOk_exported hpath hpv, hlen0, and_self, if_true]

theorem sumFiles_exported : ∀ {l : List PyVal} {b : BVal}, Exported (.list l) b → (∀ x ∈ l, EntryFacts x) →
    ∃ bs, b = .list bs ∧ ∃ n : Nat, sumFiles bs = some n ∧ (n : Int) = (l.map Validate.fileLen).sum
  | [], _, he, _ => ⟨[], he.nil, 0, rfl, rfl⟩
  | x :: t, _, he, hf => by
    obtain ⟨b₁, bs, rfl, h1, ht⟩ := he.cons
    obtain ⟨a, ha, hae⟩ := fileLen_exported (hf x List.mem_cons_self) h1
    obtain ⟨_, hbs, n, hn, hne⟩ := sumFiles_exported ht fun y hy => hf y (List.mem_cons_of_mem _ hy)
    cases hbs
    refine ⟨_, rfl, a + n, ?_, ?_⟩
    · simp only [sumFiles, ha, hn, bind, Option.bind, pure]
    · simp only [List.map_cons, List.sum_cons]; omega

variable (urlOk : Bytes → Bool)

theorem tierB_exported {tier : PyVal} {b : BVal} (h : Tier urlOk tier) (he : Exported tier b) :
    tierB urlOk b = true := by
  rcases he.iter_all (g := urlB urlOk) (by intro n; simp [PyVal.isStr]) (fun v b hv hb => hb.url hv.1 hv.2) h with
    ⟨bs, rfl, hall⟩ | rfl | rfl
  · exact hall
  · rfl
  · rfl

end Torf.Sound
