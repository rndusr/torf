/-
  A structurally recursive (kernel-evaluable) sufficient condition for `Bencode.serOk`:
  every integer and every string length is below 10^4300.  Used for the non-vacuity witnesses of
  C07 (`decNat` is defined by well-founded recursion, which `decide` cannot unfold).
-/
import Torf.Lemmas.BencodeNum
import Torf.Lemmas.BencodeInduct
namespace Torf.Bencode

mutual
/-- every integer and every string length has at most `k + 1` digits -/
def smallS (k : Nat) : BVal → Bool
  | .int i => decide (i.natAbs < 10 ^ (k + 1))
  | .bytes b => decide (b.length < 10 ^ (k + 1))
  | .list l => smallSList k l
  | .dict kvs => smallSKvs k kvs
def smallSList (k : Nat) : List BVal → Bool
  | [] => true
  | v :: t => smallS k v && smallSList k t
def smallSKvs (k : Nat) : List (Bytes × BVal) → Bool
  | [] => true
  | (key, v) :: t => decide (key.length < 10 ^ (k + 1)) && smallS k v && smallSKvs k t
end

theorem smallSList_iff {k : Nat} {l : List BVal} : smallSList k l = true ↔ ∀ v ∈ l, smallS k v = true :=
  all_iff rfl fun _ _ => rfl

theorem smallSKvs_iff {k : Nat} {l : List (Bytes × BVal)} :
    smallSKvs k l = true ↔ ∀ p ∈ l, p.1.length < 10 ^ (k + 1) ∧ smallS k p.2 = true :=
  (all_iff (g := fun p : Bytes × BVal => decide (p.1.length < 10 ^ (k + 1)) && smallS k p.2) rfl
    fun _ _ => rfl).trans (by simp only [Bool.and_eq_true, decide_eq_true_eq])

theorem small_of_smallS (k : Nat) : ∀ v, smallS k v = true → small (k + 1) v = true :=
  BVal.induct (fun _ h => decide_eq_true (decNat_length_le k _ (of_decide_eq_true h)))
    (fun _ h => decide_eq_true (decNat_length_le k _ (of_decide_eq_true h)))
    (fun _ ih h => smallList_iff.mpr fun v hv => ih v hv (smallSList_iff.mp h v hv))
    (fun _ ih h => smallKvs_iff.mpr fun p hp =>
      let ⟨h1, h2⟩ := smallSKvs_iff.mp h p hp; ⟨decNat_length_le k _ h1, ih p hp h2⟩)

theorem smallList_of_smallS (k : Nat) : ∀ l, smallSList k l = true → smallList (k + 1) l = true :=
  fun l => small_of_smallS k (.list l)

theorem smallKvs_of_smallS (k : Nat) : ∀ l, smallSKvs k l = true → smallKvs (k + 1) l = true :=
  fun l => small_of_smallS k (.dict l)

/-- `flatbencode.encode` succeeds when every number has at most 4300 digits -/
theorem serOk_of_smallS (v : BVal) (h : smallS 4299 v = true) : serOk v = true :=
  small_of_smallS 4299 v h

end Torf.Bencode
