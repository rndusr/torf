/-
  `readDict_rep` stated for `read` on the bytes of a canonical document (`read_rep`);
  `read_stream` succeeds on a canonical document that satisfies the round-trip hypotheses
  (progress); what a parser reads back from `dump()` (the key-sorted normal form of
  `encode_dict`'s result).
-/
import Torf.Lemmas.RoundTrip
namespace Torf.ReadStream
open Torf Torf.Bencode Torf.Codec

theorem read_rep {env : Env} {x : Bytes} {enc : List (Bytes × BVal)} {validate : Bool}
    {t : List (PyVal × PyVal)} (hx : parseStrict env.lim x = some (.dict enc))
    (hu : utf8Keys (.dict enc) = true)
    (hpieces : PiecesOk enc) (hpriv : PrivateOk enc) (hdate : DateOk env enc)
    (hinfo : validate = true ∨ (lookup kInfo enc).isSome = true)
    (hr : read env x validate = .ok t) :
    Rep t enc ∧ encodeDict t = .ok (.dict enc) ∧ ensureInfo t = t ∧
      (validate && !env.validate (.dict t)) = false ∧
      ∃ ikvs, lookup kInfo enc = some (.dict ikvs) :=
  have ⟨hp, hc, _⟩ := parseStrict_inv hx
  have h := readDict_rep env enc validate t hc hu hpieces hpriv hdate hinfo (readDict_of_read hp hr)
  ⟨h.1, encodeValue_dict_of_rep h.1 (List.Perm.refl _) (keysAsc_of_canon hc), h.2⟩

/-- on a canonical document with an `info` dict, UTF-8 keys, byte-string pieces and a
    representable date, `read_stream` can only fail in the final `validate()` -/
theorem readDict_progress (env : Env) (enc ikvs : List (Bytes × BVal))
    (hc : canon (.dict enc) = true) (hu : utf8Keys (.dict enc) = true)
    (hpieces : PiecesOk enc) (hdate : DateOk env enc)
    (hl : lookup kInfo enc = some (.dict ikvs)) :
    ∃ t', ∀ validate, readDict env enc validate =
      if validate && !env.validate (.dict t') then .error .metainfo else .ok t' := by
  have hrep := rep_decodeTop enc hc hu hpieces
  obtain ⟨I, hmi, _⟩ := hrep.info hl
  have hassert : ∀ validate, assertInfo (decodeTop enc) validate = .ok () := by
    intro validate; simp [assertInfo, hmi]
  cases hcd : lookup kCreationDate enc with
  | none =>
    refine ⟨ensureInfo (setPrivate enc (decodeTop enc)), fun validate => ?_⟩
    simp only [readDict, hassert, hcd]
  | some cd =>
    obtain ⟨i, rfl, hts⟩ := hdate cd hcd
    refine ⟨ensureInfo (setPrivate enc
      (setStr "creation date" (.datetime (some i)) (ensureInfo (decodeTop enc)))), fun validate => ?_⟩
    simp only [readDict, hassert, hcd, setCreationDate, hts]

/-- … so it succeeds as soon as `validate()` accepts what the unvalidated read returns -/
theorem read_progress {env : Env} {bs : Bytes} {enc ikvs : List (Bytes × BVal)} {validate : Bool}
    (hsize : bs.length ≤ env.maxSize) (hx : parseStrict env.lim bs = some (.dict enc))
    (hu : utf8Keys (.dict enc) = true) (hpieces : PiecesOk enc) (hdate : DateOk env enc)
    (hl : lookup kInfo enc = some (.dict ikvs))
    (hval : validate = true → ∀ t', read env bs false = .ok t' → env.validate (.dict t') = true) :
    ∃ t', read env bs validate = .ok t' := by
  obtain ⟨hp, hc, _⟩ := parseStrict_inv hx
  obtain ⟨t', hrd⟩ := readDict_progress env enc ikvs hc hu hpieces hdate hl
  have hread : ∀ v, read env bs v = readDict env enc v := fun v => by
    rw [read_eq, if_neg (Nat.not_lt.mpr hsize), hp]
  refine ⟨t', ?_⟩
  cases validate with
  | false => rw [hread, hrd]; rfl
  | true => rw [hread, hrd, hval rfl t' (by rw [hread, hrd]; rfl)]; rfl

theorem dump_parse {env : Env} {md : List (PyVal × PyVal)} {validate : Bool} {bs : Bytes}
    (hw : wf (.dict (ensureInfo md)) = true) (h : dump env md validate = .ok bs) :
    ∃ ukvs, encodeDict (ensureInfo md) = .ok (.dict ukvs) ∧
      parseStrict env.lim bs = some (norm (.dict ukvs)) ∧ utf8Keys (norm (.dict ukvs)) = true := by
  obtain ⟨u, hu, hs, rfl⟩ := dump_ok h
  obtain ⟨es, _, rfl⟩ := encodeValue_dict_ok hu
  exact ⟨_, hu, parseStrict_ser_norm _ _ (uniq_encodeValue _ _ hu hw) hs,
    utf8Keys_norm _ (utf8Keys_encodeValue _ _ hu)⟩

end Torf.ReadStream
