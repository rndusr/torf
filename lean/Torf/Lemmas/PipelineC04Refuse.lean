/-
  Torf.Lemmas.PipelineC04Refuse — refused thread starts (C04).
  * `InvRR`: if the reader's start is refused nothing else is ever started; main raises that
    RuntimeError.
  * `InvR`: the control and janitor invariants of C03 also hold when only non-vital hashers are
    refused (a refused hasher is tracked by the pool but never runs; the janitor prunes it like a
    finished one), hence: when main returns, no thread is running.
-/
import Torf.Lemmas.PipelineC04Inv
namespace Torf.Pipeline

structure InvRR (s : State) : Prop where
  pc : s.main = MPc.startReaderChk ∨ s.main = MPc.startReader ∨
    s.main = MPc.finished (.raised (.startRefused .reader))
  r : s.rpc = RPc.notStarted ∨ s.rpc = RPc.refused
  h : ∀ (i : Nat) (p : HPc), s.hs[i]? = some p → p = HPc.notStarted
  j : s.jan = JPc.notStarted

theorem InvRR.init (cfg : Cfg) : InvRR (init cfg) :=
  ⟨.inl rfl, .inl rfl, fun _ _ => init_hs, rfl⟩

theorem InvRR.step {cfg : Cfg} {s s' : State} (hrr : Tid.reader ∈ cfg.refuse) (h : InvRR s)
    (hs : StepG cfg s s') : InvRR s' := by
  obtain ⟨pc, r, hh, j⟩ := h
  cases hs with
  | main h' =>
    -- main steps, so it has not raised yet: it is before the start of the reader
    have hp : preReader s.main = true := by
      rcases pc with pc | pc | pc
      · rw [pc]; rfl
      · rw [pc]; rfl
      · have := h'.not_terminal
        rw [terminal, pc] at this
        cases this
    cases h' with
    | refReader hm hr => exact ⟨.inr (.inr rfl), .inr rfl, hh, j⟩
    | ok h'' hR _ _ =>
      cases h'' with
      | startReaderChk hm => exact ⟨.inr (.inl rfl), r, hh, j⟩
      | startReader hm => exact absurd hrr (hR hm)
      | _ => rw [‹s.main = _›] at hp; cases hp
    | _ => rw [‹s.main = _›] at hp; cases hp
  -- no other thread has been started, so none can step
  | reader h' =>
    have := h'.ctl.1.was
    rcases r with r | r <;> rw [r] at this <;> cases this
  | hasher i h' =>
    obtain ⟨p, hp, hr⟩ := h'.alive
    rw [hh i p hp] at hr; cases hr
  | janitor h' =>
    have := h'.ctl.1.was
    rw [j] at this; cases this

theorem InvRR.of_reachable {cfg : Cfg} {s : State} (hrr : Tid.reader ∈ cfg.refuse)
    (h : Reachable cfg s) : InvRR s :=
  h.inductionG (InvRR.init cfg) fun _ _ _ hp hs => hp.step hrr hs

theorem InvRR.terminal {s : State} (h : InvRR s) (ht : terminal s = true) :
    result? s = some (.raised (.startRefused .reader)) ∧ allThreadsDone s = true := by
  obtain ⟨r, hm⟩ := result_of_terminal ht
  have hpc := h.pc
  rw [hm] at hpc
  simp only [reduceCtorEq, MPc.finished.injEq, false_or] at hpc
  subst hpc
  refine ⟨by simp [result?, hm], allThreadsDone_of ?_ (by rw [h.j]; rfl) fun i p hi => ?_⟩
  · rcases h.r with h' | h' <;> rw [h'] <;> rfl
  · rw [h.h i p hi]; rfl

theorem InvB3.mainG {cfg : Cfg} {s s' : State} (hnv : NonVital cfg) (hB : InvR1 cfg s)
    (h : InvB3 cfg s) (hs : MainStepG cfg s s') : InvB3 cfg s' := by
  rcases hs.nonVital hnv with h' | ⟨i, m, hm, -, hm', rfl⟩
  · exact h.mainStep hB h'
  · rcases hm' with ⟨-, rfl⟩ | ⟨-, rfl⟩ <;> exact h.startHasher hB hm nofun nofun

structure InvR (cfg : Cfg) (s : State) : Prop where
  b1 : InvR1 cfg s
  b3 : InvB3 cfg s

theorem InvB3.janitorG {cfg : Cfg} {s s' : State} (hB : InvR1 cfg s) (h : InvB3 cfg s)
    (hs : JanitorStep s s') : InvB3 cfg s' :=
  h.janitor_of_trk hB.trk hs

theorem InvR.step {cfg : Cfg} {s s' : State} (hnv : NonVital cfg) (h : InvR cfg s)
    (hs : StepG cfg s s') : InvR cfg s' := by
  refine ⟨h.b1.step hnv hs, ?_⟩
  cases hs with
  | main h' => exact h.b3.mainG hnv h.b1 h'
  | reader h' => exact h.b3.reader h'
  | hasher i h' => exact h.b3.hasher h'
  | janitor h' => exact h.b3.janitorG h.b1 h'

theorem InvR.of_reachable {cfg : Cfg} {s : State} (hnv : NonVital cfg) (h : Reachable cfg s) :
    InvR cfg s :=
  h.inductionG ⟨.init cfg, .init cfg⟩ fun _ _ _ hp hs => hp.step hnv hs

theorem InvR.threads_done {cfg : Cfg} {s : State} (h : InvR cfg s) (ht : terminal s = true) :
    allThreadsDone s = true :=
  h.b3.threads_done h.b1.rjoined ht

end Torf.Pipeline
