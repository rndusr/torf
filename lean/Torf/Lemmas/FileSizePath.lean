/-
  Helper lemmas for C20 on spelled paths: the code on a spelled path is the code on the tree the
  spelling shows; the paths it hands to the OS (`fsPath`: pathlib's tidying, then the listed names)
  denote what the spelling denotes, and one remaining link budget serves every listed path below a
  resolved directory.  (Path resolution: Torf.Lemmas.ReuseSearch; what leaving out empty and `.`
  components does to it: Torf.Lemmas.PathThin.)
-/
import Torf.Model.FileSizePath
import Torf.Lemmas.PathThin
import Torf.Lemmas.FileSize
namespace Torf.FileSize
open Torf.Paths (PPath pathlibNorm normpath)
open Torf.Reuse (walk Loc maxLinks resolve)

theorem verifyFilesizeAt_eq_spec (w : Reuse.World) (dt : Nat → Nat) (t : Torrent) (hwf : WF t)
    (p : PPath) (cb : Callback) (T : FS)
    (hdir : t.isSingle = true → Reuse.isdir w p = isDirEntry (T []))
    (hview : ∀ f ∈ t.listed, viewOf w dt p f.path = T f.path) :
    verifyFilesizeAt false w dt t p cb = spec t T cb := by
  rw [← verifyFilesize_eq_spec t hwf]
  unfold verifyFilesizeAt verifyFilesize
  simp only [Bool.false_eq_true, if_false, loop_congr t _ T cb _ _ hview]
  cases hs : t.isSingle with
  | false => rfl
  | true => rw [hdir hs]; rfl

theorem verifyFilesizeAt_dir (w : Reuse.World) (dt : Nat → Nat) (t : Torrent) (hwf : WF t) (p : PPath)
    (cb : Callback) (st : List Nat) (hres : resolve w p = .ok (.dir st)) (k : Nat)
    (hk : ∀ f ∈ t.listed, resolve w (fsPath p f.path) = walk w.fs k st f.path) :
    verifyFilesizeAt false w dt t p cb = spec t (treeAt w.fs dt k (.dir st)) cb :=
  verifyFilesizeAt_eq_spec w dt t hwf p cb _
    (fun _ => by simp [Reuse.isdir, hres, treeAt, Reuse.walk_nil, entryOf, isDirEntry])
    (fun f hf => by simp only [viewOf, treeAt, hk f hf])

theorem resolve_fsPath_nil (w : Reuse.World) (p : PPath) (l : Loc) (h : resolve w p = .ok l) :
    resolve w (fsPath p []) = .ok l := by
  obtain ⟨a, cs⟩ := p
  have hth := thin_filter cs
  unfold fsPath pathlibNorm
  simp only [List.append_nil]
  split
  · -- a relative spelling made of `.` and empty components only: `Path(...)` is `.`; the spelling
    -- is not the empty string, so its first component is a `.`, which may stay
    rename_i hempty
    simp only [Bool.and_eq_true, Bool.not_eq_true', List.isEmpty_iff] at hempty
    obtain ⟨rfl, hnil⟩ := hempty
    rw [hnil] at hth
    have hhd : cs.headD "" ≠ "" := (Reuse.resolve_ok h).1.resolve_left nofun
    have hdot : Thin cs ["."] := by
      cases hth with
      | nil => exact absurd rfl hhd
      | drop c hc hth' =>
        rcases hc with rfl | rfl
        · exact absurd rfl hhd
        · exact .keep "." hth'
    exact resolve_thin w false hdot (.inr (by decide)) h
  · rename_i hempty
    refine resolve_thin w a hth ?_ h
    cases a with
    | true => exact .inl rfl
    | false => exact .inr (headD_ne_empty (by simpa using hempty) (empty_not_mem_tidied cs))

theorem resolve_fsPath_names (w : Reuse.World) (p : PPath) (st : List Nat)
    (h : resolve w p = .ok (.dir st)) :
    ∃ k, k ≤ maxLinks ∧ ∀ names : List String, "" ∉ names →
      resolve w (fsPath p names) = walk w.fs k st names := by
  -- the tidied components lead to `st`; the names are walked on from there
  have hq := walk_thin w.fs _ _ _ _ _ (thin_filter p.comps) (Reuse.resolve_ok h).2
  obtain ⟨k, hk, hkk⟩ := Reuse.walk_append_all w.fs _ _ _ _ hq
  refine ⟨k, hk, fun names hnames => ?_⟩
  cases names with
  | nil => rw [resolve_fsPath_nil w p _ h, Reuse.walk_nil]
  | cons n rest =>
    have hhead : ((p.comps.filter fun c => c != "" && c != ".") ++ n :: rest).headD "" ≠ "" :=
      headD_ne_empty (by simp) fun h =>
        (List.mem_append.mp h).elim (empty_not_mem_tidied p.comps) hnames
    have hfs : fsPath p (n :: rest) =
        ⟨p.abs, (p.comps.filter fun c => c != "" && c != ".") ++ n :: rest⟩ := by
      simp [fsPath, pathlibNorm]
    rw [hfs, Reuse.resolve_of_head (.inr hhead)]
    exact hkk (n :: rest)

end Torf.FileSize
