/-
  `Rep D kvs`: the Python dict `D` (all keys `str`) is encoded entry by entry, in the same order,
  into `kvs` (keys UTF-8 encoded, values through `encode_value`).  Python-level dict updates on `D`
  correspond to the same updates on `kvs`, lookups in `D` to lookups in `kvs` (`Rep.lookup_cases`);
  `encode_dict` of `D` is the key-sorted `kvs`.
-/
import Torf.Lemmas.Codec
import Torf.Lemmas.Utf8Order
namespace Torf.Codec
open Torf Torf.Bencode

inductive Rep : List (PyVal × PyVal) → List (Bytes × BVal) → Prop
  | nil : Rep [] []
  | cons {s : String} {m : PyVal} {w : BVal} {D : List (PyVal × PyVal)} {kvs : List (Bytes × BVal)} :
      encodeValue m = .ok w → Rep D kvs → Rep ((.str s, m) :: D) ((utf8Enc s, w) :: kvs)

variable {D : List (PyVal × PyVal)} {kvs : List (Bytes × BVal)}

theorem Rep.encodeKvs (h : Rep D kvs) :
    ∃ es, Codec.encodeKvs D = .ok es ∧ es.map encKey = kvs := by
  induction h with
  | nil => exact ⟨[], rfl, rfl⟩
  | @cons s m w D kvs hm _ ih =>
    obtain ⟨es, hes, hk⟩ := ih
    exact ⟨(s, w) :: es, by simp [Codec.encodeKvs, hm, hes], by simp [encKey, hk]⟩

theorem rep_of_encodeKvs : ∀ (D : List (PyVal × PyVal)) (es : List (String × BVal)),
    encodeKvs D = .ok es → Rep D (es.map encKey)
  | [], es, h => by
    simp only [encodeKvs, Except.ok.injEq] at h; subst h; exact Rep.nil
  | (k, v) :: t, es, h => by
    obtain ⟨s, v', t', rfl, hv, ht, rfl⟩ := encodeKvs_cons_ok h
    exact Rep.cons hv (rep_of_encodeKvs t t' ht)

theorem Rep.keys (h : Rep D kvs) : kvs.map (·.1) = (strKeys D).map utf8Enc := by
  obtain ⟨es, hes, rfl⟩ := h.encodeKvs
  rw [(encodeKvs_keys hes).strKeys_eq, List.map_map, List.map_map]
  rfl

theorem keyLe_encKey {β : Type} (a b : String × β) : keyLe (encKey a) (encKey b) = strLe a b := by
  simp only [keyLe, strLe, encKey]
  exact decide_eq_decide.mpr (utf8_order a.1 b.1)

theorem isort_keyLe_of_perm {β : Type} (l' l : List (Bytes × β)) (hp : l'.Perm l)
    (ha : keysAsc (l.map (·.1)) = true) : isort keyLe l' = l := by
  have hn : (l'.map (·.1)).Nodup := (hp.map (·.1)).nodup_iff.mpr (keysAsc_nodup _ ha)
  have h2 : isort keyLe l' = isort keyLe l := by
    apply isort_eq_of_perm keyLe keyLe_total keyLe_trans l' l hp
    intro a b ha' hb' hab hba
    simp only [keyLe, decide_eq_true_eq] at hab hba
    exact eq_of_nodup_map hn ha' hb' (List.le_antisymm hab hba)
  rw [h2, isort_of_keysAsc l ha]

theorem encodeValue_dict_of_rep {D : List (PyVal × PyVal)} {kvs' kvs : List (Bytes × BVal)}
    (h : Rep D kvs') (hp : kvs'.Perm kvs) (ha : keysAsc (kvs.map (·.1)) = true) :
    encodeValue (.dict D) = .ok (.dict kvs) := by
  obtain ⟨es, hes, hk⟩ := h.encodeKvs
  simp only [encodeValue, hes, Except.ok.injEq, BVal.dict.injEq]
  -- the `str` sort of `encode_dict` is the raw byte order of the UTF-8 keys (`utf8_order`)
  rw [← isort_map strLe keyLe encKey keyLe_encKey es, hk]
  exact isort_keyLe_of_perm kvs' kvs hp ha

theorem encodeValue_dict_inv {kvs : List (Bytes × BVal)}
    (h : encodeValue (.dict D) = .ok (.dict kvs)) : ∃ kvs', Rep D kvs' ∧ kvs'.Perm kvs := by
  obtain ⟨es, hes, h⟩ := encodeValue_dict_ok h
  obtain rfl := BVal.dict.inj h
  exact ⟨_, rep_of_encodeKvs D es hes, ((isort_perm strLe es).map encKey).symm⟩

theorem dict_of_encodeValue_dict {m : PyVal} {kvs : List (Bytes × BVal)}
    (h : encodeValue m = .ok (.dict kvs)) : ∃ D, m = .dict D := by
  cases m with
  | dict D => exact ⟨D, rfl⟩
  | list l | tuple l => exact nomatch (encodeSeq_ok h).choose_spec.2
  | float f => cases f <;> simp [encodeValue] at h
  | datetime ts => cases ts <;> simp [encodeValue] at h
  | _ => simp [encodeValue] at h

theorem Rep.setStr (h : Rep D kvs)
    (k : String) {m : PyVal} {w : BVal} (hm : encodeValue m = .ok w) :
    Rep (setStr k m D) (dictSet (utf8Enc k) w kvs) := by
  induction h with
  | nil => exact Rep.cons hm Rep.nil
  | @cons s m' w' D kvs hm' _ ih =>
    simp only [Codec.setStr, dictSet, isStrKey]
    by_cases hs : s = k
    · subst hs; simp only [beq_self_eq_true, if_true]; exact Rep.cons hm ‹_›
    · have h1 : (s == k) = false := beq_eq_false_iff_ne.mpr hs
      have h2 : (utf8Enc s == utf8Enc k) = false :=
        beq_eq_false_iff_ne.mpr fun he => hs (utf8Enc_inj he)
      simp only [h1, h2, Bool.false_eq_true, if_false]
      exact Rep.cons hm' ih

theorem Rep.lookup_cases (h : Rep D kvs) (k : String) :
    (PyVal.lookupStr k D = none ∧ Bencode.lookup (utf8Enc k) kvs = none) ∨
    ∃ m w, PyVal.lookupStr k D = some m ∧ Bencode.lookup (utf8Enc k) kvs = some w ∧
      encodeValue m = .ok w := by
  induction h with
  | nil => exact .inl ⟨rfl, rfl⟩
  | @cons s m' w' D kvs hm' _ ih =>
    simp only [PyVal.lookupStr, Bencode.lookup]
    by_cases hs : k = s
    · subst hs
      rw [if_pos rfl, if_pos rfl]
      exact .inr ⟨m', w', rfl, rfl, hm'⟩
    · rw [if_neg hs, if_neg fun he => hs (utf8Enc_inj he).symm]
      exact ih

theorem Rep.lookup {D : List (PyVal × PyVal)} {kvs : List (Bytes × BVal)} (h : Rep D kvs)
    (k : String) {w : BVal} (hl : lookup (utf8Enc k) kvs = some w) :
    ∃ m, PyVal.lookupStr k D = some m ∧ encodeValue m = .ok w := by
  rcases h.lookup_cases k with ⟨_, h2⟩ | ⟨m, w', h1, h2, h3⟩
  · exact absurd (h2.symm.trans hl) (by simp)
  · exact ⟨m, h1, Option.some.inj (h2.symm.trans hl) ▸ h3⟩

theorem Rep.lookupStr (h : Rep D kvs)
    (k : String) {m : PyVal} (hl : PyVal.lookupStr k D = some m) :
    ∃ w, Bencode.lookup (utf8Enc k) kvs = some w ∧ encodeValue m = .ok w := by
  rcases h.lookup_cases k with ⟨h1, _⟩ | ⟨m', w, h1, h2, h3⟩
  · exact absurd (h1.symm.trans hl) (by simp)
  · exact ⟨w, h2, Option.some.inj (h1.symm.trans hl) ▸ h3⟩

theorem Rep.lookupStr_none (h : Rep D kvs)
    (k : String) (hl : PyVal.lookupStr k D = none) : Bencode.lookup (utf8Enc k) kvs = none := by
  rcases h.lookup_cases k with ⟨_, h2⟩ | ⟨m, w, h1, _, _⟩
  · exact h2
  · exact absurd (h1.symm.trans hl) (by simp)

end Torf.Codec
