/-
  `validate`, first half: the rules shared by single- and multi-file torrents and the announce-list loops.
-/
import Torf.Lemmas.ValidateBase
namespace Torf.Validate
open Torf Torf.Export

theorem assertType_info {items info : Items}
    (hinfo : PyVal.lookupStr "info" items = some (.dict info)) (x : String) (r : Rule) :
    assertType (.dict items) [.s "info", .s x] r = assertFinal (.dict info) (.s x) r := by
  rw [assertType_step (getItem_dict_s_some hinfo), assertType_single]

theorem isDict_iff {v : PyVal} : v.isDict = true ↔ ∃ kvs, v = .dict kvs := by
  cases v <;> simp [PyVal.isDict]

theorem isBytes_iff {v : PyVal} : v.isBytes = true ↔ ∃ b, v = .bytes b := by
  cases v <;> simp [PyVal.isBytes]

theorem isStr_iff {v : PyVal} : v.isStr = true ↔ ∃ s, v = .str s := by
  cases v <;> simp [PyVal.isStr]

theorem pyIter_of_isIterable {v : PyVal} (h : v.isIterable = true) : ∃ xs, pyIter v = some xs := by
  cases v with
  | dict _ | list _ | tuple _ | bytes _ => exact ⟨_, rfl⟩
  | _ => cases h

theorem iterE_eq {v : PyVal} {xs : List PyVal} (h : pyIter v = some xs) : iterE v = .ok xs := by
  simp only [iterE, h, pure, Except.pure]

structure CommonFacts (urlOk : Bytes → Bool) (items info : Items) : Prop where
  hinfo : PyVal.lookupStr "info" items = some (.dict info)
  name : ∃ v, PyVal.lookupStr "name" info = some v ∧ isStrOrBytes v = true
  pieceLength : ∃ v, PyVal.lookupStr "piece length" info = some v ∧ v.isInt = true ∧
    isDivisibleBy16KiB v = true
  pieces : ∃ b, PyVal.lookupStr "pieces" info = some (.bytes b)
  announce : ∀ v, PyVal.lookupStr "announce" items = some v → v.isStr = true ∧ isUrl urlOk v = true
  announceList : ∀ v, PyVal.lookupStr "announce-list" items = some v → v.isIterable = true

variable (urlOk : Bytes → Bool) {X : Prop}

theorem checkCommon_checks {items : Items} :
    Checks X (∃ info, CommonFacts urlOk items info) (checkCommon urlOk (.dict items)) := by
  unfold checkCommon
  rw [assertType_single]
  refine (assertFinal_dict_checks _).bind fun h1 => ?_
  obtain ⟨iv, hiv, hp⟩ := h1.2 rfl
  obtain ⟨info, rfl⟩ := isDict_iff.mp hp.1
  rw [assertType_info hiv, assertType_info hiv, assertType_info hiv, assertType_info hiv,
    assertType_single, assertType_single, assertType_single]
  refine (assertFinal_dict_checks _).bind fun h2 => (assertFinal_dict_checks _).bind fun h3 =>
    (assertFinal_dict_checks _).bind fun h4 => (assertFinal_dict_checks _).bind fun _ =>
    (assertFinal_dict_checks _).bind fun _ => (assertFinal_dict_checks _).bind fun h7 =>
    (assertFinal_dict_checks _).imp fun h8 => ?_
  obtain ⟨nv, hnv, hnp⟩ := h2.2 rfl
  obtain ⟨pv, hpv, hpp⟩ := h3.2 rfl
  obtain ⟨bv, hbv, hbp⟩ := h4.2 rfl
  obtain ⟨b, rfl⟩ := isBytes_iff.mp hbp.1
  exact ⟨info, hiv, ⟨nv, hnv, hnp.1⟩, ⟨pv, hpv, hpp.1, hpp.2 _ rfl⟩, ⟨b, hbv⟩,
    fun v hv => ⟨(h7.1 v hv).1, (h7.1 v hv).2 _ rfl⟩, fun v hv => (h8.1 v hv).1⟩

/-- an iterable every position of which holds a value with `Q`: what the loops over the positions of `p`
    (`for j, _ in enumerate(p): assert_type(md, (…, j), …)`) establish.  Positions, not elements: `assert_type`
    subscripts `p[j]`, which for a mapping is not what the loop variable sees (finding D07f); for everything else
    the two agree (`Indexed.mem`, `Indexed.of_mem`). -/
def Indexed (Q : PyVal → Prop) (p : PyVal) : Prop :=
  p.isIterable = true ∧ ∃ xs, pyIter p = some xs ∧ ∀ j, j < xs.length → ∃ v, getItem p (.i j) = .val v ∧ Q v

/-- unless `fl` is a mapping, the `j`-th element a `for` loop sees is `fl[j]` -/
theorem getItem_of_iter {fl : PyVal} {xs : List PyVal} (hd : fl.isDict = false)
    (hi : pyIter fl = some xs) {j : Nat} {x : PyVal} (hx : xs[j]? = some x) :
    getItem fl (.i j) = .val x := by
  cases fl with
  | dict _ => cases hd
  | list l | tuple l =>
    cases hi
    simp only [Validate.getItem, hx]
  | bytes b | str b =>
    cases hi
    simp only [List.getElem?_map, Option.map_eq_some_iff] at hx
    obtain ⟨y, hy, rfl⟩ := hx
    simp only [Validate.getItem, hy]
  | _ => cases hi

theorem Indexed.mem {Q : PyVal → Prop} {p : PyVal} {xs : List PyVal} (h : Indexed Q p) (hd : p.isDict = false)
    (hxs : pyIter p = some xs) : ∀ v ∈ xs, Q v := fun v hv => by
  obtain ⟨_, xs', hxs', hall⟩ := h
  cases hxs.symm.trans hxs'
  obtain ⟨j, hj⟩ := List.getElem?_of_mem hv
  obtain ⟨v', hv', hq⟩ := hall j (List.getElem?_eq_some_iff.mp hj).1
  cases (getItem_of_iter hd hxs hj).symm.trans hv'
  exact hq

theorem Indexed.of_mem {Q : PyVal → Prop} {p : PyVal} {xs : List PyVal} (hp : p.isIterable = true)
    (hd : p.isDict = false) (hxs : pyIter p = some xs) (h : ∀ v ∈ xs, Q v) : Indexed Q p :=
  ⟨hp, xs, hxs, fun _ hj =>
    have hx := List.getElem?_eq_getElem hj
    ⟨_, getItem_of_iter hd hxs hx, h _ (List.mem_of_getElem? hx)⟩⟩

theorem Checks.indexed {p : PyVal} {f : Nat → Except ErrKind Unit} {Q : PyVal → Prop} (hp : p.isIterable = true)
    (h : ∀ j, Checks X (∃ v, getItem p (.i j) = .val v ∧ Q v) (f j)) :
    Checks X (Indexed Q p) (iterE p >>= fun xs => (List.range xs.length).forM f) := by
  obtain ⟨xs, hxs⟩ := pyIter_of_isIterable hp
  rw [iterE_eq hxs]
  exact (Checks.forM fun j _ => h j).imp fun hall => ⟨hp, xs, hxs, fun j hj => hall j (List.mem_range.mpr hj)⟩

theorem assertFinal_index_checks {p : PyVal} (j : Nat) {r : Rule} (hm : r.mustExist = true) :
    Checks X (∃ v, getItem p (.i j) = .val v ∧ r.Holds v) (assertFinal p (.i j) r) :=
  (assertFinal_checks (keyFits_i p j) r).imp fun h => h.2 hm

def Tier : PyVal → Prop := Indexed fun v => v.isStr = true ∧ isUrl urlOk v = true

theorem checkTier_checks {items : Items} {al : PyVal}
    (hal : PyVal.lookupStr "announce-list" items = some al) (i : Nat) :
    Checks X (∃ tier, getItem al (.i i) = .val tier ∧ Tier urlOk tier) (checkTier urlOk (.dict items) i) := by
  have hg := getItem_dict_s_some hal
  unfold checkTier
  rw [assertType_step hg, assertType_single]
  refine (assertFinal_index_checks i rfl).bind fun ⟨tier, htier, hp⟩ => ?_
  simp only [getE_ok hg, getE_ok htier, ok_bind]
  refine (Checks.indexed hp.1 fun j => ?_).imp fun h => ⟨tier, htier, h⟩
  rw [assertType_step hg, assertType_step htier, assertType_single]
  exact (assertFinal_index_checks j rfl).imp fun ⟨v, hv, hp⟩ => ⟨v, hv, hp.1, hp.2 _ rfl⟩

def AnnounceFacts (items : Items) : Prop :=
  ∀ al, PyVal.lookupStr "announce-list" items = some al → Indexed (Tier urlOk) al

theorem checkAnnounceList_checks {items : Items}
    (hal : ∀ v, PyVal.lookupStr "announce-list" items = some v → v.isIterable = true) :
    Checks X (AnnounceFacts urlOk items) (checkAnnounceList urlOk (.dict items) items) := by
  unfold checkAnnounceList
  split
  · rename_i hn
    exact Checks.done fun al hl => nomatch hn.symm.trans hl
  · rename_i al hl
    refine (Checks.indexed (hal al hl) (checkTier_checks urlOk hl)).imp fun h al' hl' => ?_
    cases hl.symm.trans hl'
    exact h

end Torf.Validate
