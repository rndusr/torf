/-
  Helper lemmas for C14, the conversion: why `_infohash_as_base16` yields the 40-digit form of the number a
  valid hash denotes, and what the tracker request carries.  The base-32 branch needs no computation with 160-bit
  numbers: a bounded list of digits of the right length is the fixed-width form of its value (`eq_toDigits`), and
  regrouping keeps the value — a byte is two hex digits (`b16Digits_value`), a quantum of 8 base-32 digits is
  5 bytes since 32 ^ 8 = 256 ^ 5 (`b32Quanta_foldl`) — so what `b32decode` + `b16encode` write are the 40 digits
  of the number that went in (`b32_to_b16_40`).
-/
import Torf.Spec.MagnetHash
import Torf.Lemmas.Basics
namespace Torf.Magnet

theorem map_eq_self {α : Type} {f : α → α} {l : List α} (h : ∀ a ∈ l, f a = a) : l.map f = l :=
  (List.map_congr_left h).trans (List.map_id l)

theorem inR_iff (lo hi : Nat) (c : Char) : inR lo hi c = true ↔ lo ≤ c.toNat ∧ c.toNat ≤ hi := by
  simp [inR]

theorem toNat_ofNat_lt (n : Nat) (h : n < 55296) : (Char.ofNat n).toNat = n := by
  have hv : n.isValidChar := Or.inl h
  simp [Char.ofNat, hv, Char.ofNatAux, Char.toNat]

theorem validHash_iff (v : Str) : validHash v = true ↔
    (v.length = 40 ∧ ∀ c ∈ v, isHexAscii c = true) ∨ (v.length = 32 ∧ ∀ c ∈ v, isB32Ascii c = true) := by
  simp [validHash, Hex40, B32x32]

theorem rev_induction {α : Type} {P : List α → Prop} (nil : P [])
    (append_singleton : ∀ xs d, P xs → P (xs ++ [d])) : ∀ l, P l := by
  intro l
  have : ∀ r : List α, P r.reverse := by
    intro r
    induction r with
    | nil => exact nil
    | cons a t ih => simpa using append_singleton _ a ih
  simpa using this l.reverse

theorem foldl_digits (b : Nat) (ds : List Nat) (a : Nat) :
    ds.foldl (fun a d => a * b + d) a = a * b ^ ds.length + ofDigits b ds := by
  unfold ofDigits
  induction ds generalizing a with
  | nil => simp
  | cons d t ih =>
    simp only [List.foldl_cons, List.length_cons]
    rw [ih (a * b + d), ih (0 * b + d)]
    simp only [Nat.zero_mul, Nat.zero_add, Nat.pow_succ, Nat.add_mul, Nat.add_assoc]
    congr 1
    rw [Nat.mul_assoc, Nat.mul_comm b]

theorem ofDigits_append (b : Nat) (xs ys : List Nat) :
    ofDigits b (xs ++ ys) = ofDigits b xs * b ^ ys.length + ofDigits b ys := by
  conv => lhs; unfold ofDigits
  rw [List.foldl_append, foldl_digits]
  rfl

theorem ofDigits_concat (b : Nat) (xs : List Nat) (d : Nat) :
    ofDigits b (xs ++ [d]) = ofDigits b xs * b + d := by
  rw [ofDigits_append]; simp [ofDigits]

theorem ofDigits_lt (b : Nat) (ds : List Nat) (h : ∀ d ∈ ds, d < b) :
    ofDigits b ds < b ^ ds.length := by
  induction ds using rev_induction with
  | nil => simp [ofDigits]
  | append_singleton xs d ih =>
    rw [ofDigits_concat]
    have h1 := ih (fun x hx => h x (List.mem_append_left _ hx))
    have h2 : d < b := h d (by simp)
    simp only [List.length_append, List.length_cons, List.length_nil, Nat.zero_add, Nat.pow_succ]
    calc ofDigits b xs * b + d < ofDigits b xs * b + b := by omega
      _ = (ofDigits b xs + 1) * b := by rw [Nat.add_mul]; simp
      _ ≤ b ^ xs.length * b := Nat.mul_le_mul_right b h1

/-- the model writes the digits little-endian and reverses them; the proofs see `toDigits` only through this
    equation and `toDigits b 0 x = []` -/
theorem toDigits_succ (b n x : Nat) : toDigits b (n + 1) x = toDigits b n (x / b) ++ [x % b] := by
  simp [toDigits, toDigitsLE]

theorem toDigits_length (b n x : Nat) : (toDigits b n x).length = n := by
  induction n generalizing x with
  | zero => rfl
  | succ n ih => rw [toDigits_succ, List.length_append, ih]; rfl

theorem toDigits_lt (b n x : Nat) (hb : 0 < b) : ∀ d ∈ toDigits b n x, d < b := by
  induction n generalizing x with
  | zero => nofun
  | succ n ih =>
    rw [toDigits_succ]
    intro d hd
    rcases List.mem_append.mp hd with h | h
    · exact ih _ d h
    · obtain rfl := List.mem_singleton.mp h
      exact Nat.mod_lt _ hb

theorem toDigits_ofDigits (b : Nat) (ds : List Nat) (h : ∀ d ∈ ds, d < b) :
    toDigits b ds.length (ofDigits b ds) = ds := by
  induction ds using rev_induction with
  | nil => rfl
  | append_singleton xs d ih =>
    have h2 : d < b := h d (by simp)
    have hb : 0 < b := by omega
    simp only [List.length_append, List.length_cons, List.length_nil, Nat.zero_add]
    rw [toDigits_succ, ofDigits_concat]
    have e1 : (ofDigits b xs * b + d) / b = ofDigits b xs := by
      rw [Nat.add_comm, Nat.add_mul_div_right _ _ hb, Nat.div_eq_of_lt h2, Nat.zero_add]
    have e2 : (ofDigits b xs * b + d) % b = d := by
      rw [Nat.add_comm, Nat.add_mul_mod_self_right, Nat.mod_eq_of_lt h2]
    rw [e1, e2, ih (fun x hx => h x (List.mem_append_left _ hx))]

theorem eq_toDigits {b n x : Nat} {ds : List Nat} (hl : ds.length = n) (hb : ∀ d ∈ ds, d < b)
    (hv : ofDigits b ds = x) : ds = toDigits b n x := by
  rw [← hl, ← hv, toDigits_ofDigits b ds hb]

theorem ofDigits_toDigits (b n x : Nat) (h : x < b ^ n) : ofDigits b (toDigits b n x) = x := by
  induction n generalizing x with
  | zero => simp at h; subst h; rfl
  | succ n ih =>
    have hb : 0 < b := by
      rcases Nat.eq_zero_or_pos b with h0 | h0
      · subst h0; simp at h
      · exact h0
    rw [toDigits_succ, ofDigits_concat, ih]
    · exact Nat.div_add_mod' x b
    · rw [Nat.pow_succ] at h
      exact Nat.div_lt_of_lt_mul (by rwa [Nat.mul_comm] at h)

theorem b16Digits_foldl (bytes : List Nat) (a : Nat) :
    (b16Digits bytes).foldl (fun a d => a * 16 + d) a = bytes.foldl (fun a d => a * 256 + d) a := by
  induction bytes generalizing a with
  | nil => rfl
  | cons b t ih =>
    simp only [b16Digits, List.flatMap_cons, List.foldl_append, List.foldl_cons, List.foldl_nil] at ih ⊢
    rw [show (a * 16 + b / 16) * 16 + b % 16 = a * 256 + b by omega]
    exact ih _

theorem b16Digits_value (bytes : List Nat) : ofDigits 16 (b16Digits bytes) = ofDigits 256 bytes :=
  b16Digits_foldl bytes 0

theorem b16Digits_length (bytes : List Nat) : (b16Digits bytes).length = 2 * bytes.length := by
  induction bytes with
  | nil => rfl
  | cons b t ih => simp only [b16Digits, List.flatMap_cons, List.length_append] at ih ⊢; simp [ih]; omega

theorem b16Digits_lt (bytes : List Nat) (h : ∀ b ∈ bytes, b < 256) : ∀ d ∈ b16Digits bytes, d < 16 := by
  intro d hd
  simp only [b16Digits, List.mem_flatMap, List.mem_cons, List.not_mem_nil, or_false] at hd
  obtain ⟨b, hb, rfl | rfl⟩ := hd
  · have := h b hb; omega
  · omega

theorem length_lt_eight {ds : List Nat}
    (h : ∀ a b c d e f g h rest, ds = a :: b :: c :: d :: e :: f :: g :: h :: rest → False) :
    ds.length < 8 := by
  match ds, h with
  | [], _ | [_], _ | [_, _], _ | [_, _, _], _ | [_, _, _, _], _ | [_, _, _, _, _], _
  | [_, _, _, _, _, _], _ | [_, _, _, _, _, _, _], _ => simp
  | a :: b :: c :: d :: e :: f :: g :: h :: rest, hds => exact absurd rfl (hds a b c d e f g h rest)

theorem b32Quanta_length (ds : List Nat) : (b32Quanta ds).length = ds.length / 8 * 5 := by
  fun_induction b32Quanta ds with
  | case1 a b c d e f g h rest ih =>
    simp only [List.length_append, toDigits_length, ih, List.length_cons]
    omega
  | case2 ds hds =>
    have := length_lt_eight hds
    simp; omega

theorem b32Quanta_lt (ds : List Nat) : ∀ b ∈ b32Quanta ds, b < 256 := by
  fun_induction b32Quanta ds with
  | case1 a b c d e f g h rest ih =>
    intro x hx
    rcases List.mem_append.mp hx with hx | hx
    · exact toDigits_lt 256 5 _ (by omega) x hx
    · exact ih x hx
  | case2 ds hds => simp

theorem b32Quanta_foldl (ds : List Nat) (hl : ds.length % 8 = 0) (hd : ∀ d ∈ ds, d < 32) (acc : Nat) :
    (b32Quanta ds).foldl (fun a d => a * 256 + d) acc = ds.foldl (fun a d => a * 32 + d) acc := by
  fun_induction b32Quanta ds generalizing acc with
  | case1 a b c d e f g h rest ih =>
    -- one quantum `q` of 8 digits becomes the 5 bytes of the same number: 32 ^ 8 = 256 ^ 5
    rw [show a :: b :: c :: d :: e :: f :: g :: h :: rest = [a, b, c, d, e, f, g, h] ++ rest from rfl]
      at hl hd ⊢
    have h8 : [a, b, c, d, e, f, g, h].length = 8 := rfl
    generalize [a, b, c, d, e, f, g, h] = q at *
    have hq : ofDigits 32 q < 256 ^ 5 := by
      have := ofDigits_lt 32 q fun x hx => hd x (List.mem_append_left _ hx)
      rwa [h8] at this
    rw [List.foldl_append, foldl_digits 256 (toDigits 256 5 _), toDigits_length, ofDigits_toDigits 256 5 _ hq,
      ih (by rw [List.length_append, h8] at hl; omega) (fun x hx => hd x (List.mem_append_right _ hx)),
      List.foldl_append, foldl_digits 32 q acc, h8]
  | case2 ds hds =>
    have := length_lt_eight hds
    obtain rfl : ds = [] := List.eq_nil_of_length_eq_zero (by omega)
    rfl

theorem b32_to_b16_value (ds : List Nat) (hl : ds.length % 8 = 0) (hd : ∀ d ∈ ds, d < 32) :
    ofDigits 16 (b16Digits (b32Quanta ds)) = ofDigits 32 ds := by
  rw [b16Digits_value]; exact b32Quanta_foldl ds hl hd 0

theorem b32_to_b16_40 (ds : List Nat) (hl : ds.length = 32) (hd : ∀ d ∈ ds, d < 32) :
    b16Digits (b32Quanta ds) = toDigits 16 40 (ofDigits 32 ds) :=
  eq_toDigits (by rw [b16Digits_length, b32Quanta_length, hl]) (b16Digits_lt _ (b32Quanta_lt ds))
    (b32_to_b16_value ds (by omega) hd)

theorem pairBytes_b16Digits (bytes : List Nat) : pairBytes (b16Digits bytes) = bytes := by
  induction bytes with
  | nil => rfl
  | cons b t ih =>
    simp only [b16Digits, List.flatMap_cons, List.cons_append, List.nil_append, pairBytes] at ih ⊢
    rw [ih]
    congr 1
    exact Nat.div_add_mod' b 16

theorem b16Digits_length_even (bytes : List Nat) : (b16Digits bytes).length % 2 = 0 := by
  rw [b16Digits_length]; omega

theorem b16Digits_toDigits (n : Nat) (h : n < 2 ^ 160) :
    b16Digits (toDigits 256 20 n) = toDigits 16 40 n :=
  eq_toDigits (by rw [b16Digits_length, toDigits_length]) (b16Digits_lt _ (toDigits_lt 256 20 n (by decide)))
    (by rw [b16Digits_value, ofDigits_toDigits 256 20 n (by simpa using h)])

theorem hexDigit_facts : ∀ d : Fin 16,
    asciiLower (hexDigitUpper d.val) = hexDigitLower d.val ∧
    hexVal (hexDigitLower d.val) = some d.val := by
  decide +kernel

theorem asciiLower_hexDigitUpper (d : Nat) (h : d < 16) : asciiLower (hexDigitUpper d) = hexDigitLower d :=
  (hexDigit_facts ⟨d, h⟩).1

theorem hexVal_hexDigitLower (d : Nat) (h : d < 16) : hexVal (hexDigitLower d) = some d :=
  (hexDigit_facts ⟨d, h⟩).2

theorem hexValD_hexDigitLower (d : Nat) (h : d < 16) : hexValD (hexDigitLower d) = d := by
  rw [hexValD, hexVal_hexDigitLower d h]; rfl

theorem hex_char (c : Char) (h : isHexAscii c = true) :
    hexDigitLower (hexValD c) = asciiLower c ∧ hexValD c < 16 := by
  simp only [isHexAscii, isDigit, Bool.or_eq_true, inR_iff] at h
  simp only [hexValD, hexVal, isDigit, asciiLower, isUpperAZ, hexDigitLower, inR_iff]
  -- per range of `c`: one `omega` gives every fact that decides an `if` of `hexVal` / `asciiLower` /
  -- `hexDigitLower`, so that `simp only` has no arithmetic left to do
  rcases h with (h | h) | h
  · obtain ⟨n1, n2, e, lt⟩ : ¬ (65 ≤ c.toNat ∧ c.toNat ≤ 90) ∧ c.toNat - 48 < 10 ∧
        48 + (c.toNat - 48) = c.toNat ∧ c.toNat - 48 < 16 := by omega
    simp only [if_pos h, if_neg n1, Option.getD_some, if_pos n2, e, Char.ofNat_toNat, true_and]
    exact lt
  · obtain ⟨n0, n1, n2, e, lt⟩ : ¬ (48 ≤ c.toNat ∧ c.toNat ≤ 57) ∧ ¬ (65 ≤ c.toNat ∧ c.toNat ≤ 90) ∧
        ¬ c.toNat - 87 < 10 ∧ 87 + (c.toNat - 87) = c.toNat ∧ c.toNat - 87 < 16 := by omega
    simp only [if_neg n0, if_pos h, if_neg n1, Option.getD_some, if_neg n2, e, Char.ofNat_toNat, true_and]
    exact lt
  · obtain ⟨n0, n1, p1, n2, e, lt⟩ : ¬ (48 ≤ c.toNat ∧ c.toNat ≤ 57) ∧ ¬ (97 ≤ c.toNat ∧ c.toNat ≤ 102) ∧
        (65 ≤ c.toNat ∧ c.toNat ≤ 90) ∧ ¬ c.toNat - 55 < 10 ∧ 87 + (c.toNat - 55) = c.toNat + 32 ∧
        c.toNat - 55 < 16 := by omega
    simp only [if_neg n0, if_neg n1, if_pos h, if_pos p1, Option.getD_some, if_neg n2, e, true_and]
    exact lt

/-- a base-32 character of either case: `b32decode` finds its value after `upper()` -/
theorem b32_char (c : Char) (h : isB32Ascii c = true) :
    b32Val (asciiUpper c) = some (b32ValD c) ∧ b32ValD c < 32 := by
  have key : ∃ d, b32Val (asciiUpper c) = some d ∧ d < 32 := by
    simp only [isB32Ascii, isLowerAZ, isUpperAZ, Bool.or_eq_true, inR_iff] at h
    simp only [b32Val, asciiUpper, isLowerAZ, isUpperAZ, inR_iff]
    rcases h with (h | h) | h
    · obtain ⟨p1, lt, lt'⟩ : (65 ≤ c.toNat - 32 ∧ c.toNat - 32 ≤ 90) ∧ c.toNat - 32 < 55296 ∧
          c.toNat - 32 - 65 < 32 := by omega
      simp only [if_pos h, toNat_ofNat_lt _ lt, if_pos p1]
      exact ⟨_, rfl, lt'⟩
    · have n0 : ¬ (97 ≤ c.toNat ∧ c.toNat ≤ 122) := by omega
      simp only [if_neg n0, if_pos h]
      exact ⟨_, rfl, by omega⟩
    · obtain ⟨n0, n1⟩ : ¬ (97 ≤ c.toNat ∧ c.toNat ≤ 122) ∧ ¬ (65 ≤ c.toNat ∧ c.toNat ≤ 90) := by omega
      simp only [if_neg n0, if_neg n1, if_pos h]
      exact ⟨_, rfl, by omega⟩
  obtain ⟨d, hd, hlt⟩ := key
  simp only [b32ValD, hd, Option.getD_some]
  exact ⟨trivial, hlt⟩

theorem hashVal_lt (v : Str) (h : validHash v = true) : hashVal v < 2 ^ 160 := by
  unfold hashVal
  rcases (validHash_iff v).1 h with ⟨hl, hc⟩ | ⟨hl, hc⟩
  · rw [if_pos hl]
    have := ofDigits_lt 16 (v.map hexValD) (List.forall_mem_map.2 fun c hc' => (hex_char c (hc c hc')).2)
    rwa [List.length_map, hl] at this
  · rw [if_neg (by omega)]
    have := ofDigits_lt 32 (v.map b32ValD) (List.forall_mem_map.2 fun c hc' => (b32_char c (hc c hc')).2)
    rwa [List.length_map, hl] at this

theorem hexLower40_hashVal_hex {v : Str} (hl : v.length = 40) (hc : ∀ c ∈ v, isHexAscii c = true) :
    hexLower40 (hashVal v) = v.map asciiLower := by
  rw [hexLower40, hashVal, if_pos hl,
    ← eq_toDigits (by rw [List.length_map, hl]) (List.forall_mem_map.2 fun c hc' => (hex_char c (hc c hc')).2) rfl,
    List.map_map]
  exact List.map_congr_left fun c hc' => Function.comp_apply.trans (hex_char c (hc c hc')).1

/-- `_infohash_as_base16` on a valid hash: 40 hex digits are lower-cased; 32 base-32 digits are decoded
    to 20 bytes and those written as 40 hex digits — in both cases the digits of the number denoted -/
theorem infohashAsBase16_valid (v : Str) (h : validHash v = true) :
    infohashAsBase16 v = .ok (hexLower40 (hashVal v)) := by
  unfold infohashAsBase16
  rcases (validHash_iff v).1 h with ⟨hl, hc⟩ | ⟨hl, hc⟩
  · rw [if_pos hl, hexLower40_hashVal_hex hl hc]
  · have h40 : ¬ v.length = 40 := by omega
    rw [hexLower40, hashVal, if_neg h40, if_neg h40]
    have hm : (v.map asciiUpper).mapM b32Val = some (v.map b32ValD) := by
      rw [List.mapM_map]
      exact mapM_eq_pure fun c hc' => (b32_char c (hc c hc')).1
    have hd : ∀ d ∈ v.map b32ValD, d < 32 := List.forall_mem_map.2 fun c hc' => (b32_char c (hc c hc')).2
    simp only [List.length_map, hl, hm]
    have e : ∀ l : List Nat, (∀ d ∈ l, d < 16) →
        l.map (asciiLower ∘ hexDigitUpper) = l.map hexDigitLower := fun l hl =>
      List.map_congr_left fun d hd' => Function.comp_apply.trans (asciiLower_hexDigitUpper d (hl d hd'))
    rw [if_neg (by decide), b32_to_b16_40 _ (by rw [List.length_map, hl]) hd, List.map_map,
      e _ (toDigits_lt 16 40 _ (by decide))]

theorem hashVal_hexLower40 (n : Nat) (h : n < 2 ^ 160) : hashVal (hexLower40 n) = n := by
  unfold hashVal hexLower40
  rw [if_pos (by rw [List.length_map, toDigits_length]), List.map_map,
    map_eq_self (f := hexValD ∘ hexDigitLower) fun d hd =>
      Function.comp_apply.trans (hexValD_hexDigitLower d (toDigits_lt 16 40 _ (by decide) d hd))]
  exact ofDigits_toDigits 16 40 n h

theorem lowerHex40_canonical {s : Str} (h : LowerHex40 s = true) :
    validHash s = true ∧ hexLower40 (hashVal s) = s := by
  simp only [LowerHex40, Bool.and_eq_true, decide_eq_true_eq, List.all_eq_true, Bool.or_eq_true,
    isDigit, inR_iff] at h
  have hc : ∀ c ∈ s, isHexAscii c = true := fun c hc => by
    simp only [isHexAscii, isDigit, Bool.or_eq_true, inR_iff]; exact Or.inl (h.2 c hc)
  refine ⟨(validHash_iff s).2 (Or.inl ⟨h.1, hc⟩), ?_⟩
  rw [hexLower40_hashVal_hex h.1 hc]
  exact map_eq_self fun c hc => by
    have : ¬ (65 ≤ c.toNat ∧ c.toNat ≤ 90) := by have := h.2 c hc; omega
    simp only [asciiLower, isUpperAZ, inR_iff, if_neg this]

theorem eq_hexLower40_iff {own h : Str} (ho : validHash own = true) (hs : LowerHex40 h = true) :
    h = hexLower40 (hashVal own) ↔ hashVal h = hashVal own :=
  ⟨fun e => by rw [e, hashVal_hexLower40 _ (hashVal_lt own ho)],
   fun e => by rw [← e, (lowerHex40_canonical hs).2]⟩

theorem infoHashEnc_hexLower40 (n : Nat) (h : n < 2 ^ 160) :
    infoHashEnc (hexLower40 n) = .ok (hashBytesEnc n) := by
  unfold infoHashEnc hexLower40 hashBytesEnc
  have hm : ((toDigits 16 40 n).map hexDigitLower).mapM hexVal = some (toDigits 16 40 n) := by
    rw [List.mapM_map, mapM_eq_pure (g := id) fun d hd =>
      Function.comp_apply.trans (hexVal_hexDigitLower d (toDigits_lt 16 40 _ (by decide) d hd)), List.map_id]
    rfl
  simp only [hm]
  rw [if_neg (by rw [toDigits_length]; decide), ← b16Digits_toDigits _ h, pairBytes_b16Digits]

end Torf.Magnet
