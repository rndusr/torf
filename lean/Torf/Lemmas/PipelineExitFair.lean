/-
  Torf.Lemmas.PipelineExitFair — infinite executions of the pipeline with exit paths project to
  infinite executions of the base system; without a failure window fairness carries over, so the
  termination theorem of C03 does.
-/
import Torf.Lemmas.PipelineExit
import Torf.Lemmas.PipelineFair
namespace Torf.PipelineExit
open Torf.Pipeline

/-- an infinite execution of the extended system -/
structure ExecE (c : CfgE) where
  st : Nat → StateE
  lab : Nat → Label
  start : st 0 = initE c
  next : ∀ n, stepE c (st n) (lab n) = some (st (n + 1))

/-- thread `t` can take a step in `x` -/
def enabledE (c : CfgE) (x : StateE) (t : Tid) : Prop := ∃ b x', stepE c x ⟨t, b⟩ = some x'

/-- weak fairness: no thread stays enabled forever without being scheduled -/
def ExecE.Fair {c : CfgE} (e : ExecE c) : Prop :=
  ∀ (t : Tid) (n : Nat), ∃ m, n ≤ m ∧ ((e.lab m).tid = t ∨ ¬ enabledE c (e.st m) t)

namespace ExecE
variable {c : CfgE} (e : ExecE c)

theorem reachable (n : Nat) : ReachableE c (e.st n) := by
  induction n with
  | zero => rw [e.start]; exact ReachableE.init c
  | succ n ih => exact ih.step (e.next n)

def toBase : Exec c.base where
  st n := (e.st n).base
  lab := e.lab
  start := by rw [e.start]; rfl
  next n := stepE_base (e.next n)

theorem toBase_fair (hmf : c.mainFail = none) (hf : e.Fair) : e.toBase.Fair := by
  intro t n
  obtain ⟨m, hm, h⟩ := hf t n
  refine ⟨m, hm, h.imp id fun hne hen => hne ?_⟩
  obtain ⟨b, s', hs⟩ := hen
  obtain ⟨x', hx', _⟩ := stepE_lift (.inl (failed_none hmf (e.reachable m))) hs
  exact ⟨b, x', hx'⟩

theorem not_fair (hwf : wf c.base = true) (hrf : c.base.refuse = []) (hmf : c.mainFail = none)
    (hf : e.Fair) : False :=
  e.toBase.not_fair hwf hrf (e.toBase_fair hmf hf)

end ExecE
end Torf.PipelineExit
