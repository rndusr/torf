/-
  Helper lemmas for the "one thing is wrong" theorems of C02: a torrent created from `orig`
  (`sizes = orig.map length`, `stored = digests of the chunks of orig.flatten`) verified against a
  disk that differs from `orig` in bad files only, or in one byte.
-/
import Torf.Lemmas.VerifyRun
namespace Torf.Verify
open Torf Torf.Missing

variable {α δ : Type} [DecidableEq δ]

theorem filterMap_single {β γ : Type} (f : β → Option γ) (l : List β) (i : Nat) (x : β) (y : γ)
    (hi : l[i]? = some x) (hx : f x = some y)
    (hne : ∀ k x', k ≠ i → l[k]? = some x' → f x' = none) : l.filterMap f = [y] := by
  -- what lies before position `i` and what lies after it give nothing
  obtain ⟨h, rfl⟩ := List.getElem?_eq_some_iff.mp hi
  have hl : l = l.take i ++ l[i] :: l.drop (i + 1) := by
    rw [← List.drop_eq_getElem_cons h, List.take_append_drop]
  have h1 : (l.take i).filterMap f = [] := List.filterMap_eq_nil_iff.mpr fun x' hx' => by
    obtain ⟨k, hk, rfl⟩ := List.mem_take_iff_getElem.mp hx'
    exact hne k _ (by omega) (List.getElem?_eq_getElem _)
  have h2 : (l.drop (i + 1)).filterMap f = [] := List.filterMap_eq_nil_iff.mpr fun x' hx' => by
    obtain ⟨k, hk, rfl⟩ := List.mem_drop_iff_getElem.mp hx'
    exact hne (i + 1 + k) _ (by omega) (List.getElem?_eq_getElem _)
  rw [hl, List.filterMap_append, List.filterMap_cons_some hx, h1, h2]
  rfl

theorem range_filterMap_single {γ : Type} (n j : Nat) (hj : j < n) (f : Nat → Option γ) (y : γ)
    (hfj : f j = some y) (hne : ∀ k < n, k ≠ j → f k = none) :
    (List.range n).filterMap f = [y] := by
  apply filterMap_single f (List.range n) j j y (by simp [hj]) hfj
  intro k x' hk hx'
  obtain ⟨hkn, rfl⟩ := List.getElem?_eq_some_iff.mp hx'
  rw [List.getElem_range]
  exact hne k (by simpa using hkn) hk

theorem eq_of_filters {β : Type} (l a : List β) (p q : β → Bool)
    (hp : l.filter p = a) (hq : l.filter q = [])
    (hpq : ∀ x ∈ l, p x = true ∨ q x = true) : l = a := by
  rw [← hp]
  symm
  rw [List.filter_eq_self]
  intro x hx
  rcases hpq x hx with h | h
  · exact h
  · rw [List.filter_eq_nil_iff] at hq
    exact absurd h (hq x hx)

/-- `os` is the stream `ys` with some bytes unknown -/
inductive Agrees : List (Option α) → List α → Prop
  | nil : Agrees [] []
  | cons {o a os as} : (o = none ∨ o = some a) → Agrees os as → Agrees (o :: os) (a :: as)

theorem Agrees.length {os : List (Option α)} {ys : List α} (h : Agrees os ys) :
    os.length = ys.length := by
  induction h with
  | nil => rfl
  | cons _ _ ih => simp [ih]

theorem agrees_map_some : ∀ (ys : List α), Agrees (ys.map some) ys
  | [] => .nil
  | _ :: ys => .cons (Or.inr rfl) (agrees_map_some ys)

theorem agrees_replicate : ∀ (ys : List α), Agrees (List.replicate ys.length none) ys
  | [] => .nil
  | _ :: ys => .cons (Or.inl rfl) (agrees_replicate ys)

theorem Agrees.append {a c : List (Option α)} {b d : List α} (h1 : Agrees a b) (h2 : Agrees c d) :
    Agrees (a ++ c) (b ++ d) := by
  induction h1 with
  | nil => exact h2
  | cons h _ ih => exact .cons h ih

theorem Agrees.drop {a : List (Option α)} {b : List α} (h : Agrees a b) (n : Nat) :
    Agrees (a.drop n) (b.drop n) := by
  induction h generalizing n with
  | nil => simpa using Agrees.nil
  | cons h0 h ih =>
    cases n with
    | zero => exact .cons h0 h
    | succ n => exact ih n

theorem Agrees.take {a : List (Option α)} {b : List α} (h : Agrees a b) (n : Nat) :
    Agrees (a.take n) (b.take n) := by
  induction h generalizing n with
  | nil => simpa using Agrees.nil
  | cons h0 _ ih =>
    cases n with
    | zero => exact .nil
    | succ n => exact .cons h0 (ih n)

theorem Agrees.chunkData {c : List (Option α)} {d : List α} (hag : Agrees c d) :
    ∀ bytes, chunkData c = some bytes → bytes = d := by
  induction hag with
  | nil => intro bytes h; simpa [Missing.chunkData] using h.symm
  | @cons o a c d ho _ ih =>
    intro bytes h
    unfold Missing.chunkData at h
    split at h
    · rename_i hall
      simp only [List.all_cons, Bool.and_eq_true] at hall
      rcases ho with ho | ho
      · rw [ho] at hall; exact absurd hall.1 (by simp)
      · have := ih (c.filterMap id) (by unfold Missing.chunkData; simp [hall.2])
        simp only [Option.some.injEq] at h
        rw [← h, ho]
        simp [← this]
    · cases h

theorem sizeOf_map_length (orig : List (List α)) (k : Nat) (hk : k < orig.length) :
    Missing.sizeOf (orig.map List.length) k = orig[k].length := by
  unfold Missing.sizeOf
  rw [List.getD_eq_getElem?_getD]
  simp [hk]

omit [DecidableEq δ] in
theorem length_stored (H : List α → δ) (L : Nat) (hL : 0 < L) (orig : List (List α)) :
    ((chunks L orig.flatten).map H).length = nPieces L (orig.map List.length).sum := by
  rw [List.length_map, length_chunks L hL, List.length_flatten]

/-- file by file: a good file is on disk what it is in `orig`, of a bad one no byte is known -/
theorem agrees_expStream (orig : List (List α)) (disk : List (Option (List α)))
    (hsame : ∀ k (hk : k < orig.length), fileError (orig.map List.length) disk k = none →
      disk.getD k none = some orig[k]) :
    Agrees (expStream (orig.map List.length) disk) orig.flatten := by
  have pre : ∀ k ≤ orig.length,
      Agrees ((List.range k).map (expFile (orig.map List.length) disk)).flatten
        (orig.take k).flatten := by
    intro k
    induction k with
    | zero => intro _; exact .nil
    | succ k ih =>
      intro hk
      have hk' : k < orig.length := by omega
      rw [List.range_succ, List.map_append, List.flatten_append, List.take_add_one,
        List.getElem?_eq_getElem hk']
      simp only [List.map_cons, List.map_nil, Option.toList_some, List.flatten_append,
        List.flatten_cons, List.flatten_nil, List.append_nil]
      apply (ih (by omega)).append
      cases hf : fileError (orig.map List.length) disk k with
      | none =>
        rw [(expFile_good _ disk k hf).1, hsame k hk' hf]
        exact agrees_map_some _
      | some e =>
        rw [expFile_bad _ disk k (by rw [hf]; simp), sizeOf_map_length orig k hk']
        exact agrees_replicate _
  have := pre orig.length (Nat.le_refl _)
  rw [List.take_length] at this
  unfold expStream
  rw [List.length_map]
  exact this

theorem mismatches_eq_nil (H : List α → δ) (L : Nat) (hL : 0 < L) (orig : List (List α))
    (disk : List (Option (List α)))
    (hsame : ∀ k (hk : k < orig.length), fileError (orig.map List.length) disk k = none →
      disk.getD k none = some orig[k]) :
    mismatches H L (orig.map List.length) disk ((chunks L orig.flatten).map H) = [] := by
  -- a piece that carries data is, by `Agrees`, the chunk of `orig.flatten` at its index, and
  -- the digest of that chunk is the stored one
  have hag := agrees_expStream orig disk hsame
  have hlen := hag.length
  rw [mismatches_eq, List.filterMap_eq_nil_iff]
  rintro ⟨d, i⟩ hmem
  rw [List.mem_zipIdx_iff_getElem?] at hmem
  simp only at hmem
  unfold specData at hmem
  rw [List.getElem?_map, getElem?_chunks L hL] at hmem
  unfold mmOf
  simp only
  split
  · rfl
  · rename_i bytes
    split at hmem
    · rename_i hlt
      simp only [Option.map_some, Option.some.injEq] at hmem
      have hb := ((hag.drop (i * L)).take L).chunkData bytes hmem
      have hlt' : i * L < orig.flatten.length := by omega
      rw [List.getElem?_map, getElem?_chunks L hL]
      simp only [hlt', if_true, hb, Option.map_some]
    · simp at hmem

theorem fileError_of_orig (orig : List (List α)) (disk : List (Option (List α))) (k : Nat)
    (hk : k < orig.length) (h : disk[k]? = some (some orig[k])) :
    fileError (orig.map List.length) disk k = none ∧ disk.getD k none = some orig[k] := by
  have hg : disk.getD k none = some orig[k] := by
    rw [List.getD_eq_getElem?_getD, h]; rfl
  refine ⟨?_, hg⟩
  unfold fileError
  rw [hg]
  simp only [sizeOf_map_length orig k hk, if_true]

theorem single_bad_setup (orig : List (List α)) (disk : List (Option (List α))) (j : Nat)
    (hj : j < orig.length) (hpos : 0 < orig[j].length) (e : ErrKind)
    (hrest : ∀ k (hk : k < orig.length), k ≠ j → disk[k]? = some (some orig[k]))
    (hbad : fileError (orig.map List.length) disk j = some e) :
    NoBadEmpty (orig.map List.length) disk = true ∧
    (∀ k (hk : k < orig.length), fileError (orig.map List.length) disk k = none →
      disk.getD k none = some orig[k]) ∧
    badFiles (orig.map List.length) disk = [(j, e)] := by
  refine ⟨?_, ?_, ?_⟩
  · unfold NoBadEmpty
    rw [List.all_eq_true]
    intro k hk
    rw [List.mem_range, List.length_map] at hk
    by_cases hkj : k = j
    · subst hkj
      rw [sizeOf_map_length orig k hk]
      have : orig[k].length ≠ 0 := by omega
      simp [this]
    · rw [(fileError_of_orig orig disk k hk (hrest k hk hkj)).1]
      rfl
  · intro k hk hf
    by_cases hkj : k = j
    · subst hkj; rw [hbad] at hf; cases hf
    · exact (fileError_of_orig orig disk k hk (hrest k hk hkj)).2
  · unfold badFiles
    rw [List.length_map]
    apply range_filterMap_single orig.length j hj _ (j, e) (by rw [hbad]; rfl)
    intro k hk hkj
    rw [(fileError_of_orig orig disk k hk (hrest k hk hkj)).1]
    rfl

theorem specData_good (L : Nat) (hL : 0 < L) (sizes : List Nat) (disk : List (Option (List α)))
    (hg : AllGood sizes disk = true) :
    specData L sizes disk = (chunks L (diskStream sizes disk)).map some :=
  specData_of_good L hL sizes disk (fileError_of_allGood sizes disk hg)

theorem chunks_set_ne (L : Nat) (hL : 0 < L) (xs : List α) (p : Nat) (b : α) (k : Nat)
    (hk : k ≠ p / L) : (chunks L (xs.set p b))[k]? = (chunks L xs)[k]? := by
  rw [getElem?_chunks L hL, getElem?_chunks L hL, List.length_set]
  split
  · congr 1
    apply List.ext_getElem?
    intro t
    rw [List.getElem?_take, List.getElem?_take]
    split
    · rename_i ht
      rw [List.getElem?_drop, List.getElem?_drop]
      apply List.getElem?_set_ne
      -- position `p` lies in chunk `p / L` only
      intro heq
      apply hk
      symm
      apply Nat.div_eq_of_lt_le
      · omega
      · rw [Nat.succ_mul]; omega
    · rfl
  · rfl

theorem chunk_exists (L : Nat) (hL : 0 < L) (xs : List α) (p : Nat) (hp : p < xs.length) :
    ∃ c, (chunks L xs)[p / L]? = some c := by
  rw [getElem?_chunks L hL]
  have := Nat.div_mul_le_self p L
  rw [if_pos (by omega)]
  exact ⟨_, rfl⟩

theorem mismatches_flip (H : List α → δ) (L : Nat) (hL : 0 < L) (orig : List (List α))
    (disk : List (Option (List α))) (hg : AllGood (orig.map List.length) disk = true)
    (p : Nat) (b : α) (hp : p < orig.flatten.length)
    (hflip : diskStream (orig.map List.length) disk = orig.flatten.set p b)
    (hsep : ((chunks L (diskStream (orig.map List.length) disk))[p / L]?).map H ≠
      ((chunks L orig.flatten)[p / L]?).map H) :
    mismatches H L (orig.map List.length) disk ((chunks L orig.flatten).map H) = [p / L] := by
  -- chunk `p / L` of the disk is told apart by `hsep`; every other one is the chunk of `orig`
  -- (`chunks_set_ne`)
  rw [mismatches_eq, specData_good L hL _ disk hg]
  obtain ⟨c, hc⟩ := chunk_exists L hL (diskStream (orig.map List.length) disk) p
    (by rw [hflip, List.length_set]; exact hp)
  apply filterMap_single _ _ (p / L) (some c, p / L) (p / L)
  · rw [List.getElem?_zipIdx, List.getElem?_map, hc]
    simp
  · unfold mmOf
    rw [hc] at hsep
    simp only [Option.map_some] at hsep
    show (if some (H c) = ((chunks L orig.flatten).map H)[p / L]? then none else some (p / L))
      = some (p / L)
    rw [List.getElem?_map, if_neg hsep]
  · intro k x' hk hx'
    rw [List.getElem?_zipIdx, List.getElem?_map] at hx'
    cases hck : (chunks L (diskStream (orig.map List.length) disk))[k]? with
    | none => rw [hck] at hx'; cases hx'
    | some ck =>
      rw [hck] at hx'
      simp only [Option.map_some, Nat.zero_add, Option.some.injEq] at hx'
      subst hx'
      unfold mmOf
      simp only
      rw [List.getElem?_map, ← chunks_set_ne L hL orig.flatten p b k hk, ← hflip, hck]
      simp

theorem owner_overlaps (L : Nat) (hL : 0 < L) (sizes : List Nat) (j p : Nat)
    (h1 : pos sizes j ≤ p) (h2 : p < pos sizes j + Missing.sizeOf sizes j) :
    overlaps L sizes j (p / L) = true := by
  unfold overlaps
  have hle := Nat.div_mul_le_self p L
  have hlt : p < (p / L + 1) * L := by
    have := Nat.lt_div_mul_add (a := p) hL
    rw [Nat.succ_mul]; omega
  simp only [Bool.and_eq_true, decide_eq_true_eq]
  exact ⟨⟨by omega, by omega⟩, by omega⟩

end Torf.Verify
