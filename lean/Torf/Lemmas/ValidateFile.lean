/-
  `validate`, the multi-file branch, part 1: one entry of `info['files']` (`checkFile`) and the sum of the lengths.
-/
import Torf.Lemmas.ValidateSingle
namespace Torf.Validate
open Torf Torf.Export

def EntryFacts (f : PyVal) : Prop :=
  ∃ e l len p, f = .dict e ∧ PyVal.lookupStr "length" e = some l ∧ numVal? l = some len ∧ 0 ≤ len ∧
    PyVal.lookupStr "path" e = some p ∧ Indexed (fun v => isStrOrBytes v = true) p

variable {X : Prop}

theorem assertType_files {items info : Items} {fl : PyVal}
    (hinfo : PyVal.lookupStr "info" items = some (.dict info))
    (hfl : PyVal.lookupStr "files" info = some fl) (i : Nat) (r : Rule) :
    assertType (.dict items) [.s "info", .s "files", .i i] r = assertFinal fl (.i i) r := by
  rw [assertType_step (getItem_dict_s_some hinfo), assertType_step (getItem_dict_s_some hfl),
    assertType_single]

theorem assertType_entry {items info e : Items} {fl : PyVal}
    (hinfo : PyVal.lookupStr "info" items = some (.dict info))
    (hfl : PyVal.lookupStr "files" info = some fl) {i : Nat} (hget : getItem fl (.i i) = .val (.dict e))
    (x : String) (r : Rule) :
    assertType (.dict items) [.s "info", .s "files", .i i, .s x] r = assertFinal (.dict e) (.s x) r := by
  rw [assertType_step (getItem_dict_s_some hinfo), assertType_step (getItem_dict_s_some hfl),
    assertType_step hget, assertType_single]

/-- even when `files` is a mapping, a successful `checkFile` needs `files[i]` to exist and the
    loop variable to be subscriptable with `'path'` -/
theorem checkFile_ok_weak {items info : Items} {fl : PyVal}
    (hinfo : PyVal.lookupStr "info" items = some (.dict info))
    (hfl : PyVal.lookupStr "files" info = some fl) {i : Nat} {fileinfo : PyVal}
    (h : checkFile (.dict items) i fileinfo = .ok ()) :
    (∃ f', getItem fl (.i i) = .val f') ∧ (∃ p, getItem fileinfo (.s "path") = .val p) := by
  unfold checkFile at h
  obtain ⟨_, h1, h⟩ := bind_ok h
  obtain ⟨_, _, h⟩ := bind_ok h
  obtain ⟨_, _, h⟩ := bind_ok h
  obtain ⟨_, _, h⟩ := bind_ok h
  obtain ⟨p, hp, _⟩ := bind_ok h
  rw [assertType_files hinfo hfl] at h1
  obtain ⟨f', hf', _⟩ := ((assertFinal_checks (X := True) (keyFits_i fl i) _).ok h1).2 rfl
  exact ⟨⟨f', hf'⟩, p, getE_ok_iff.mp hp⟩

theorem checkFile_checks {items info : Items} {fl : PyVal}
    (hinfo : PyVal.lookupStr "info" items = some (.dict info))
    (hfl : PyVal.lookupStr "files" info = some fl) {i : Nat} {fileinfo : PyVal}
    (hget : getItem fl (.i i) = .val fileinfo) :
    Checks X (EntryFacts fileinfo) (checkFile (.dict items) i fileinfo) := by
  unfold checkFile
  rw [assertType_files hinfo hfl]
  refine (assertFinal_checks (keyFits_i fl i) _).bind fun h1 => ?_
  obtain ⟨e, rfl⟩ := isDict_iff.mp (h1.1 fileinfo hget).1
  rw [assertType_entry hinfo hfl hget, assertType_entry hinfo hfl hget, assertType_entry hinfo hfl hget]
  refine (assertFinal_dict_checks _).bind fun h2 => (assertFinal_dict_checks _).bind fun h3 =>
    (assertFinal_dict_checks _).bind fun _ => ?_
  obtain ⟨l, hl, hlp⟩ := h2.2 rfl
  obtain ⟨len, hnum, hlen0⟩ := numVal_of_fileLength hlp.1 (hlp.2 _ rfl)
  obtain ⟨p, hp, hpp⟩ := h3.2 rfl
  simp only [getE_dict hp, ok_bind]
  refine (Checks.indexed hpp.1 fun j => ?_).imp fun h =>
    ⟨e, l, len, p, rfl, hl, hnum, hlen0, hp, h⟩
  rw [assertType_step (getItem_dict_s_some hinfo), assertType_step (getItem_dict_s_some hfl),
    assertType_step hget, assertType_step (getItem_dict_s_some hp), assertType_single]
  exact (assertFinal_index_checks j rfl).imp fun ⟨v, hv, hpv⟩ => ⟨v, hv, hpv.1⟩

/-- the length an entry contributes -/
def fileLen : PyVal → Int
  | .dict e => (match PyVal.lookupStr "length" e with | some l => (numVal? l).getD 0 | none => 0)
  | _ => 0

theorem fileLen_dict {e : Items} {l : PyVal} {len : Int} (hl : PyVal.lookupStr "length" e = some l)
    (hnum : numVal? l = some len) : fileLen (.dict e) = len := by
  simp only [fileLen, hl, hnum, Option.getD_some]

theorem sumLengths_ok : ∀ (files : List PyVal) (acc : Int), (∀ x ∈ files, EntryFacts x) →
    sumLengths files acc = .ok (acc + (files.map fileLen).sum)
  | [], acc, _ => by simp [sumLengths, pure, Except.pure]
  | f :: t, acc, hf => by
    obtain ⟨e, l, len, _, rfl, hl, hnum, _⟩ := hf f (by simp)
    simp only [sumLengths, getE_dict hl, bind, Except.bind, hnum]
    rw [sumLengths_ok t _ (fun x hx => hf x (by simp [hx]))]
    simp only [List.map_cons, List.sum_cons, fileLen_dict hl hnum, Except.ok.injEq]; omega

/-- the content size as `validate` computes it: from `length`, or from the entries of `files`; never both -/
inductive Content (info : Items) : Int → Prop
  | single {l len} : PyVal.lookupStr "files" info = none → PyVal.lookupStr "length" info = some l →
      numVal? l = some len → 0 ≤ len → Content info len
  | multi {fl files} : PyVal.lookupStr "length" info = none → PyVal.lookupStr "files" info = some fl →
      Indexed EntryFacts fl → pyIter fl = some files → Content info (files.map fileLen).sum

/-- `plen` bytes of piece hashes are what the content size and the piece length ask for -/
def SizeFacts (info : Items) (plen : Nat) : Prop :=
  ∃ size pv, Content info size ∧ PyVal.lookupStr "piece length" info = some pv ∧
    ((plen / 20 : Nat) : Int) = expPieces size (intVal pv)

end Torf.Validate
