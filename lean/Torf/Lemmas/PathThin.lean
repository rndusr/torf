/-
  What leaving out empty and `.` components (as `pathlib` does, `Paths.pathlibNorm`) does to path
  resolution (`walk1`, `walk` of Torf.Model.ReuseSearch).  An empty component asks nothing of the
  place reached so far and `.` asks what every lookup there asks: in front of a component that is
  looked up they are invisible, errors included (`walk_thin_eq`).  At the end of a spelling they are
  not — `dir/.` needs search permission on `dir`, `file/` is ENOTDIR — so there leaving them out can
  only turn an error into a success (`walk_thin`).
  The subject is `Torf.Reuse`'s resolution, the namespace `Torf.FileSize` all the same: that
  of the size check on a spelled path (Lemmas/FileSizePath), the main user; Lemmas/GeomFs cites the
  lemmas as `FileSize.…`.
-/
import Torf.Lemmas.ReuseSearch
namespace Torf.FileSize
open Torf.Reuse (FS OsErr Loc hop walk1 walk walk1_cons walk1_append walk_eq hop_dot_or_err)

/-- `cs'` is `cs` with some empty / `.` components left out -/
inductive Thin : List String → List String → Prop
  | nil : Thin [] []
  | keep (c : String) {cs cs' : List String} : Thin cs cs' → Thin (c :: cs) (c :: cs')
  | drop (c : String) {cs cs' : List String} (h : c = "" ∨ c = ".") : Thin cs cs' → Thin (c :: cs) cs'

theorem Thin.refl : ∀ cs, Thin cs cs
  | [] => .nil
  | c :: cs => .keep c (Thin.refl cs)

theorem Thin.append_left (pre : List String) {cs cs' : List String} (h : Thin cs cs') :
    Thin (pre ++ cs) (pre ++ cs') := by
  induction pre with
  | nil => exact h
  | cons c pre ih => exact .keep c ih

theorem Thin.append_right {cs cs' : List String} (h : Thin cs cs') (post : List String) :
    Thin (cs ++ post) (cs' ++ post) := by
  induction h with
  | nil => exact Thin.refl _
  | keep c _ ih => exact .keep c ih
  | drop c hc _ ih => exact .drop c hc ih

theorem thin_filter : ∀ cs : List String, Thin cs (cs.filter fun c => c != "" && c != ".")
  | [] => .nil
  | c :: cs => by
    rw [List.filter_cons]
    split
    · exact .keep c (thin_filter cs)
    · next h => exact .drop c (Decidable.or_iff_not_imp_left.mpr (by simpa using h)) (thin_filter cs)

/-- what pathlib keeps of a spelling has no empty component, so it starts with a name -/
theorem empty_not_mem_tidied (cs : List String) : "" ∉ cs.filter fun c => c != "" && c != "." :=
  fun h => absurd (List.mem_filter.mp h).2 (by decide)

theorem headD_ne_empty {l : List String} (hl : l ≠ []) (h : "" ∉ l) : l.headD "" ≠ "" := by
  cases l with
  | nil => exact absurd rfl hl
  | cons a _ => exact fun e => h (e ▸ List.mem_cons_self ..)

/-- components of which one is looked up fail where `.` fails -/
theorem walk1_of_dot_err {fs : FS} {st : List Nat} {e : OsErr}
    (h : ∀ c, c ≠ "" → hop fs st c = .err e) {c : String} (hc : c ≠ "") (rest : List String) :
    ∀ l : List String, walk1 fs st (l ++ c :: rest) = .err e
  | [] => by rw [List.nil_append, walk1_cons, h c hc]
  | d :: l => by
    rw [List.cons_append, walk1_cons]
    by_cases hd : d = ""
    · subst hd; exact walk1_of_dot_err h hc rest l
    · rw [h d hd]

theorem walk1_thin (fs : FS) {cs cs' : List String} (h : Thin cs cs') : ∀ st : List Nat,
    (∀ l, walk1 fs st cs = .done l → walk1 fs st cs' = .done l) ∧
    (∀ s t r, walk1 fs st cs = .follow s t r → ∃ r', Thin r r' ∧ walk1 fs st cs' = .follow s t r') ∧
    (∀ e, walk1 fs st cs = .err e → ∀ c rest, c ≠ "" →
      walk1 fs st (cs' ++ c :: rest) = .err e) := by
  induction h with
  | nil => intro st; exact ⟨fun l hl => hl, nofun, nofun⟩
  | @keep c cs cs' hth ih =>
    intro st
    simp only [List.cons_append, walk1_cons]
    cases hop fs st c with
    | goto st' => exact ih st'
    | link tgt => exact ⟨nofun, fun s t r h => by cases h; exact ⟨cs', hth, rfl⟩, nofun⟩
    | err e => exact ⟨nofun, nofun, fun e' h _ _ _ => by cases h; rfl⟩
    | file ino =>
      cases hth with
      | nil => exact ⟨fun l hl => hl, nofun, nofun⟩
      | keep _ _ => refine ⟨nofun, nofun, fun e' h c rest _ => ?_⟩; cases h; rfl
      | drop _ _ _ => refine ⟨nofun, nofun, fun e' h c rest _ => ?_⟩; cases h; simp
  | @drop c cs cs' hc hth ih =>
    intro st
    rw [walk1_cons]
    rcases hc with rfl | rfl
    · exact ih st
    · rcases hop_dot_or_err fs st with h | ⟨e, h⟩
      · rw [h]; exact ih st
      · rw [h "." (by decide)]
        refine ⟨nofun, nofun, fun e' he c rest hc => ?_⟩
        cases he
        exact walk1_of_dot_err h hc rest cs'

theorem walk_thin (fs : FS) (n : Nat) : ∀ (st : List Nat) (cs cs' : List String) (l : Loc),
    Thin cs cs' → walk fs n st cs = .ok l → walk fs n st cs' = .ok l := by
  induction n using Nat.strongRecOn with
  | ind n ih =>
    intro st cs cs' l hth h
    obtain ⟨hA, hB, _⟩ := walk1_thin fs hth st
    rw [walk_eq] at h ⊢
    cases hw : walk1 fs st cs with
    | done l' => rw [hA l' hw]; simpa [hw] using h
    | err e => simp [hw] at h
    | follow s t r =>
      obtain ⟨r', hr', hw'⟩ := hB s t r hw
      cases n with
      | zero => simp [hw] at h
      | succ m =>
        simp only [hw, hw'] at h ⊢
        exact ih m (Nat.lt_succ_self m) _ _ _ l (Thin.append_left _ hr') h

theorem walk_thin_eq (fs : FS) {c : String} (hc : c ≠ "") (rest : List String) (n : Nat) :
    ∀ (st : List Nat) {cs cs' : List String}, Thin cs cs' →
      walk fs n st (cs' ++ c :: rest) = walk fs n st (cs ++ c :: rest) := by
  induction n using Nat.strongRecOn with
  | ind n ih =>
    intro st cs cs' hth
    obtain ⟨hA, hB, hC⟩ := walk1_thin fs hth st
    rw [walk_eq, walk_eq fs n st (cs ++ _), walk1_append fs cs]
    cases hw : walk1 fs st cs with
    | done l => rw [walk1_append, hA l hw]
    | err e => rw [hC e hw c rest hc]; rfl
    | follow s t r =>
      obtain ⟨r', hr', hw'⟩ := hB s t r hw
      rw [walk1_append, hw']
      cases n with
      | zero => rfl
      | succ m =>
        simp only [Reuse.Walk.andThen, ← List.append_assoc]
        exact ih m (Nat.lt_succ_self m) _ (Thin.append_left _ hr')

theorem resolve_thin (w : Reuse.World) (a : Bool) {cs cs' : List String} (hth : Thin cs cs')
    (hne : a = true ∨ cs'.headD "" ≠ "") {l : Loc} (h : Reuse.resolve w ⟨a, cs⟩ = .ok l) :
    Reuse.resolve w ⟨a, cs'⟩ = .ok l := by
  rw [Reuse.resolve_of_head hne]
  exact walk_thin w.fs _ _ _ _ l hth (Reuse.resolve_ok h).2

end Torf.FileSize
