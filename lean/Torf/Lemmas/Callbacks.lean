/-
  Lemmas for C12.  `callsFrom` is the fold from an arbitrary gate state, `allCalls` what would be
  reported without a gate; what the gate lets through (`callsFrom_sublist`, `_zero`, `_errors`) is
  stated as a comparison of the two.
-/
import Torf.Model.Callbacks
namespace Torf.Callbacks
open Torf.Pipeline (ItemKind)

/-- recursive form of the fold: calls produced from gate state (prev, done) -/
def callsFrom (verify : Bool) (interval : Int) (total : Nat) : Int → Nat → List Ev → List Call
  | _, _, [] => []
  | prev, d, e :: es =>
    if force verify total (d + 1) e.kind || decide (e.now - prev ≥ interval) then
      emit verify (d + 1) e ++ callsFrom verify interval total e.now (d + 1) es
    else callsFrom verify interval total prev (d + 1) es

theorem foldl_calls (verify : Bool) (interval : Int) (total : Nat) (evs : List Ev) (st : GateSt) :
    (evs.foldl (stepEv verify interval total) st).calls
      = st.calls ++ callsFrom verify interval total st.prev st.done evs := by
  induction evs generalizing st with
  | nil => simp [callsFrom]
  | cons e es ih =>
    rw [List.foldl_cons, ih, callsFrom]
    by_cases h : (force verify total (st.done + 1) e.kind || decide (e.now - st.prev ≥ interval)) = true
    · rw [if_pos h, show stepEv verify interval total st e =
        ⟨e.now, st.done + 1, st.calls ++ emit verify (st.done + 1) e⟩ from if_pos h,
        List.append_assoc]
    · rw [if_neg h, show stepEv verify interval total st e = { st with done := st.done + 1 } from
        if_neg h]

theorem calls_eq (verify : Bool) (interval : Int) (total : Nat) (evs : List Ev) :
    calls verify interval total evs = callsFrom verify interval total (-1) 0 evs := by
  simpa [calls, run] using foldl_calls verify interval total evs {}

theorem mem_emit (verify : Bool) (d : Nat) (e : Ev) : ∀ c ∈ emit verify d e,
    c.done = d ∧ c.piece = e.piece ∧ (c.exc.isSome ↔ (verify = true ∧ (e.kind = .exc ∨ e.kind = .mismatch))) := by
  unfold emit
  cases verify <;> cases e.kind <;> simp

/-- a collected result is reported by at least one call, unless it is an error item of a hashing
    run (`generate()` raises it instead) or an error item without exceptions -/
theorem emit_ne_nil (verify : Bool) (d : Nat) (e : Ev)
    (hexc : e.kind = .exc → verify = true ∧ 1 ≤ e.nexc) : emit verify d e ≠ [] := by
  unfold emit
  cases verify <;> cases hk : e.kind <;> simp
  · exact absurd (hexc hk).1 (by simp)
  · have := (hexc hk).2
    omega

theorem filter_emit_of_not_forced (verify : Bool) (total d : Nat) (e : Ev)
    (h : force verify total d e.kind = false) :
    (emit verify d e).filter (fun c => c.exc.isSome) = [] := by
  unfold force at h
  unfold emit
  cases verify <;> cases hk : e.kind <;> simp [hk] at h ⊢

/-- the reports of all results, numbered from `k` on: what the callback would see without the gate -/
def allCalls (verify : Bool) (k : Nat) (evs : List Ev) : List Call :=
  (evs.zipIdx k).flatMap fun (e, i) => emit verify i e

theorem allCalls_cons (verify : Bool) (k : Nat) (e : Ev) (es : List Ev) :
    allCalls verify k (e :: es) = emit verify k e ++ allCalls verify (k + 1) es := rfl

theorem callsFrom_sublist (verify : Bool) (interval : Int) (total : Nat) (evs : List Ev) (prev : Int)
    (d : Nat) : (callsFrom verify interval total prev d evs).Sublist (allCalls verify (d + 1) evs) := by
  induction evs generalizing prev d with
  | nil => exact List.Sublist.refl _
  | cons e es ih =>
    rw [callsFrom, allCalls_cons]
    split
    · exact List.Sublist.append (List.Sublist.refl _) (ih e.now (d + 1))
    · exact (ih prev (d + 1)).trans (List.sublist_append_right _ _)

theorem mem_allCalls (verify : Bool) (k : Nat) (evs : List Ev) (c : Call)
    (hc : c ∈ allCalls verify k evs) : k ≤ c.done ∧ c.done < k + evs.length := by
  obtain ⟨⟨e, i⟩, hm, hce⟩ := List.mem_flatMap.mp hc
  have h1 := (mem_emit verify i e c hce).1
  have h2 := List.le_snd_of_mem_zipIdx hm
  have h3 := List.snd_lt_add_of_mem_zipIdx hm
  simp only at h1 h2 h3
  omega

/-- the counter never decreases; a value repeats only within one piece's error reports -/
def Ordered (a b : Call) : Prop :=
  a.done ≤ b.done ∧ (a.done = b.done → a.piece = b.piece ∧ a.exc.isSome ∧ b.exc.isSome)

theorem emit_pairwise (verify : Bool) (d : Nat) (e : Ev) : (emit verify d e).Pairwise Ordered := by
  unfold emit
  cases verify with
  | false =>
    simp only [Bool.false_eq_true, if_false]
    cases hk : e.kind <;> simp
  | true =>
    simp only [if_true]
    cases hk : e.kind <;> simp only
    · simp
    · simp
    · simp
    · rw [List.pairwise_map]
      apply List.Pairwise.imp (R := fun _ _ => True)
      · intro a b _; simp [Ordered]
      · exact List.pairwise_of_forall (l := List.range e.nexc) (fun _ _ => trivial)

theorem allCalls_pairwise (verify : Bool) (k : Nat) (evs : List Ev) :
    (allCalls verify k evs).Pairwise Ordered := by
  induction evs generalizing k with
  | nil => exact List.Pairwise.nil
  | cons e es ih =>
    rw [allCalls_cons, List.pairwise_append]
    refine ⟨emit_pairwise verify k e, ih (k + 1), fun a ha b hb => ?_⟩
    have h1 := (mem_emit verify k e a ha).1
    have h2 := mem_allCalls verify (k + 1) es b hb
    exact ⟨by omega, by intro h; omega⟩

def ClockMono : Int → List Ev → Prop
  | _, [] => True
  | prev, e :: es => prev ≤ e.now ∧ ClockMono e.now es

theorem callsFrom_zero (verify : Bool) (interval : Int) (hi : interval ≤ 0) (total : Nat)
    (evs : List Ev) (prev : Int) (d : Nat) (hclk : ClockMono prev evs) :
    callsFrom verify interval total prev d evs = allCalls verify (d + 1) evs := by
  induction evs generalizing prev d with
  | nil => rfl
  | cons e es ih =>
    obtain ⟨h1, h2⟩ := hclk
    have hg : (force verify total (d + 1) e.kind || decide (e.now - prev ≥ interval)) = true := by
      have : e.now - prev ≥ interval := by omega
      simp [this]
    rw [callsFrom, if_pos hg, allCalls_cons, ih e.now (d + 1) h2]

theorem callsFrom_final (verify : Bool) (interval : Int) (total : Nat) (evs : List Ev)
    (prev : Int) (d : Nat) (hne : evs ≠ []) (htot : d + evs.length = total)
    (hexc : ∀ e ∈ evs, e.kind = .exc → verify = true ∧ 1 ≤ e.nexc) :
    ∃ c, (callsFrom verify interval total prev d evs).getLast? = some c ∧ c.done = total := by
  induction evs generalizing prev d with
  | nil => exact absurd rfl hne
  | cons e es ih =>
    rw [callsFrom]
    cases es with
    | nil =>
      -- the last result is forced through the gate
      have htot' : d + 1 = total := htot
      have hf : force verify total (d + 1) e.kind = true := by simp [force, htot']
      rw [hf, Bool.true_or, if_pos rfl, callsFrom, List.append_nil,
        List.getLast?_eq_some_getLast (emit_ne_nil verify (d + 1) e (hexc e List.mem_cons_self))]
      exact ⟨_, rfl, (mem_emit verify (d + 1) e _ (List.getLast_mem _)).1.trans htot'⟩
    | cons e' es' =>
      have hexc' := fun x hx => hexc x (List.mem_cons_of_mem e hx)
      have hlen : d + 1 + (e' :: es').length = total := by
        rw [← htot, List.length_cons (a := e)]; omega
      split
      · obtain ⟨c, hc, hd⟩ := ih e.now (d + 1) (List.cons_ne_nil _ _) hlen hexc'
        exact ⟨c, by rw [List.getLast?_append, hc]; rfl, hd⟩
      · exact ih prev (d + 1) (List.cons_ne_nil _ _) hlen hexc'

theorem callsFrom_errors (verify : Bool) (interval : Int) (total : Nat) (evs : List Ev) (prev : Int)
    (d : Nat) :
    (callsFrom verify interval total prev d evs).filter (fun c => c.exc.isSome)
      = (allCalls verify (d + 1) evs).filter (fun c => c.exc.isSome) := by
  induction evs generalizing prev d with
  | nil => rfl
  | cons e es ih =>
    rw [callsFrom, allCalls_cons, List.filter_append]
    split
    · rw [List.filter_append, ih]
    · rename_i h
      rw [ih, filter_emit_of_not_forced verify total (d + 1) e
        (Bool.or_eq_false_iff.mp (Bool.eq_false_iff.mpr h)).1, List.nil_append]

end Torf.Callbacks
