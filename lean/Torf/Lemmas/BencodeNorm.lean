/-
  `norm` maps the values of every container and sorts the entries of every dict
  (`normList_eq_map`, `normKvs_eq_map`, `mem_norm_dict`).  It does not change the serialisation,
  keeps every predicate that is decided entry by entry (`norm_keeps`: `small`, and `utf8Keys` in
  `Lemmas/Utf8Keys.lean`), and yields a canonical value whenever keys are pairwise distinct (the
  Python-dict invariant); a lookup in the normal form of a dict finds the normal form of what it found
  in the dict (`lookup_norm_dict`).  The strict parser accepts what the decoder reads as a canonical value
  from that value's serialisation (`parseStrict_iff`); hence `parseStrict_ser` and `parseStrict_ser_norm`
  (what `flatbencode.encode` writes for a Python dict is a canonical encoding, of the normal form).
-/
import Torf.Lemmas.BencodeParse
import Torf.Lemmas.BencodeInduct
namespace Torf.Bencode

theorem serKvs_isort (kvs : List (Bytes × BVal)) :
    serKvs (isort keyLe kvs) = isort keyLe (serKvs kvs) := by
  rw [serKvs_eq_map, serKvs_eq_map]
  exact (isort_map (α := Bytes × BVal) (β := Bytes × Bytes) keyLe keyLe
    (fun p => (p.1, serBytes p.1 ++ ser p.2)) (fun a b => rfl) kvs).symm

theorem normList_eq_map (l : List BVal) : normList l = l.map norm := by
  induction l with
  | nil => rfl
  | cons v t ih => rw [normList, ih, List.map_cons]

theorem normKvs_eq_map (kvs : List (Bytes × BVal)) :
    normKvs kvs = kvs.map fun p => (p.1, norm p.2) := by
  induction kvs with
  | nil => rfl
  | cons p t ih => rw [normKvs, ih, List.map_cons]

theorem normKvs_keys (kvs : List (Bytes × BVal)) : (normKvs kvs).map (·.1) = kvs.map (·.1) := by
  rw [normKvs_eq_map, List.map_map]; rfl

theorem mem_norm_dict {p : Bytes × BVal} {kvs : List (Bytes × BVal)} :
    p ∈ isort keyLe (normKvs kvs) ↔ ∃ q ∈ kvs, (q.1, norm q.2) = p := by
  rw [(isort_perm keyLe _).mem_iff, normKvs_eq_map]; exact List.mem_map

theorem lookup_normKvs (k : Bytes) : ∀ l : List (Bytes × BVal),
    lookup k (normKvs l) = (lookup k l).map norm
  | [] => rfl
  | (k', v) :: t => by
    simp only [normKvs, lookup]
    split
    · rfl
    · exact lookup_normKvs k t

theorem lookup_norm_dict {l : List (Bytes × BVal)} (hn : (l.map (·.1)).Nodup) (k : Bytes) :
    lookup k (isort keyLe (normKvs l)) = (lookup k l).map norm := by
  rw [← lookup_perm (isort_perm keyLe _).symm (normKvs_keys l ▸ hn), lookup_normKvs]

theorem serList_eq (l : List BVal) : serList l = (l.map ser).flatten := by
  induction l with
  | nil => rfl
  | cons v t ih => rw [serList, ih, List.map_cons, List.flatten_cons]

private theorem serKvs_norm_of {kvs : List (Bytes × BVal)}
    (h : ∀ p ∈ kvs, ser (norm p.2) = ser p.2) : serKvs (normKvs kvs) = serKvs kvs := by
  rw [serKvs_eq_map, serKvs_eq_map, normKvs_eq_map, List.map_map]
  exact List.map_congr_left fun p hp => congrArg (fun x => (p.1, serBytes p.1 ++ x)) (h p hp)

/-- `ser` sorts the entries itself and does not see that `norm` has done so already -/
theorem ser_norm : ∀ v : BVal, ser (norm v) = ser v :=
  BVal.induct (fun _ => rfl) (fun _ => rfl)
    (fun l ih => by
      have : (l.map norm).map ser = l.map ser := by rw [List.map_map]; exact List.map_congr_left ih
      rw [norm, ser, ser, serList_eq, serList_eq, normList_eq_map, this])
    (fun kvs ih => by
      rw [norm, ser, ser, serKvs_isort, isort_idem keyLe keyLe_total keyLe_trans, serKvs_norm_of ih])

theorem serList_norm : ∀ l : List BVal, serList (normList l) = serList l := fun l => by
  simpa only [norm, ser, List.cons.injEq, List.append_cancel_right_eq, true_and]
    using ser_norm (.list l)

theorem serKvs_norm : ∀ kvs : List (Bytes × BVal), serKvs (normKvs kvs) = serKvs kvs :=
  fun _ => serKvs_norm_of fun p _ => ser_norm p.2

theorem bytes_lt_of_le_of_ne {a b : Bytes} (h : a ≤ b) (hne : a ≠ b) : a < b :=
  Decidable.byContradiction fun hlt => hne (List.le_antisymm h (List.not_lt.mp hlt))

theorem keysAsc_isort (l : List (Bytes × BVal)) (hn : (l.map (·.1)).Nodup) :
    keysAsc ((isort keyLe l).map (·.1)) = true := by
  apply keysAsc_iff.mpr
  rw [List.pairwise_map]
  have hs := isort_sorted keyLe keyLe_total keyLe_trans l
  have hn' : ((isort keyLe l).map (·.1)).Nodup :=
    ((isort_perm keyLe l).map (·.1)).nodup_iff.mpr hn
  rw [List.Nodup, List.pairwise_map] at hn'
  exact (hs.and hn').imp (fun ⟨h1, h2⟩ => by
    simp only [keyLe, decide_eq_true_eq] at h1
    exact bytes_lt_of_le_of_ne h1 h2)

theorem canon_norm : ∀ v : BVal, uniqKeys v = true → canon (norm v) = true :=
  BVal.induct (fun _ _ => rfl) (fun _ _ => rfl)
    (fun l ih h => by
      rw [norm, canon, canonList_iff, normList_eq_map]
      exact List.forall_mem_map.mpr fun v hv => ih v hv (uniqList_iff.mp h v hv))
    (fun kvs ih h => by
      obtain ⟨hn, hu⟩ := (Bool.and_eq_true _ _).mp h
      rw [norm, canon, Bool.and_eq_true, canonKvs_iff]
      refine ⟨keysAsc_isort _ (by rw [normKvs_keys]; exact of_decide_eq_true hn), fun p hp => ?_⟩
      obtain ⟨q, hq, rfl⟩ := mem_norm_dict.mp hp
      exact ih q hq (uniqKvs_iff.mp hu q hq))

theorem canonList_norm : ∀ l : List BVal, uniqList l = true → canonList (normList l) = true :=
  fun l => canon_norm (.list l)

theorem canonKvs_norm : ∀ kvs : List (Bytes × BVal), uniqKvs kvs = true →
    canonKvs (normKvs kvs) = true := fun kvs h => by
  rw [canonKvs_iff, normKvs_eq_map]
  exact List.forall_mem_map.mpr fun p hp => canon_norm p.2 (uniqKvs_iff.mp h p hp)

theorem norm_keeps {Q : BVal → Prop} {K : Bytes → Prop} (hl : ∀ l, Q (.list l) ↔ ∀ v ∈ l, Q v)
    (hd : ∀ kvs, Q (.dict kvs) ↔ ∀ p ∈ kvs, K p.1 ∧ Q p.2) : ∀ v, Q v → Q (norm v) :=
  BVal.induct (fun _ => id) (fun _ => id)
    (fun l ih h => by
      rw [norm, hl, normList_eq_map]
      exact List.forall_mem_map.mpr fun v hv => ih v hv ((hl l).mp h v hv))
    (fun kvs ih h => by
      rw [norm, hd]
      intro p hp
      obtain ⟨q, hq, rfl⟩ := mem_norm_dict.mp hp
      exact ((hd kvs).mp h q hq).imp_right (ih q hq))

theorem small_norm (lim : Nat) : ∀ v : BVal, small lim v = true → small lim (norm v) = true :=
  norm_keeps (K := fun k => (decNat k.length).length ≤ lim) (fun _ => smallList_iff)
    fun _ => smallKvs_iff

theorem smallList_norm (lim : Nat) : ∀ l : List BVal, smallList lim l = true →
    smallList lim (normList l) = true := fun l => small_norm lim (.list l)

theorem smallKvs_norm (lim : Nat) : ∀ kvs : List (Bytes × BVal), smallKvs lim kvs = true →
    smallKvs lim (normKvs kvs) = true := fun kvs h => by
  rw [smallKvs_iff, normKvs_eq_map]
  exact List.forall_mem_map.mpr fun p hp => (smallKvs_iff.mp h p hp).imp_right (small_norm lim p.2)

theorem parseStrict_iff {lim : Nat} {bs : Bytes} {v : BVal} :
    parseStrict lim bs = some v ↔ parse lim bs = some v ∧ canon v = true ∧ ser v = bs := by
  unfold parseStrict
  cases parse lim bs with
  | none => simp
  | some w =>
    simp only [Bool.and_eq_true, beq_iff_eq, Option.ite_none_right_eq_some, Option.some.injEq]
    exact ⟨by rintro ⟨h, rfl⟩; exact ⟨rfl, h⟩, by rintro ⟨rfl, h⟩; exact ⟨h, rfl⟩⟩

theorem parseStrict_ser (lim : Nat) (v : BVal) (hc : canon v = true) (hs : small lim v = true) :
    parseStrict lim (ser v) = some v :=
  parseStrict_iff.mpr ⟨parse_ser lim v hc hs, hc, rfl⟩

theorem parseStrict_inv {lim : Nat} {bs : Bytes} {v : BVal} (h : parseStrict lim bs = some v) :
    parse lim bs = some v ∧ canon v = true ∧ ser v = bs :=
  parseStrict_iff.mp h

theorem parseStrict_ser_norm (lim : Nat) (u : BVal) (hu : uniqKeys u = true)
    (hs : small lim u = true) : parseStrict lim (ser u) = some (norm u) :=
  ser_norm u ▸ parseStrict_ser lim _ (canon_norm u hu) (small_norm lim u hs)

theorem ser_canonical (lim : Nat) (u : BVal) (hu : uniqKeys u = true) (hs : small lim u = true) :
    ∃ v, canon v = true ∧ small lim v = true ∧ ser u = ser v ∧ parseStrict lim (ser u) = some v :=
  ⟨norm u, canon_norm u hu, small_norm lim u hs, (ser_norm u).symm, parseStrict_ser_norm lim u hu hs⟩

end Torf.Bencode
