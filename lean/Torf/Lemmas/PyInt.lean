/-
  Lemmas about `int()` on ASCII strings (Torf/Model/PyInt.lean): what the body parser returns are
  exactly the digit characters of the string, so the digit limit is a property of the string.
-/
import Torf.Model.PyInt
namespace Torf.Untrusted

theorem not_digit_of_space {c : Char} (h : isCSpace c = true) : isAsciiDigit c = false := by
  unfold isCSpace at h
  unfold isAsciiDigit
  simp only [Bool.or_eq_true, Bool.and_eq_true, decide_eq_true_eq, beq_iff_eq] at h
  cases hd : (decide (48 ≤ c.toNat) && decide (c.toNat ≤ 57)) with
  | false => rfl
  | true =>
    simp only [Bool.and_eq_true, decide_eq_true_eq] at hd
    omega

theorem intBodyTail_digits : ∀ (l acc ds : List Char), intBodyTail l acc = some ds →
    ds = acc.reverse ++ l.filter isAsciiDigit := by
  intro l acc
  fun_induction intBodyTail l acc <;> intro ds h
  case case1 => cases h; simp
  case case2 hc ih => rw [ih ds h]; simp [hc]
  case case3 hc hu _ _ hd ih => rw [ih ds h]; simp [hc, hd]
  all_goals cases h

theorem intBody_digits (b ds : List Char) (h : intBody b = some ds) : ds = b.filter isAsciiDigit := by
  cases b with
  | nil => cases h
  | cons c rest =>
    simp only [intBody] at h
    by_cases hc : isAsciiDigit c = true
    · rw [if_pos hc] at h
      have := intBodyTail_digits rest [c] ds h
      simpa [List.filter_cons, hc] using this
    · rw [if_neg hc] at h; cases h

theorem lstripC_filter : ∀ (s : List Char), (lstripC s).filter isAsciiDigit = s.filter isAsciiDigit := by
  intro s
  induction s with
  | nil => rfl
  | cons c cs ih =>
    unfold lstripC
    by_cases h : isCSpace c = true
    · simp only [h, if_true, List.filter_cons, not_digit_of_space h]; simpa using ih
    · simp [h]

theorem strip_filter (s : List Char) :
    ((lstripC (lstripC s).reverse).reverse).filter isAsciiDigit = s.filter isAsciiDigit := by
  rw [List.filter_reverse, lstripC_filter, ← List.filter_reverse, List.reverse_reverse, lstripC_filter]

/-- the digits `intSigned` counts are the digit characters of its argument: a sign is none -/
theorem intSigned_some {lim : Nat} {t : List Char} {n : Int} (h : intSigned lim t = some n) :
    (t.filter isAsciiDigit).length ≤ lim := by
  unfold intSigned at h
  dsimp only at h
  split at h
  · cases h
  · rename_i ds hds
    split at h
    · cases h
    · have hb := intBody_digits _ _ hds
      split at hb <;> (try rw [List.filter_cons_of_neg (by decide)]) <;> rw [← hb] <;> omega

theorem pyIntAscii_limit (lim : Nat) (s : List Char) (h : lim < (s.filter isAsciiDigit).length) :
    pyIntAscii lim s = none := by
  cases hn : pyIntAscii lim s with
  | none => rfl
  | some n =>
    have := intSigned_some hn
    rw [strip_filter] at this
    omega

end Torf.Untrusted
