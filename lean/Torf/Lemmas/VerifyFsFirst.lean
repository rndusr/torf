/-
  C02 over the full alphabet of path states: the first damaged file.
  Whatever else is wrong, the first file (in metainfo order) that owes an error either makes an
  internal error escape, or is reported by an item that follows data items only, or — when it is
  a file with an unreadable byte — ends the iteration with its ReadError.
-/
import Torf.Lemmas.VerifyFsRun
namespace Torf.VerifyFs
open Torf Torf.Missing Torf.Verify

variable {α : Type} [Inhabited α]

theorem stepFs_failed_stays (L : Nat) (sizes : List Nat) (fd : List (FState α)) (s : StFs α)
    (j : Nat) (h : s.st.failed = true) : stepFs L sizes fd s j = s := by
  unfold stepFs; simp [h]

theorem stepFs_bad (L : Nat) (sizes : List Nat) (fd : List (FState α)) (st : St α)
    (tr : List α) (out : List (List α)) (j : Nat) (kind : ErrKind) (e : Nat)
    (hg : GoodSt st tr out)
    (hp : mainProbe (sizeOf sizes j) (stateAt fd j) = .exc kind e)
    (hfe : fileError sizes (mainDisk sizes fd) j = some kind) :
    let s' := stepFs L sizes fd { st := st, fault := none } j
    s'.fault = none ∧
    (s'.st.failed = true ∨
      ∃ es rest, s'.st.out = out.map dataItem ++ ⟨none, j, (j, kind) :: es⟩ :: rest) := by
  have hfire : fires sizes fd st j = none := by unfold fires; rw [hp]; split <;> rfl
  intro s'
  have hs' : s' = _ := stepFs_nofire L sizes fd { st := st, fault := none } j rfl hfire
  rw [hs']
  exact ⟨rfl, step2_bad L sizes (mainDisk sizes fd) (statDisk fd) st tr out j kind hg hfe⟩

omit [Inhabited α] in
/-- the first bad file is never entered with a non-zero skip: its unreadable byte is hit -/
theorem fires_of_good (sizes : List Nat) (fd : List (FState α)) (st : St α)
    (tr : List α) (out : List (List α)) (j e : Nat)
    (hg : GoodSt st tr out) (h : ReadFails sizes fd j e) :
    ∃ r, fires sizes fd st j = some (r, e) := by
  obtain ⟨_, _, h3, h4, h5⟩ := hg
  obtain ⟨c, off, hs, hc, hoff⟩ := h
  unfold fires
  simp only [h5, h4, List.contains_nil, Bool.or_self, Bool.false_eq_true, if_false, hs]
  have hp : mainProbe (sizeOf sizes j) (FState.readErr c off e) = .handle := by
    simp [mainProbe, statSize, getOpenFile, osOpen, hc]
  rw [hp]
  exact ⟨off, by simp [faultAt, h3, hoff]⟩

/-- What `iter_pieces` yields when some file owes an error (`j0` the first such file, `o` what it
    owes): data items; then the item of file `j0` without data whose first exception is the owed
    one — or nothing more, and the ReadError of `j0`'s unreadable byte ends the iteration. -/
theorem iterItemsFs_first_damaged (L : Nat) (sizes : List Nat) (fd : List (FState α))
    (j0 : Nat) (o : Owed) (hj0 : j0 < sizes.length) (hbad : owedAt sizes fd j0 = some o)
    (hfirst : ∀ k < j0, owedAt sizes fd k = none) (run : FsRun α)
    (hit : iterItemsFs L sizes fd = some run) :
    ∃ (pre : List (List α)) (tail : List (Item α)), run.items = pre.map dataItem ++ tail ∧
      ((∃ kind es rest, tail = ⟨none, j0, (j0, kind) :: es⟩ :: rest ∧
          owedErr j0 o = excOf (j0, kind) ∧
          (kind = .read → o = .read ((osOpen (stateAt fd j0)).getD 0))) ∨
        (tail = [] ∧ ∃ e, run.fault = some (j0, e) ∧ o = .read e)) := by
  -- the files before `j0` are read as on a good disk
  have hpre := fold_fs_good L sizes fd (List.range j0)
    (fun j hj => hfirst j (List.mem_range.mp hj))
  have hg := goodSt_fold L sizes (mainDisk sizes fd) (List.range j0) {} [] [] goodSt_init
    (by intro k hk; exact fileError_none_of_owed_none sizes fd k (hfirst k (List.mem_range.mp hk)))
  rw [iterItemsFs_eq, range_split_lt j0 sizes.length hj0, List.foldl_append, List.foldl_cons,
    hpre] at hit
  generalize (List.range j0).foldl (step L sizes (mainDisk sizes fd)) {} = st0 at hg hit
  generalize ((List.range j0).map (Verify.contentOf (mainDisk sizes fd))).foldl (Stream.fileStep L)
    ([], []) = s at hg
  generalize List.range' (j0 + 1) (sizes.length - j0 - 1) = js at hit
  rcases probe_cases sizes fd j0 with row | ⟨kind, e, o', row⟩
  rcases row.owed with ⟨ho, _⟩ | ⟨e, hrf, ho⟩
  · rw [ho] at hbad; cases hbad
  · -- the file opens; its unreadable byte is hit
    rw [ho] at hbad; cases hbad
    obtain ⟨off, hfire⟩ := fires_of_good sizes fd st0 s.1 s.2 j0 e hg hrf
    obtain ⟨h1, h2, h3⟩ := stepFs_fire L sizes fd { st := st0, fault := none } j0 off e rfl hfire
    rw [foldl_absorb _ _ (fun k => stepFs_fault L sizes fd _ k _ h1),
      runOf_fault _ _ h1 h2] at hit
    cases hit
    exact ⟨s.2 ++ firedOut L fd st0 j0 off, [], by simp [h3, hg.out], Or.inr ⟨rfl, e, rfl, rfl⟩⟩
  · -- the probe of the main loop yields the exception
    rw [row.owed] at hbad; cases hbad
    obtain ⟨hf, hfail | ⟨es, rest, hout⟩⟩ :=
      stepFs_bad L sizes fd st0 s.1 s.2 j0 kind e hg row.probe row.main
    · rw [foldl_absorb _ _ (fun k => stepFs_failed_stays L sizes fd _ k hfail),
        runOf_failed _ hfail] at hit
      cases hit
    · -- whatever follows, the item stays in the output
      obtain ⟨ext, hext⟩ := foldl_prefix _ (·.st.out) (stepFs_out_prefix L sizes fd) js
        (stepFs L sizes fd { st := st0, fault := none } j0)
      generalize js.foldl (stepFs L sizes fd) (stepFs L sizes fd { st := st0, fault := none } j0)
        = sf at hext hit
      rcases runOf_cases sf with h | ⟨tl, h⟩ <;> rw [h] at hit <;> cases hit
      exact ⟨s.2, _, by rw [← hext, hout]; simp,
        Or.inl ⟨kind, es, rest ++ ext ++ tl, rfl, row.err, row.errno⟩⟩

end Torf.VerifyFs
