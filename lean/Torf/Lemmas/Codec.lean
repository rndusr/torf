/-
  Lemmas about the metainfo converters: `utf8Dec` and `utf8Enc` are mutually inverse; inversions of
  a successful `encodeList` / `encodeKvs` / `encodeValue (.dict …)` and induction over successful
  encodings (`encode_induct`); `encode_dict` yields values whose keys are pairwise distinct (so
  `ser` of them is canonical).
-/
import Torf.Model.Codec
import Torf.Lemmas.BencodeNorm
import Torf.Lemmas.Basics
import Torf.Lemmas.Lookup
namespace Torf.Codec
open Torf Torf.Bencode

theorem utf8Dec_enc (s : String) : utf8Dec (utf8Enc s) = some s := by
  unfold utf8Dec utf8Enc String.fromUTF8?
  have h : (⟨s.toUTF8.data.toList.toArray⟩ : ByteArray) = s.toByteArray := by simp
  rw [h]
  split
  · simp [String.fromUTF8]
  · rename_i hn; exact absurd s.isValidUTF8 hn

theorem utf8Enc_inj {s t : String} (h : utf8Enc s = utf8Enc t) : s = t :=
  Option.some.inj ((utf8Dec_enc s).symm.trans (h ▸ utf8Dec_enc t))

theorem utf8Enc_of_dec {b : Bytes} {s : String} (h : utf8Dec b = some s) : utf8Enc s = b := by
  unfold utf8Dec String.fromUTF8? at h
  split at h
  · simp only [Option.some.injEq] at h
    subst h
    simp [utf8Enc, String.fromUTF8]
  · exact absurd h (by simp)

theorem decodeBytes_of_dec {b : Bytes} {s : String} (h : utf8Dec b = some s) :
    decodeBytes b = .str s := by simp [decodeBytes, h]

theorem wfKvs_iff {l : List (PyVal × PyVal)} : wfKvs l = true ↔ ∀ p ∈ l, wf p.2 = true :=
  all_iff (g := fun p : PyVal × PyVal => wf p.2) rfl fun _ _ => rfl

theorem wfList_iff {l : List PyVal} : wfList l = true ↔ ∀ v ∈ l, wf v = true :=
  all_iff rfl fun _ _ => rfl

theorem wf_dict {D : List (PyVal × PyVal)} (h : wf (.dict D) = true) :
    (strKeys D).Nodup ∧ wfKvs D = true := by
  simpa only [wf, Bool.and_eq_true, decide_eq_true_eq] using h

theorem mem_of_lookupStr {k : String} {v : PyVal} {D : List (PyVal × PyVal)}
    (h : PyVal.lookupStr k D = some v) : (PyVal.str k, v) ∈ D := by
  obtain ⟨k', hk, hm⟩ := mem_of_firstWith (Validate.lookupStr_eq_firstWith k D ▸ h)
  cases k' with
  | str s => exact eq_of_beq hk ▸ hm
  | _ => cases hk

theorem wf_of_lookupStr {k : String} {m : PyVal} {D : List (PyVal × PyVal)}
    (hw : wfKvs D = true) (h : PyVal.lookupStr k D = some m) : wf m = true :=
  wfKvs_iff.mp hw _ (mem_of_lookupStr h)

theorem nodup_keys_encKey {es : List (String × BVal)} (h : (es.map (·.1)).Nodup) :
    (((isort strLe es).map encKey).map (·.1)).Nodup := by
  have := nodup_map_inj (f := utf8Enc) (fun _ _ => utf8Enc_inj)
    (((isort_perm strLe es).map (·.1)).nodup_iff.mpr h)
  rw [List.map_map] at this ⊢
  exact this

theorem encodeList_cons_ok {v : PyVal} {t : List PyVal} {l' : List BVal}
    (h : encodeList (v :: t) = .ok l') :
    ∃ v' t', encodeValue v = .ok v' ∧ encodeList t = .ok t' ∧ l' = v' :: t' := by
  simp only [encodeList] at h
  split at h
  · exact absurd h (by simp)
  · rename_i v' hv
    split at h
    · exact absurd h (by simp)
    · rename_i t' ht
      exact ⟨v', t', hv, ht, (Except.ok.inj h).symm⟩

theorem encodeKvs_cons_ok {k v : PyVal} {t : List (PyVal × PyVal)} {es : List (String × BVal)}
    (h : encodeKvs ((k, v) :: t) = .ok es) :
    ∃ s v' t', k = .str s ∧ encodeValue v = .ok v' ∧ encodeKvs t = .ok t' ∧ es = (s, v') :: t' := by
  cases k with
  | str s =>
    simp only [encodeKvs] at h
    split at h
    · exact absurd h (by simp)
    · rename_i v' hv
      split at h
      · exact absurd h (by simp)
      · rename_i t' ht
        exact ⟨s, v', t', rfl, hv, ht, (Except.ok.inj h).symm⟩
  | _ => simp [encodeKvs] at h

/-- `encode_list` on a list or tuple (the two branches of `encodeValue` are this `match`) -/
theorem encodeSeq_ok {l : List PyVal} {u : BVal}
    (h : (match encodeList l with
      | .ok l' => Except.ok (BVal.list l')
      | .error e => Except.error e) = .ok u) : ∃ l', encodeList l = .ok l' ∧ u = .list l' := by
  split at h
  · rename_i l' hl
    exact ⟨l', hl, (Except.ok.inj h).symm⟩
  · exact absurd h (by simp)

theorem encodeValue_dict_ok {D : List (PyVal × PyVal)} {w : BVal}
    (h : encodeValue (.dict D) = .ok w) :
    ∃ es, encodeKvs D = .ok es ∧ w = .dict ((isort strLe es).map encKey) := by
  simp only [encodeValue] at h
  split at h
  · rename_i es hes
    exact ⟨es, hes, (Except.ok.inj h).symm⟩
  · exact absurd h (by simp)

structure EncodedKvs (kvs : List (PyVal × PyVal)) (es : List (String × BVal)) : Prop where
  length : es.length = kvs.length
  str_keys : ∀ p ∈ kvs, ∃ k, p.1 = .str k
  strKeys_eq : strKeys kvs = es.map (·.1)
  mem : ∀ e ∈ es, ∃ p ∈ kvs, p.1 = .str e.1 ∧ encodeValue p.2 = .ok e.2

theorem encodeKvs_keys : ∀ {kvs : List (PyVal × PyVal)} {es : List (String × BVal)},
    encodeKvs kvs = .ok es → EncodedKvs kvs es
  | [], _, h => by cases h; exact ⟨rfl, (fun _ h => nomatch h), rfl, fun _ h => nomatch h⟩
  | (k, v) :: t, es, h => by
    obtain ⟨k, v', t', rfl, hv, ht, rfl⟩ := encodeKvs_cons_ok h
    have ih := encodeKvs_keys ht
    refine ⟨by simp [ih.length], ?_, by simp [strKeys, ih.strKeys_eq], ?_⟩
    · intro q hq
      rcases List.mem_cons.mp hq with rfl | hq
      · exact ⟨_, rfl⟩
      · exact ih.str_keys q hq
    · intro e' he'
      rcases List.mem_cons.mp he' with rfl | he'
      · exact ⟨_, List.mem_cons_self, rfl, hv⟩
      · obtain ⟨q, hq, hh⟩ := ih.mem e' he'
        exact ⟨q, List.mem_cons_of_mem _ hq, hh⟩

theorem encodeList_mem : ∀ {l : List PyVal} {l' : List BVal}, encodeList l = .ok l' →
    ∀ v' ∈ l', ∃ v ∈ l, encodeValue v = .ok v'
  | [], _, h, _, hv' => by cases h; exact nomatch hv'
  | v :: t, _, h, v', hv' => by
    obtain ⟨w, t', hv, ht, rfl⟩ := encodeList_cons_ok h
    rcases List.mem_cons.mp hv' with rfl | hv'
    · exact ⟨v, List.mem_cons_self, hv⟩
    · exact (encodeList_mem ht v' hv').imp fun _ h => ⟨List.mem_cons_of_mem _ h.1, h.2⟩

/-- Induction over a successful encoding, with the hypothesis for every element of a list or tuple
    and every value of a dict: the recursor of the nested type `PyVal` with "all members" as the
    motive for lists and entries; the atoms are written as an `int` or as `bytes`. -/
theorem encode_induct {P : PyVal → BVal → Prop}
    (int : ∀ m i, P m (.int i)) (bytes : ∀ m b, P m (.bytes b))
    (seq : ∀ m l l', m = .list l ∨ m = .tuple l → encodeList l = .ok l' →
      (∀ v' ∈ l', ∃ v ∈ l, encodeValue v = .ok v' ∧ P v v') → P m (.list l'))
    (dict : ∀ kvs es, encodeKvs kvs = .ok es →
      (∀ e ∈ es, ∃ p ∈ kvs, p.1 = .str e.1 ∧ encodeValue p.2 = .ok e.2 ∧ P p.2 e.2) →
      P (.dict kvs) (.dict ((isort strLe es).map encKey)))
    (m : PyVal) : ∀ u, encodeValue m = .ok u → P m u :=
  have seq' : ∀ m l, m = .list l ∨ m = .tuple l → (∀ v ∈ l, ∀ u, encodeValue v = .ok u → P v u) →
      ∀ u, (match encodeList l with
        | .ok l' => Except.ok (BVal.list l')
        | .error e => Except.error e) = .ok u → P m u := fun m l hm ih u h => by
    obtain ⟨l', hl, rfl⟩ := encodeSeq_ok h
    exact seq m l l' hm hl fun v' hv' =>
      (encodeList_mem hl v' hv').imp fun v h => ⟨h.1, h.2, ih v h.1 v' h.2⟩
  PyVal.rec (motive_1 := fun m => ∀ u, encodeValue m = .ok u → P m u)
    (motive_2 := fun l => ∀ v ∈ l, ∀ u, encodeValue v = .ok u → P v u)
    (motive_3 := fun kvs => ∀ p ∈ kvs, ∀ u, encodeValue p.2 = .ok u → P p.2 u)
    (motive_4 := fun p => ∀ u, encodeValue p.2 = .ok u → P p.2 u)
    -- the constructors of `PyVal` in order, then nil / cons of the two list types and the pair
    (fun _ h => nomatch h) (fun _ _ h => Except.ok.inj h ▸ int _ _)
    (fun _ _ h => Except.ok.inj h ▸ int _ _)
    (fun f _ h => match f, h with
      | .fin _ _ _, h => Except.ok.inj h ▸ int _ _
      | .nan, h | .pinf, h | .ninf, h => nomatch h)
    (fun _ _ h => Except.ok.inj h ▸ bytes _ _) (fun _ _ h => Except.ok.inj h ▸ bytes _ _)
    (fun l ih => seq' _ l (.inl rfl) ih) (fun l ih => seq' _ l (.inr rfl) ih)
    (fun kvs ih _ h => by
      obtain ⟨es, hes, rfl⟩ := encodeValue_dict_ok h
      exact dict kvs es hes fun e he =>
        ((encodeKvs_keys hes).mem e he).imp fun p h => ⟨h.1, h.2.1, h.2.2, ih p h.1 _ h.2.2⟩)
    (fun ts _ h => match ts, h with
      | some _, h => Except.ok.inj h ▸ int _ _
      | none, h => nomatch h)
    (fun _ _ h => nomatch h)
    (fun _ h => nomatch h) (fun _ _ hv ht => List.forall_mem_cons.mpr ⟨hv, ht⟩)
    (fun _ h => nomatch h) (fun _ _ hp ht => List.forall_mem_cons.mpr ⟨hp, ht⟩)
    (fun _ _ _ hv => hv) m

theorem uniq_encodeValue : ∀ (m : PyVal) (u : BVal), encodeValue m = .ok u → wf m = true →
    uniqKeys u = true :=
  encode_induct (fun _ _ _ => rfl) (fun _ _ _ => rfl)
    (fun m l l' hm _ ih hw => uniqList_iff.mpr fun v' hv' => by
      obtain ⟨v, hv, _, h⟩ := ih v' hv'
      exact h (wfList_iff.mp (by rcases hm with rfl | rfl <;> exact hw) v hv))
    (fun kvs es hes ih hw => by
      obtain ⟨hn, hw⟩ := wf_dict hw
      simp only [uniqKeys, Bool.and_eq_true, decide_eq_true_eq]
      refine ⟨nodup_keys_encKey ((encodeKvs_keys hes).strKeys_eq ▸ hn),
        uniqKvs_iff.mpr fun p hp => ?_⟩
      obtain ⟨q, hq, rfl⟩ := List.mem_map.mp hp
      obtain ⟨p, hp, _, _, h⟩ := ih q ((isort_perm strLe es).subset hq)
      exact h (wfKvs_iff.mp hw p hp))

theorem uniq_encodeList : ∀ (l : List PyVal) (l' : List BVal), encodeList l = .ok l' →
    wfList l = true → uniqList l' = true := fun l l' h hw =>
  uniqList_iff.mpr fun v' hv' => by
    obtain ⟨v, hv, he⟩ := encodeList_mem h v' hv'
    exact uniq_encodeValue v v' he (wfList_iff.mp hw v hv)

end Torf.Codec
