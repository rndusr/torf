/-
  Torf.Lemmas.Justice — termination under weak fairness ("justice") for an arbitrary transition
  system: states `σ`, threads `τ`, `R s t s'` = thread `t` can step from `s` to `s'`, and a marking
  `P` of steps (the progress steps).  If a measure bounds the marked steps of a run, if in every
  state of the run some thread, scheduled alone, would take a marked step within finitely many steps
  (`Reaches`), if the unmarked steps of the other threads do not take that away, and if a thread's
  step is determined by the state, then the run is not weakly fair: the helpful thread stays enabled,
  so justice schedules it, and each unmarked step it takes brings it one step closer to a marked one.
-/
namespace Torf.Justice

theorem eventually_unmarked {f : Nat → Nat} {p : Nat → Bool}
    (h : ∀ n, f (n + 1) + (if p n then 1 else 0) ≤ f n) : ∃ n₀, ∀ n, n₀ ≤ n → p n = false := by
  have mono : ∀ n d, f (n + d) ≤ f n := fun n d => by
    induction d with
    | zero => exact Nat.le_refl _
    | succ d ih => have := h (n + d); rw [← Nat.add_assoc]; omega
  suffices ∀ k n, f n < k → ∃ n₀, ∀ m, n₀ ≤ m → p m = false from this _ 0 (Nat.lt_succ_self _)
  intro k
  induction k with
  | zero => exact fun _ h => absurd h (Nat.not_lt_zero _)
  | succ k ih =>
    intro n hk
    by_cases hex : ∃ m, n ≤ m ∧ p m = true
    · -- after a marked index the bound is smaller
      obtain ⟨m, hm, hp⟩ := hex
      obtain ⟨d, rfl⟩ := Nat.exists_eq_add_of_le hm
      have h1 := mono n d
      have h2 := h (n + d)
      rw [hp, if_pos rfl] at h2
      exact ih (n + d + 1) (by omega)
    · exact ⟨n, fun m hm => Bool.eq_false_iff.2 fun hp => hex ⟨m, hm, hp⟩⟩

variable {σ τ : Type}

theorem scheduled {th : Nat → τ} {en : Nat → τ → Prop}
    (fair : ∀ t n, ∃ m, n ≤ m ∧ (th m = t ∨ ¬ en m t)) (t : τ) {Q : Nat → Prop}
    (hstable : ∀ n, Q n → th n ≠ t → Q (n + 1)) (hen : ∀ n, Q n → en n t) {m : Nat} (hq : Q m) :
    ∃ n, Q n ∧ th n = t := by
  obtain ⟨m', hm', hs⟩ := fair t m
  obtain ⟨d, rfl⟩ := Nat.exists_eq_add_of_le hm'
  clear hm'
  induction d generalizing m with
  | zero => exact ⟨m, hq, hs.resolve_right fun h => h (hen m hq)⟩
  | succ d ih =>
    by_cases ht : th m = t
    · exact ⟨m, hq, ht⟩
    · exact ih (hstable m hq ht) (by rwa [Nat.add_assoc, Nat.add_comm 1 d])

variable (R : σ → τ → σ → Prop) (P : σ → σ → Bool)

def Reaches (t : τ) : Nat → σ → Prop
  | 0, _ => False
  | k + 1, s => ∃ s', R s t s' ∧ (P s s' = true ∨ Reaches t k s')

variable {R P}

theorem no_fair_run {st : Nat → σ} {th : Nat → τ}
    (fair : ∀ t n, ∃ m, n ≤ m ∧ (th m = t ∨ ¬ ∃ s', R (st m) t s'))
    (det : ∀ n s', R (st n) (th n) s' → s' = st (n + 1))
    {μ : σ → Nat} (hμ : ∀ n, μ (st (n + 1)) + (if P (st n) (st (n + 1)) then 1 else 0) ≤ μ (st n))
    (live : ∀ n, ∃ t k, Reaches R P t k (st n))
    (stable : ∀ n t k, P (st n) (st (n + 1)) = false → th n ≠ t →
      Reaches R P t k (st n) → Reaches R P t k (st (n + 1))) : False := by
  -- the measure leaves a suffix without marked steps; there no thread can be `k` steps away from
  -- a marked one (induction on `k`), because justice would make it take them
  obtain ⟨n₀, idle⟩ :=
    eventually_unmarked (f := fun n => μ (st n)) (p := fun n => P (st n) (st (n + 1))) hμ
  obtain ⟨t, k, hk⟩ := live n₀
  suffices ∀ k n, n₀ ≤ n → ¬ Reaches R P t k (st n) from this k n₀ (Nat.le_refl _) hk
  intro k
  induction k with
  | zero => exact fun _ _ h => h
  | succ k ih =>
    intro n hn hk
    obtain ⟨m, ⟨hm, s', hs', hp⟩, rfl⟩ := scheduled fair t
      (Q := fun n => n₀ ≤ n ∧ Reaches R P t (k + 1) (st n))
      (fun n ⟨hn, hk⟩ hne => ⟨Nat.le_succ_of_le hn, stable n t _ (idle n hn) hne hk⟩)
      (fun n ⟨_, s', hs', _⟩ => ⟨s', hs'⟩) ⟨hn, hk⟩
    -- the step taken at `m` is the helpful thread's, and it is unmarked
    obtain rfl := det m s' hs'
    exact ih (m + 1) (Nat.le_succ_of_le hm)
      (hp.resolve_left (by rw [idle m hm]; exact Bool.false_ne_true))

end Torf.Justice
