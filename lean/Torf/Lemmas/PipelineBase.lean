/-
  Torf.Lemmas.PipelineBase — reachability for the pipeline transition system and the list facts
  the C03 invariants rest on (hasher table updates, items held, sorting a permutation of a sorted
  list).
-/
import Torf.Spec.Pipeline
import Torf.Lemmas.Sort
namespace Torf.Pipeline

/-- `s` is reachable from the initial state by some label sequence -/
def Reachable (cfg : Cfg) (s : State) : Prop := ∃ ls, run cfg (init cfg) ls = some s

theorem run_append (cfg : Cfg) (s : State) (l₁ l₂ : List Label) :
    run cfg s (l₁ ++ l₂) = (run cfg s l₁).bind fun s' => run cfg s' l₂ := by
  induction l₁ generalizing s with
  | nil => simp [run]
  | cons l ls ih =>
    simp only [List.cons_append, run]
    cases step cfg s l with
    | none => simp
    | some s' => simpa using ih s'

theorem Reachable.init (cfg : Cfg) : Reachable cfg (init cfg) := ⟨[], rfl⟩

theorem init_hs {cfg : Cfg} {i : Nat} {p : HPc} (h : (init cfg).hs[i]? = some p) :
    p = .notStarted :=
  List.eq_of_mem_replicate (List.mem_of_getElem? h)

theorem Reachable.run {cfg : Cfg} {s s' : State} {ls : List Label} (h : Reachable cfg s)
    (hr : run cfg s ls = some s') : Reachable cfg s' := by
  obtain ⟨l0, h0⟩ := h
  refine ⟨l0 ++ ls, ?_⟩
  rw [run_append, h0]
  simpa using hr

theorem Reachable.step {cfg : Cfg} {s s' : State} {l : Label}
    (h : Reachable cfg s) (hs : step cfg s l = some s') : Reachable cfg s' :=
  h.run (ls := [l]) (by simp [Pipeline.run, hs])

theorem run_induction {cfg : Cfg} {P : State → Prop}
    (hstep : ∀ s s' l, Reachable cfg s → P s → step cfg s l = some s' → P s') :
    ∀ (ls : List Label) (s s' : State), Reachable cfg s → P s → run cfg s ls = some s' → P s' := by
  intro ls
  induction ls with
  | nil => intro s s' _ hp hr; simp [run] at hr; exact hr ▸ hp
  | cons l ls ih =>
    intro s s' hre hp hr
    simp only [run] at hr
    cases hst : step cfg s l with
    | none => simp [hst] at hr
    | some s₁ =>
      simp only [hst] at hr
      exact ih s₁ s' (hre.step hst) (hstep _ _ _ hre hp hst) hr

theorem Reachable.induction {cfg : Cfg} {P : State → Prop} (h0 : P (Pipeline.init cfg))
    (hstep : ∀ s s' l, Reachable cfg s → P s → Pipeline.step cfg s l = some s' → P s')
    {s : State} (h : Reachable cfg s) : P s :=
  have ⟨ls, hls⟩ := h
  run_induction hstep ls _ s (.init cfg) h0 hls

theorem Reachable.of_isSome {cfg : Cfg} {ls : List Label}
    (h : (Pipeline.run cfg (Pipeline.init cfg) ls).isSome = true) :
    Reachable cfg ((Pipeline.run cfg (Pipeline.init cfg) ls).getD (Pipeline.init cfg)) :=
  ⟨ls, by cases hr : Pipeline.run cfg (Pipeline.init cfg) ls <;> simp_all⟩

/-! ### labels for writing down concrete schedules -/

def lM : Label := ⟨.main, false⟩
def lR : Label := ⟨.reader, false⟩
/-- the vital hasher -/
def lH : Label := ⟨.hasher 0, false⟩
def lJ : Label := ⟨.janitor, false⟩

theorem result_of_terminal {s : State} (ht : terminal s = true) : ∃ r, s.main = .finished r := by
  unfold terminal at ht
  split at ht
  · exact ⟨_, ‹_›⟩
  · simp at ht

/-- Like `result_of_terminal` it concludes what main's program counter is, the form in which the
    invariants speak of a result; `terminal s = true` follows by rewriting with it. -/
theorem terminal_of_result {s : State} {r : Result} (h : result? s = some r) :
    s.main = .finished r := by
  unfold result? at h
  split at h
  · simp only [Option.some.injEq] at h; subst h; assumption
  · simp at h

theorem allThreadsDone_of {s : State} (hr : s.rpc.running = false) (hj : s.jan.running = false)
    (hh : ∀ (i : Nat) (p : HPc), s.hs[i]? = some p → p.running = false) :
    allThreadsDone s = true := by
  simp only [allThreadsDone, hr, hj, Bool.not_false, Bool.true_and, Bool.and_true,
    List.all_eq_true, Bool.not_eq_eq_eq_not, Bool.not_true]
  intro p hp
  obtain ⟨i, hi⟩ := List.mem_iff_getElem?.1 hp
  exact hh i p hi

/-- `readerNext` only writes the reader's program counter and exception flag -/
theorem readerNext_eq (cfg : Cfg) (t : State) (k : Nat) :
    readerNext cfg t k =
      { t with rpc := (readerNext cfg t k).rpc, rexc := (readerNext cfg t k).rexc } := by
  unfold readerNext; (repeat' split) <;> rfl

@[simp] theorem readerNext_main (cfg : Cfg) (t : State) (k : Nat) : (readerNext cfg t k).main = t.main := by
  rw [readerNext_eq]
@[simp] theorem readerNext_stop (cfg : Cfg) (t : State) (k : Nat) : (readerNext cfg t k).stop = t.stop := by
  rw [readerNext_eq]
@[simp] theorem readerNext_pq (cfg : Cfg) (t : State) (k : Nat) : (readerNext cfg t k).pq = t.pq := by
  rw [readerNext_eq]
@[simp] theorem readerNext_hs (cfg : Cfg) (t : State) (k : Nat) : (readerNext cfg t k).hs = t.hs := by
  rw [readerNext_eq]
@[simp] theorem readerNext_fin (cfg : Cfg) (t : State) (k : Nat) : (readerNext cfg t k).fin = t.fin := by
  rw [readerNext_eq]
@[simp] theorem readerNext_hq (cfg : Cfg) (t : State) (k : Nat) : (readerNext cfg t k).hq = t.hq := by
  rw [readerNext_eq]
@[simp] theorem readerNext_jan (cfg : Cfg) (t : State) (k : Nat) : (readerNext cfg t k).jan = t.jan := by
  rw [readerNext_eq]
@[simp] theorem readerNext_tracked (cfg : Cfg) (t : State) (k : Nat) : (readerNext cfg t k).tracked = t.tracked := by
  rw [readerNext_eq]
@[simp] theorem readerNext_seen (cfg : Cfg) (t : State) (k : Nat) : (readerNext cfg t k).seen = t.seen := by
  rw [readerNext_eq]
@[simp] theorem readerNext_collected (cfg : Cfg) (t : State) (k : Nat) : (readerNext cfg t k).collected = t.collected := by
  rw [readerNext_eq]

/-- pieces whose digest the collector stores -/
def isHashed (cfg : Cfg) (k : Nat) : Bool :=
  cfg.items.getD k .nodata == .data || cfg.items.getD k .nodata == .mismatch

/-- `Collector._collect` up to the callback: dequeue piece `k`, count it, store its digest -/
def collectItem (cfg : Cfg) (s : State) (k : Nat) (rest : List (Option Nat)) : State :=
  { s with hq := rest, seen := s.seen ++ [k],
           collected := if isHashed cfg k then s.collected ++ [k] else s.collected }

/-- the state after main has handled piece `k` -/
def collectNext (cfg : Cfg) (s : State) (k : Nat) (rest : List (Option Nat)) : State :=
  let t := collectItem cfg s k rest
  if isRaising cfg (cfg.items.getD k .nodata) then
    { t with stop := true, main := .joinReaderChk (some (.item k)) }
  else match cfg.cb k (s.seen.length + 1) with
    | .pass => t
    | .cancel => { t with stop := true }
    | .raise => { t with stop := true, main := .joinReaderChk (some (.cb (s.seen.length + 1))) }

theorem stepMain_collect {cfg : Cfg} {s : State} {k : Nat} {rest : List (Option Nat)}
    (hm : s.main = .collect) (hq : s.hq = some k :: rest) (hk : k ∉ s.seen) :
    stepMain cfg s = some (collectNext cfg s k rest) := by
  unfold stepMain collectNext collectItem isHashed
  rw [hm]
  simp only [hq, List.contains_eq_mem, hk, decide_false, Bool.false_eq_true, ↓reduceIte]
  by_cases hh : (cfg.items.getD k ItemKind.nodata == ItemKind.data ||
      cfg.items.getD k ItemKind.nodata == ItemKind.mismatch) = true <;>
  by_cases hr : isRaising cfg (cfg.items.getD k .nodata) = true <;>
  simp only [hh, hr, Bool.false_eq_true, ↓reduceIte, List.length_append, List.length_singleton] <;>
  first | rfl | (cases cfg.cb k (s.seen.length + 1) <;> rfl)

/-- the item a hasher holds -/
def hk : HPc → Option Nat
  | .holding k => some k
  | _ => none

theorem hk_holding (k : Nat) : hk (.holding k) = some k := rfl

theorem held_eq (s : State) : held s = s.hs.filterMap hk := by
  unfold held
  congr 1

theorem filterMap_set_perm {α β : Type} (f : α → Option β) :
    ∀ (l : List α) (i : Nat) (x y : α), l[i]? = some y →
      ((l.set i x).filterMap f ++ (f y).toList).Perm (l.filterMap f ++ (f x).toList)
  | [], i, x, y, h => by simp at h
  | a :: l, 0, x, y, h => by
    simp only [List.getElem?_cons_zero, Option.some.injEq] at h
    subst h
    simp only [List.set_cons_zero, List.filterMap_cons]
    cases hfa : f a with
    | none =>
      cases hfx : f x with
      | none => simp
      | some c => simpa using (List.perm_append_singleton c (List.filterMap f l)).symm
    | some b =>
      cases hfx : f x with
      | none => simp
      | some c =>
        have h1 : (c :: (List.filterMap f l ++ [b])).Perm (c :: b :: List.filterMap f l) :=
          (List.perm_append_singleton _ _ |>.cons c)
        have h2 : (b :: (List.filterMap f l ++ [c])).Perm (b :: c :: List.filterMap f l) :=
          (List.perm_append_singleton _ _ |>.cons b)
        simpa using h1.trans ((List.Perm.swap b c _).trans h2.symm)
  | a :: l, i + 1, x, y, h => by
    simp only [List.getElem?_cons_succ] at h
    have ih := filterMap_set_perm f l i x y h
    simp only [List.set_cons_succ, List.filterMap_cons]
    cases f a with
    | none => simpa using ih
    | some b => simpa using ih

theorem held_set_perm (s : State) (i : Nat) (p q : HPc) (h : s.hs[i]? = some p) :
    ((s.hs.set i q).filterMap hk ++ (hk p).toList).Perm (s.hs.filterMap hk ++ (hk q).toList) :=
  filterMap_set_perm hk s.hs i q p h

theorem held_set_nn (l : List HPc) (i : Nat) (q : HPc) (hq : hk q = none)
    (h : ∀ p, l[i]? = some p → hk p = none) : ((l.set i q).filterMap hk).Perm (l.filterMap hk) := by
  cases hl : l[i]? with
  | none =>
    have : l.length ≤ i := by simpa using hl
    rw [List.set_eq_of_length_le this]
  | some p =>
    have := filterMap_set_perm hk l i q p hl
    simpa [hq, h p hl] using this

theorem held_set_take (l : List HPc) (i k : Nat) (p : HPc) (hl : l[i]? = some p) (hp : hk p = none) :
    ((l.set i (.holding k)).filterMap hk).Perm (l.filterMap hk ++ [k]) := by
  have := filterMap_set_perm hk l i (.holding k) p hl
  rw [hp] at this
  simpa [hk_holding] using this

theorem held_set_give (l : List HPc) (i k : Nat) (q : HPc) (hl : l[i]? = some (.holding k))
    (hq : hk q = none) : ((l.set i q).filterMap hk ++ [k]).Perm (l.filterMap hk) := by
  have := filterMap_set_perm hk l i q (.holding k) hl
  rw [hq] at this
  simpa [hk_holding] using this

theorem set_eq_self {α : Type} {l : List α} {i : Nat} {a : α} (h : l[i]? = some a) : l.set i a = l := by
  obtain ⟨hlt, rfl⟩ := List.getElem?_eq_some_iff.1 h
  exact List.set_getElem_self hlt

theorem set_ne_self {α : Type} {l : List α} {i : Nat} {a b : α} (h : l[i]? = some a) (hab : a ≠ b) :
    l.set i b ≠ l := by
  intro heq
  have : (l.set i b)[i]? = some a := by rw [heq]; exact h
  rw [List.getElem?_set_self (List.getElem?_eq_some_iff.1 h).1] at this
  exact hab (Option.some.inj this).symm

theorem mergeSort_eq_of_perm_sorted {l m : List Nat} (hp : l.Perm m)
    (hm : m.Pairwise (fun a b => a ≤ b)) :
    l.mergeSort (fun a b => decide (a ≤ b)) = m :=
  mergeSort_key_eq_of_perm (key := id) hp hm fun _ _ _ _ h => h

end Torf.Pipeline
