/-
  C02 over the full alphabet of path states: the two classic disks a description `fd` projects to
  (`mainDisk`: what the probes of the main loop make of it, `statDisk`: what a stat-only probe
  makes of it) with the table of how each path state looks to them (`probe_cases`, its two rows
  `Opens` / `Raises`); `stepFs` in closed form (`stepFs_eq`: the step of the two-disk loop `step2`
  of Lemmas/Verify on the projected disks unless a `read` fails) and the whole run against the run
  of `step2` (`fold_fs`).
-/
import Torf.Spec.VerifyFs
-- for `VerifyEnv.runOf`: the model gives the end of `iterItemsFs` (the run as a function of the
-- final loop state, `iterItemsFs_eq`) a name only there
import Torf.Model.VerifyEnv
import Torf.Lemmas.VerifyRun
namespace Torf.VerifyFs
open Torf Torf.Missing Torf.Verify

variable {α : Type} [Inhabited α]

theorem getD_statDisk (fd : List (FState α)) (k : Nat) :
    (statDisk fd).getD k none = statView (stateAt fd k) := by
  unfold statDisk stateAt
  simp only [List.getD_eq_getElem?_getD, List.getElem?_map]
  cases fd[k]? <;> rfl

theorem getD_mainDisk (sizes : List Nat) (fd : List (FState α)) (k : Nat) :
    (mainDisk sizes fd).getD k none = mainView (sizeOf sizes k) (stateAt fd k) := by
  unfold mainDisk stateAt
  simp only [List.getD_eq_getElem?_getD, List.getElem?_map, List.getElem?_zipIdx]
  cases fd[k]? <;> simp only [Option.map_none, Option.map_some, Option.getD_none, Option.getD_some,
    Nat.zero_add] <;> rfl

/-- a file whose `read` can fail: a regular file of the recorded size with an unreadable byte -/
def ReadFails (sizes : List Nat) (fd : List (FState α)) (j e : Nat) : Prop :=
  ∃ c off, stateAt fd j = .readErr c off e ∧ c.length = sizeOf sizes j ∧ off ≤ c.length

/-- a listed file for which the main loop gets a handle, as the two projected disks and the
    specification see it -/
structure Opens (sizes : List Nat) (fd : List (FState α)) (k : Nat) : Prop where
  probe : mainProbe (sizeOf sizes k) (stateAt fd k) = .handle
  main : fileError sizes (mainDisk sizes fd) k = none
  stat : fileError sizes (statDisk fd) k = none
  content : ((mainDisk sizes fd).getD k none).getD [] = contentOf (stateAt fd k)
  owed : (owedAt sizes fd k = none ∧ ∀ skip, faultAt (stateAt fd k) skip = none) ∨
    ∃ e, ReadFails sizes fd k e ∧ owedAt sizes fd k = some (.read e)

/-- a listed file at which the probe of the main loop raises (`kind`, with `errno` `e`); `o` is
    what the file owes.  The last disjunct of `stat` is the one state the two disks disagree on, a
    path of the recorded size that only `open` rejects (what `NoSilent` excludes). -/
structure Raises (sizes : List Nat) (fd : List (FState α)) (k : Nat) (kind : ErrKind) (e : Nat)
    (o : Owed) : Prop where
  probe : mainProbe (sizeOf sizes k) (stateAt fd k) = .exc kind e
  main : fileError sizes (mainDisk sizes fd) k = some kind
  owed : owedAt sizes fd k = some o
  err : owedErr k o = excOf (k, kind)
  errno : kind = .read → o = .read ((osOpen (stateAt fd k)).getD 0)
  stat : fileError sizes (statDisk fd) k = some kind ∨
    fileError sizes (statDisk fd) k = none ∧ ∃ e', stateAt fd k = .noOpen (sizeOf sizes k) e'

theorem probe_cases (sizes : List Nat) (fd : List (FState α)) (k : Nat) :
    Opens sizes fd k ∨ ∃ kind e o, Raises sizes fd k kind e o := by
  -- the two rows as conjunctions, so that one `simp` per state fills a row
  suffices table :
      (mainProbe (sizeOf sizes k) (stateAt fd k) = .handle ∧
        fileError sizes (mainDisk sizes fd) k = none ∧ fileError sizes (statDisk fd) k = none ∧
        ((mainDisk sizes fd).getD k none).getD [] = contentOf (stateAt fd k) ∧
        ((owedAt sizes fd k = none ∧ ∀ skip, faultAt (stateAt fd k) skip = none) ∨
          ∃ e, ReadFails sizes fd k e ∧ owedAt sizes fd k = some (.read e))) ∨
      (∃ kind e o, mainProbe (sizeOf sizes k) (stateAt fd k) = .exc kind e ∧
        fileError sizes (mainDisk sizes fd) k = some kind ∧ owedAt sizes fd k = some o ∧
        owedErr k o = excOf (k, kind) ∧
        (kind = .read → o = .read ((osOpen (stateAt fd k)).getD 0)) ∧
        (fileError sizes (statDisk fd) k = some kind ∨
          fileError sizes (statDisk fd) k = none ∧
            ∃ e', stateAt fd k = .noOpen (sizeOf sizes k) e')) by
    rcases table with ⟨a, b, c, d, e⟩ | ⟨kind, e, o, a, b, c, d, f, g⟩
    · exact Or.inl ⟨a, b, c, d, e⟩
    · exact Or.inr ⟨kind, e, o, a, b, c, d, f, g⟩
  unfold fileError owedAt ReadFails
  rw [getD_mainDisk, getD_statDisk]
  generalize stateAt fd k = s
  generalize sizeOf sizes k = n
  cases s with
  | file c =>
    by_cases h : c.length = n
    · left
      simp [mainProbe, statSize, getOpenFile, osOpen, mainView, statView, contentOf, owed, faultAt, h]
    · right
      exact ⟨.size, 0, .size, by simp [mainProbe, statSize, mainView, statView, owed, h, owedErr, excOf]⟩
  | gone e =>
    right
    exact ⟨.read, e, .read e, by simp [mainProbe, statSize, getOpenFile, osOpen, openCaught, mainView, statView, owed, owedErr, excOf]⟩
  | noOpen m e =>
    right
    by_cases h : m = n
    · exact ⟨.read, e, .read e, by simp [mainProbe, statSize, getOpenFile, osOpen, openCaught, mainView, statView, owed, owedErr, excOf, h]⟩
    · exact ⟨.size, 0, .size, by simp [mainProbe, statSize, mainView, statView, owed, owedErr, excOf, h]⟩
  | readErr c off e =>
    by_cases h : c.length = n
    · left
      subst h
      by_cases ho : off ≤ c.length
      · simp [mainProbe, statSize, getOpenFile, osOpen, mainView, statView, contentOf, owed, ho]
        exact ⟨c, off, ⟨rfl, rfl⟩, rfl, ho⟩
      · simp [mainProbe, statSize, getOpenFile, osOpen, mainView, statView, contentOf, owed, faultAt, ho]
    · right
      exact ⟨.size, 0, .size, by simp [mainProbe, statSize, mainView, statView, owed, h, owedErr, excOf]⟩

theorem contentOf_of_handle (sizes : List Nat) (fd : List (FState α)) (k : Nat)
    (h : fileError sizes (mainDisk sizes fd) k = none) :
    ((mainDisk sizes fd).getD k none).getD [] = contentOf (stateAt fd k) := by
  rcases probe_cases sizes fd k with row | ⟨_, _, _, row⟩
  · exact row.content
  · rw [row.main] at h; cases h

/-- a stat-only probe never sees more damage than the probes of the main loop, and of the same
    kind (`Weaker` of VerifyFsSim for the two projected disks) -/
theorem fileError_statDisk (sizes : List Nat) (fd : List (FState α)) (k : Nat) :
    fileError sizes (statDisk fd) k = fileError sizes (mainDisk sizes fd) k ∨
    fileError sizes (statDisk fd) k = none := by
  rcases probe_cases sizes fd k with row | ⟨_, _, _, row⟩
  · exact Or.inr row.stat
  · exact row.stat.imp (·.trans row.main.symm) (·.1)

theorem owed_of_fileError (sizes : List Nat) (fd : List (FState α)) (k : Nat)
    (kind : ErrKind) (h : fileError sizes (mainDisk sizes fd) k = some kind) :
    ∃ o, owedAt sizes fd k = some o ∧ owedErr k o = excOf (k, kind) := by
  rcases probe_cases sizes fd k with row | ⟨_, _, o, row⟩
  · rw [row.main] at h; cases h
  · rw [row.main] at h; cases h; exact ⟨o, row.owed, row.err⟩

theorem owed_of_badFiles (sizes : List Nat) (fd : List (FState α))
    (x : Nat × ErrKind) (h : x ∈ badFiles sizes (mainDisk sizes fd)) :
    ∃ k o, k < sizes.length ∧ owedAt sizes fd k = some o ∧ excOf x = owedErr k o := by
  unfold badFiles at h
  obtain ⟨k, hk, hx⟩ := List.mem_filterMap.mp h
  obtain ⟨kind, hf, rfl⟩ := Option.map_eq_some_iff.mp hx
  obtain ⟨o, ho, hoe⟩ := owed_of_fileError sizes fd k kind hf
  exact ⟨k, o, List.mem_range.mp hk, ho, hoe.symm⟩

/-- does the `read` fail in this iteration? -/
def fires (sizes : List Nat) (fd : List (FState α)) (st : St α) (j : Nat) : Option (Nat × Nat) :=
  if st.failed || st.bycatch.contains j then none else
  match mainProbe (sizeOf sizes j) (stateAt fd j) with
  | .handle => faultAt (stateAt fd j) st.skip
  | _ => none

omit [Inhabited α] in
theorem fires_some (sizes : List Nat) (fd : List (FState α)) (st : St α) (j : Nat) (re : Nat × Nat)
    (h : fires sizes fd st j = some re) :
    st.failed = false ∧ st.bycatch.contains j = false ∧
      mainProbe (sizeOf sizes j) (stateAt fd j) = .handle ∧
      faultAt (stateAt fd j) st.skip = some re := by
  unfold fires at h
  split at h
  · cases h
  · rename_i hfb
    simp only [Bool.or_eq_true, not_or, Bool.not_eq_true] at hfb
    split at h
    · rename_i hp; exact ⟨hfb.1, hfb.2, hp, h⟩
    · cases h

theorem readFails_of_fires (sizes : List Nat) (fd : List (FState α)) (st : St α) (j : Nat)
    (r e : Nat) (h : fires sizes fd st j = some (r, e)) : ReadFails sizes fd j e := by
  obtain ⟨_, _, hp, hfa⟩ := fires_some sizes fd st j _ h
  rcases probe_cases sizes fd j with row | ⟨_, _, _, row⟩
  · rcases row.owed with ⟨_, hno⟩ | ⟨e', ⟨c, off, hs, hlen, hoff⟩, _⟩
    · rw [hno] at hfa; cases hfa
    · rw [hs] at hfa
      simp only [faultAt] at hfa
      split at hfa
      · cases hfa; exact ⟨c, off, hs, hlen, hoff⟩
      · cases hfa
  · cases hp.symm.trans row.probe

omit [Inhabited α] in
theorem owed_of_readFails (sizes : List Nat) (fd : List (FState α)) (j e : Nat)
    (h : ReadFails sizes fd j e) : owedAt sizes fd j = some (.read e) := by
  obtain ⟨c, off, hs, hc, hoff⟩ := h
  unfold owedAt owed
  rw [hs]
  simp only [hc, if_true]
  rw [hc] at hoff
  simp [hoff]

/-- the pieces completed by the reads of file `j` that precede the failing one (`r`: offset of
    the unreadable byte in what is read) -/
def firedOut (L : Nat) (fd : List (FState α)) (st : St α) (j r : Nat) : List (List α) :=
  (Stream.consume L [] (Stream.iterFromHandle L st.trailing
    (((contentOf (stateAt fd j)).drop st.skip).take (readBoundary L st.trailing.length r)))).2

theorem stepFs_eq (L : Nat) (sizes : List Nat) (fd : List (FState α)) (s : StFs α) (j : Nat) :
    stepFs L sizes fd s j =
      if s.fault.isSome then s else
      match fires sizes fd s.st j with
      | none => { st := step2 L sizes (mainDisk sizes fd) (statDisk fd) s.st j, fault := none }
      | some (r, e) =>
        { st := { s.st with trailing := [], skip := 0,
                            out := s.st.out ++ (firedOut L fd s.st j r).map dataItem },
          fault := some (j, e) } := by
  obtain ⟨st, fault⟩ := s
  cases fault with
  | some f => unfold stepFs; rfl
  | none =>
    unfold stepFs step2 fires firedOut
    simp only [Option.isSome_none, Bool.false_eq_true, if_false]
    by_cases h1 : st.failed = true
    · simp only [h1, if_true, Bool.true_or]
    · by_cases h2 : st.bycatch.contains j = true
      · simp only [h1, h2, Bool.false_eq_true, if_false, if_true, Bool.or_true]
      · simp only [h1, h2, Bool.false_eq_true, if_false, Bool.or_self]
        rcases probe_cases sizes fd j with row | ⟨kind, e, _, row⟩
        · rw [row.probe]
          simp only
          cases faultAt (stateAt fd j) st.skip with
          | none => simp only; rw [row.main, row.content]
          | some re => simp only [readCaught, if_true]
        · rw [row.probe, row.main]
          simp only
          cases missingCall L sizes (statDisk fd) st.seen st.bycatch j kind <;> rfl

theorem stepFs_out_prefix (L : Nat) (sizes : List Nat) (fd : List (FState α)) (s : StFs α)
    (j : Nat) : s.st.out <+: (stepFs L sizes fd s j).st.out := by
  rw [stepFs_eq]
  split
  · exact List.prefix_refl _
  · split
    · exact step2_out_prefix ..
    · exact List.prefix_append _ _

theorem stepFs_fault (L : Nat) (sizes : List Nat) (fd : List (FState α)) (s : StFs α) (j : Nat)
    (je : Nat × Nat) (h : s.fault = some je) : stepFs L sizes fd s j = s := by
  rw [stepFs_eq, if_pos (by rw [h]; rfl)]

theorem stepFs_nofire (L : Nat) (sizes : List Nat) (fd : List (FState α)) (s : StFs α) (j : Nat)
    (hf : s.fault = none) (h : fires sizes fd s.st j = none) :
    stepFs L sizes fd s j =
      { st := step2 L sizes (mainDisk sizes fd) (statDisk fd) s.st j, fault := none } := by
  rw [stepFs_eq, hf, h]
  rfl

theorem stepFs_fire (L : Nat) (sizes : List Nat) (fd : List (FState α)) (s : StFs α) (j : Nat)
    (r e : Nat) (hf : s.fault = none) (h : fires sizes fd s.st j = some (r, e)) :
    (stepFs L sizes fd s j).fault = some (j, e) ∧ (stepFs L sizes fd s j).st.failed = false ∧
      (stepFs L sizes fd s j).st.out = s.st.out ++ (firedOut L fd s.st j r).map dataItem := by
  rw [stepFs_eq, hf, h]
  exact ⟨rfl, (fires_some sizes fd s.st j _ h).1, rfl⟩

omit [Inhabited α] in
theorem consume_take_prefix (L : Nat) (hL : 0 < L) (tr c : List α) (m : Nat) :
    (Stream.consume L [] (Stream.iterFromHandle L tr (c.take m))).2 <+:
      (Stream.consume L [] (Stream.iterFromHandle L tr c)).2 := by
  rw [Stream.iterFromHandle_eq_chunks L hL, Stream.iterFromHandle_eq_chunks L hL,
    Stream.consume_chunks L hL, Stream.consume_chunks L hL]
  simp only [List.nil_append]
  -- the complete pieces of `xs` are the first `xs.length / L` chunks of any stream it begins
  obtain ⟨t, ht⟩ : tr ++ c.take m <+: tr ++ c :=
    (List.prefix_append_right_inj tr).mpr (List.take_prefix m c)
  rw [← ht]
  generalize tr ++ c.take m = xs
  rw [← List.take_append_of_le_length (Nat.div_mul_le_self _ _) (l₂ := t), ← chunks_take L hL,
    ← chunks_take L hL]
  exact List.take_prefix_take_left (Nat.div_le_div_right (by simp))

/-- had the `read` not failed, the same step would have yielded at least the same pieces -/
theorem firedOut_prefix (L : Nat) (hL : 0 < L) (sizes : List Nat) (fd : List (FState α))
    (st : St α) (j : Nat) (r e : Nat) (h : fires sizes fd st j = some (r, e)) :
    st.out ++ (firedOut L fd st j r).map dataItem <+:
      (step2 L sizes (mainDisk sizes fd) (statDisk fd) st j).out := by
  obtain ⟨h1, h2, hp, _⟩ := fires_some sizes fd st j _ h
  rcases probe_cases sizes fd j with row | ⟨_, _, _, row⟩
  · unfold step2 firedOut
    simp only [h1, h2, row.main, Bool.false_eq_true, if_false]
    rw [row.content]
    apply (List.prefix_append_right_inj _).mpr
    exact List.IsPrefix.map _ (consume_take_prefix L hL _ _ _)
  · cases hp.symm.trans row.probe

theorem fold_fs (L : Nat) (sizes : List Nat) (fd : List (FState α)) (js : List Nat) :
    let s' := js.foldl (stepFs L sizes fd) {}
    let st2 := js.foldl (step2 L sizes (mainDisk sizes fd) (statDisk fd)) {}
    s' = { st := st2, fault := none } ∨
    (∃ j e, s'.fault = some (j, e) ∧ j ∈ js ∧ ReadFails sizes fd j e ∧ s'.st.failed = false ∧
      (0 < L → s'.st.out <+: st2.out)) :=
  List.foldl_rel
    (r := fun (c : StFs α) c' => c = { st := c', fault := none } ∨
      ∃ j e, c.fault = some (j, e) ∧ j ∈ js ∧ ReadFails sizes fd j e ∧ c.st.failed = false ∧
        (0 < L → c.st.out <+: c'.out))
    (Or.inl rfl) fun j hj c c' h => by
      rcases h with rfl | ⟨j', e, h1, h2, h3, h4, h5⟩
      · cases hfire : fires sizes fd c' j with
        | none => exact Or.inl (stepFs_nofire L sizes fd _ j rfl hfire)
        | some re =>
          obtain ⟨e1, e2, e3⟩ :=
            stepFs_fire L sizes fd { st := c', fault := none } j re.1 re.2 rfl hfire
          exact Or.inr ⟨j, re.2, e1, hj, readFails_of_fires sizes fd c' j re.1 re.2 hfire, e2,
            fun hL => e3 ▸ firedOut_prefix L hL sizes fd c' j re.1 re.2 hfire⟩
      · -- the faulted run stands still, the other one only appends
        rw [stepFs_fault L sizes fd c j _ h1]
        exact Or.inr ⟨j', e, h1, h2, h3, h4, fun hL => (h5 hL).trans (step2_out_prefix ..)⟩

theorem fold_fs_nofault (L : Nat) (sizes : List Nat) (fd : List (FState α)) (js : List Nat)
    (h : ∀ j ∈ js, ∀ e, ¬ ReadFails sizes fd j e) :
    js.foldl (stepFs L sizes fd) {} =
      { st := js.foldl (step2 L sizes (mainDisk sizes fd) (statDisk fd)) {}, fault := none } := by
  rcases fold_fs L sizes fd js with hs | ⟨j, e, _, hj, hrf, _⟩
  · exact hs
  · exact absurd hrf (h j hj e)

theorem iterItemsFs_eq (L : Nat) (sizes : List Nat) (fd : List (FState α)) :
    iterItemsFs L sizes fd =
      VerifyEnv.runOf ((List.range sizes.length).foldl (stepFs L sizes fd) {}) := rfl

omit [Inhabited α] in
theorem runOf_nofault (st : St α) :
    VerifyEnv.runOf { st := st, fault := none } = (itemsOf st).map fun items => ⟨items, none⟩ := by
  unfold VerifyEnv.runOf itemsOf
  split
  · rfl
  · simp only [Option.isSome_none, Bool.false_eq_true, if_false]
    split <;> rfl

omit [Inhabited α] in
theorem runOf_fault (s : StFs α) (je : Nat × Nat) (hf : s.fault = some je)
    (hnf : s.st.failed = false) : VerifyEnv.runOf s = some ⟨s.st.out, some je⟩ := by
  unfold VerifyEnv.runOf
  simp only [hnf, hf, Bool.false_eq_true, if_false, Option.isSome_some, if_true]

omit [Inhabited α] in
theorem runOf_failed (s : StFs α) (h : s.st.failed = true) : VerifyEnv.runOf s = none :=
  if_pos h

omit [Inhabited α] in
theorem runOf_cases (s : StFs α) :
    VerifyEnv.runOf s = none ∨ ∃ tl, VerifyEnv.runOf s = some ⟨s.st.out ++ tl, s.fault⟩ := by
  unfold VerifyEnv.runOf
  split
  · exact Or.inl rfl
  · right
    cases s.fault with
    | some je => exact ⟨[], by rw [List.append_nil]; rfl⟩
    | none =>
      simp only [Option.isSome_none, Bool.false_eq_true, if_false]
      split
      · exact ⟨[], by rw [List.append_nil]⟩
      · exact ⟨_, rfl⟩

theorem verifyFs_eq_gate {δ : Type} [DecidableEq δ] (H : List α → δ) (L : Nat) (sizes : List Nat)
    (fd : List (FState α)) (stored : List δ) (hasCb single pathIsDir : Bool) :
    verifyFs H L sizes fd stored hasCb single pathIsDir =
      pathKindGate hasCb single pathIsDir
        (match iterItemsFs L sizes fd with
          | none => (.error .internal, [])
          | some run => collect H L sizes stored hasCb run.items run.fault) := by
  unfold verifyFs pathKindGate
  cases iterItemsFs L sizes fd <;> rfl

theorem verifyFs_eq_collect {δ : Type} [DecidableEq δ] (H : List α → δ) (L : Nat)
    (sizes : List Nat) (fd : List (FState α)) (stored : List δ) (hasCb single pathIsDir : Bool)
    (hp : single = !pathIsDir) :
    verifyFs H L sizes fd stored hasCb single pathIsDir =
      match iterItemsFs L sizes fd with
      | none => (.error .internal, [])
      | some run => collect H L sizes stored hasCb run.items run.fault := by
  rw [verifyFs_eq_gate, pathKindGate_proper hasCb hp]

end Torf.VerifyFs
