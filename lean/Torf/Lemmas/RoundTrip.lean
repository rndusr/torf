/-
  The `read_stream` pipeline after parsing (`decodeTop`, creation-date setter, private setter,
  `metainfo` property) keeps the decoded metainfo an entry-wise representation (`Rep`) of the
  parsed canonical document, under the round-trip hypotheses of C05.
-/
import Torf.Lemmas.Utf8Keys
import Torf.Lemmas.Dump
import Torf.Lemmas.Lookup
namespace Torf.ReadStream
open Torf Torf.Bencode Torf.Codec

/-- the body of `read` once flatbencode has returned the dict `enc` -/
def readDict (env : Env) (enc : List (Bytes × BVal)) (validate : Bool) :
    Except Err (List (PyVal × PyVal)) :=
  let md := decodeTop enc
  match assertInfo md validate with
  | .error e => .error e
  | .ok () =>
    let md1 : Except Err (List (PyVal × PyVal)) :=
      match lookup kCreationDate enc with
      | some cd => setCreationDate env cd md
      | none => .ok md
    match md1 with
    | .error e => .error e
    | .ok md1 =>
      let md2 := ensureInfo (setPrivate enc md1)
      if validate && !env.validate (.dict md2) then .error .metainfo else .ok md2

theorem read_eq (env : Env) (bs : Bytes) (validate : Bool) :
    read env bs validate =
      if bs.length > env.maxSize then .error .value else
      match parse env.lim bs with
      | none => .error .bdecode
      | some (.dict enc) => readDict env enc validate
      | some _ => .error .bdecode := by
  unfold read readDict
  rfl

variable {env : Env} {enc I : List (Bytes × BVal)} {validate : Bool} {t : List (PyVal × PyVal)}

theorem readDict_of_read {bs : Bytes} (hp : parse env.lim bs = some (.dict enc))
    (hr : read env bs validate = .ok t) : readDict env enc validate = .ok t := by
  rw [read_eq] at hr
  split at hr
  · exact absurd hr (by simp)
  · simpa only [hp] using hr

/- Introduction rules for the round-trip hypotheses, for documents given explicitly (the test
   vectors of `Properties/C05*.lean`). -/

theorem PiecesOk.of_lookup {b : Bytes}
    (hi : lookup kInfo enc = some (.dict I)) (hp : lookup kPieces I = some (.bytes b)) :
    PiecesOk enc := fun ikvs p h1 h2 => by
  obtain rfl : I = ikvs := BVal.dict.inj (Option.some.inj (hi.symm.trans h1))
  exact ⟨b, Option.some.inj (h2.symm.trans hp)⟩

theorem PrivateOk.of_none
    (hi : lookup kInfo enc = some (.dict I)) (hp : lookup kPrivate I = none) :
    PrivateOk enc := fun ikvs pv h1 h2 => by
  obtain rfl : I = ikvs := BVal.dict.inj (Option.some.inj (hi.symm.trans h1))
  exact absurd (h2.symm.trans hp) (by simp)

theorem PrivateOk.of_bit {i : Int}
    (hi : lookup kInfo enc = some (.dict I)) (hp : lookup kPrivate I = some (.int i))
    (hb : i = 0 ∨ i = 1) : PrivateOk enc := fun ikvs pv h1 h2 => by
  obtain rfl : I = ikvs := BVal.dict.inj (Option.some.inj (hi.symm.trans h1))
  obtain rfl := Option.some.inj (h2.symm.trans hp)
  exact hb.imp (congrArg _) (congrArg _)

theorem DateOk.of_none
    (h : lookup kCreationDate enc = none) : DateOk env enc :=
  fun cd hcd => absurd (hcd.symm.trans h) (by simp)

theorem DateOk.of_int {i : Int}
    (h : lookup kCreationDate enc = some (.int i)) (hts : env.fromTs i = some (.datetime (some i))) :
    DateOk env enc :=
  fun _ hcd => ⟨i, Option.some.inj (hcd.symm.trans h), hts⟩

theorem ensureInfo_of_lookup {md : List (PyVal × PyVal)} {m : PyVal}
    (h : PyVal.lookupStr "info" md = some m) : ensureInfo md = md := by
  simp [ensureInfo, h]

theorem lookupStr_ensureInfo (md : List (PyVal × PyVal)) :
    ∃ m, PyVal.lookupStr "info" (ensureInfo md) = some m := by
  unfold ensureInfo
  cases h : PyVal.lookupStr "info" md with
  | some m => exact ⟨m, h⟩
  | none => exact ⟨.dict [], by rw [Validate.lookupStr_append, h]; rfl⟩

theorem ensureInfo_idem (md : List (PyVal × PyVal)) : ensureInfo (ensureInfo md) = ensureInfo md := by
  obtain ⟨m, hm⟩ := lookupStr_ensureInfo md
  exact ensureInfo_of_lookup hm

theorem _root_.Torf.Codec.Rep.info {D : List (PyVal × PyVal)} {kvs ikvs : List (Bytes × BVal)}
    (h : Rep D kvs) (hl : lookup kInfo kvs = some (.dict ikvs)) :
    ∃ I, PyVal.lookupStr "info" D = some (.dict I) ∧ encodeValue (.dict I) = .ok (.dict ikvs) := by
  obtain ⟨m, hm, hem⟩ := h.lookup "info" (kInfo_eq ▸ hl)
  obtain ⟨I, rfl⟩ := dict_of_encodeValue_dict hem
  exact ⟨I, hm, hem⟩

/-- `metainfo['info'][k] = m` on a represented metainfo.  How `info` is represented inside `md` is
    known only up to the sort of `encode_dict`, hence `hperm` for every rearrangement `l` of the
    document's `ikvs0`. -/
theorem rep_setInInfo {md : List (PyVal × PyVal)} {enc0 ikvs0 ikvs : List (Bytes × BVal)}
    (k : String) {m : PyVal} {w : BVal}
    (h : Rep md enc0) (hl : lookup kInfo enc0 = some (.dict ikvs0)) (hm : encodeValue m = .ok w)
    (ha : keysAsc (ikvs.map (·.1)) = true)
    (hperm : ∀ l : List (Bytes × BVal), l.Perm ikvs0 → (dictSet (utf8Enc k) w l).Perm ikvs) :
    Rep (setInInfo k m md) (dictSet kInfo (.dict ikvs) enc0) := by
  obtain ⟨I, hI, heI⟩ := h.info hl
  obtain ⟨l, hrI, hp⟩ := encodeValue_dict_inv heI
  simp only [setInInfo, hI]
  exact kInfo_eq ▸ h.setStr "info" (encodeValue_dict_of_rep (hrI.setStr k hm) (hperm l hp) ha)

theorem canon_erase (k : Bytes) (ikvs : List (Bytes × BVal)) (h : canon (.dict ikvs) = true) :
    canon (.dict (erase k ikvs)) = true := by
  simp only [canon, Bool.and_eq_true] at h ⊢
  have hs := erase_sublist k ikvs
  refine ⟨keysAsc_iff.mpr ((keysAsc_iff.mp h.1).sublist (hs.map _)), ?_⟩
  rw [canonKvs_iff] at h ⊢
  exact fun p hp => h.2 p (hs.subset hp)

theorem utf8Keys_erase (k : Bytes) (ikvs : List (Bytes × BVal)) (h : utf8KeysKvs ikvs = true) :
    utf8KeysKvs (erase k ikvs) = true := by
  rw [utf8KeysKvs_iff] at h ⊢
  exact fun p hp => h p ((erase_sublist k ikvs).subset hp)

/-- torf/_torrent.py:1639-1650 (pop `pieces`, decode, restore it raw): still a representation of `enc` -/
theorem rep_decodeTop (enc : List (Bytes × BVal)) (hc : canon (.dict enc) = true)
    (hu : utf8Keys (.dict enc) = true) (hpieces : PiecesOk enc) : Rep (decodeTop enc) enc := by
  simp only [canon, Bool.and_eq_true] at hc
  simp only [utf8Keys] at hu
  have hplain := enc_decKvs enc hc.2 hu
  unfold decodeTop
  split
  · rename_i ikvs hl
    split
    · rename_i p hp
      obtain ⟨b, rfl⟩ := hpieces ikvs p hl hp
      have hmem := mem_of_lookup hl
      have hci : canon (.dict ikvs) = true := canonKvs_iff.mp hc.2 _ hmem
      have hui := utf8KeysKvs_iff.mp hu _ hmem
      have hka := keysAsc_of_canon hci
      -- the document with `pieces` removed from `info`
      have hc' : canonKvs (dictSet kInfo (.dict (erase kPieces ikvs)) enc) = true :=
        canonKvs_iff.mpr (forall_mem_dictSet (canonKvs_iff.mp hc.2) (canon_erase _ _ hci))
      have hu' : utf8KeysKvs (dictSet kInfo (.dict (erase kPieces ikvs)) enc) = true :=
        utf8KeysKvs_iff.mpr (forall_mem_dictSet (utf8KeysKvs_iff.mp hu)
          ⟨hui.1, utf8Keys_erase kPieces ikvs hui.2⟩)
      have hrep := enc_decKvs _ hc' hu'
      have := rep_setInInfo (ikvs := ikvs) "pieces" (m := .bytes b) (w := .bytes b) hrep
        (lookup_dictSet enc) rfl hka (by
          intro l hpl
          rw [kPieces_eq]
          have hnot : kPieces ∉ l.map (·.1) := by
            intro hin
            exact not_mem_keys_erase ikvs (keysAsc_nodup _ hka) ((hpl.map (·.1)).subset hin)
          rw [dictSet_fresh _ _ _ hnot]
          exact (List.perm_append_comm.trans (hpl.cons _)).trans (erase_perm hp))
      rw [dictSet_dictSet, dictSet_of_lookup hl] at this
      simpa [raw] using this
    · exact hplain
  · exact hplain

theorem encode_bool_truthy {pv : BVal} (h : pv = .int 0 ∨ pv = .int 1) :
    encodeValue (.bool (truthy pv)) = .ok pv := by
  rcases h with rfl | rfl <;> rfl

/-- the `private` setter keeps the representation when `private` is 0/1: `bool(pv)` is written
    as `pv`, which `info` has in every rearrangement of `ikvs` -/
theorem rep_setPrivate {md : List (PyVal × PyVal)} {ikvs : List (Bytes × BVal)} {pv : BVal}
    (h : Rep md enc) (hl : lookup kInfo enc = some (.dict ikvs))
    (hka : keysAsc (ikvs.map (·.1)) = true) (hpv : lookup kPrivate ikvs = some pv)
    (hb : pv = .int 0 ∨ pv = .int 1) : Rep (setInInfo "private" (.bool (truthy pv)) md) enc := by
  have := rep_setInInfo (ikvs := ikvs) "private" h hl (encode_bool_truthy hb) hka fun l hpl => by
    rw [kPrivate_eq, dictSet_of_lookup ((lookup_perm hpl
      ((hpl.map (·.1)).nodup_iff.mpr (keysAsc_nodup _ hka)) _).trans hpv)]
    exact hpl
  rwa [dictSet_of_lookup hl] at this

theorem rep_setCreationDate {md : List (PyVal × PyVal)} {i : Int}
    (h : Rep md enc) (hcd : lookup kCreationDate enc = some (.int i)) :
    Rep (setStr "creation date" (.datetime (some i)) md) enc := by
  have := h.setStr "creation date" (m := .datetime (some i)) (w := .int i) rfl
  rwa [kCreationDate_eq, dictSet_of_lookup hcd] at this

theorem readDict_ok (h : readDict env enc validate = .ok t) :
    ∃ md1, assertInfo (decodeTop enc) validate = .ok () ∧
      (match lookup kCreationDate enc with
        | some cd => setCreationDate env cd (decodeTop enc)
        | none => .ok (decodeTop enc)) = .ok md1 ∧
      t = ensureInfo (setPrivate enc md1) ∧ (validate && !env.validate (.dict t)) = false := by
  unfold readDict at h
  simp only at h
  split at h
  · exact absurd h (by simp)
  · rename_i hassert
    split at h
    · exact absurd h (by simp)
    · rename_i md1 hmd1
      split at h
      · exact absurd h (by simp)
      · rename_i hval
        obtain rfl := Except.ok.inj h
        exact ⟨md1, hassert, hmd1, rfl, Bool.eq_false_iff.mpr hval⟩

/-- Induction over what `readDict` does to `decodeTop enc` (the date representable, `info` a dict): it
    writes `creation date`, writes `private` into `info`, and takes the `metainfo` property
    (`ensureInfo`) — before either write, since the setters go through that property, and for the
    result. -/
theorem readDict_ind {P : List (PyVal × PyVal) → Prop} {ikvs : List (Bytes × BVal)}
    (hdate : DateOk env enc) (hl : lookup kInfo enc = some (.dict ikvs)) (top : P (decodeTop enc))
    (date : ∀ md i, P md → lookup kCreationDate enc = some (.int i) →
      P (setStr "creation date" (.datetime (some i)) md))
    (priv : ∀ md pv, P md → lookup kPrivate ikvs = some pv →
      P (setInInfo "private" (.bool (truthy pv)) md))
    (ens : ∀ md, P md → P (ensureInfo md))
    (hr : readDict env enc validate = .ok t) : P t := by
  obtain ⟨md1, _, hmd1, rfl, _⟩ := readDict_ok hr
  have h1 : P md1 := by
    split at hmd1
    · rename_i cd hcd
      obtain ⟨i, rfl, hts⟩ := hdate cd hcd
      simp only [setCreationDate, hts, Except.ok.injEq] at hmd1
      exact hmd1 ▸ date _ i (ens _ top) hcd
    · exact Except.ok.inj hmd1 ▸ top
  refine ens _ ?_
  simp only [setPrivate, hl]
  split
  · exact priv _ _ (ens _ h1) ‹_›
  · exact h1

theorem info_dict_of_assert
    (hrep : Rep (decodeTop enc) enc) (hinfo : validate = true ∨ (lookup kInfo enc).isSome = true)
    (ha : assertInfo (decodeTop enc) validate = .ok ()) :
    ∃ ikvs, lookup kInfo enc = some (.dict ikvs) := by
  unfold assertInfo at ha
  split at ha
  · rename_i hnone
    have hn := hrep.lookupStr_none "info" hnone
    rw [kInfo_eq] at hn
    rcases hinfo with hv | hs
    · simp [hv] at ha
    · simp [hn] at hs
  · rename_i D hD
    obtain ⟨w, hw, hew⟩ := hrep.lookupStr "info" hD
    rw [kInfo_eq] at hw
    obtain ⟨es, _, rfl⟩ := encodeValue_dict_ok hew
    exact ⟨_, hw⟩
  · exact absurd ha (by simp)

/-- **Core of C05**: whatever `read_stream` builds from a canonical document under the
    round-trip hypotheses is a representation of that document, so `encode_dict` of it gives the
    document back exactly; it has `info`, a dictionary in the document too. -/
theorem readDict_rep (env : Env) (enc : List (Bytes × BVal)) (validate : Bool)
    (t : List (PyVal × PyVal))
    (hc : canon (.dict enc) = true) (hu : utf8Keys (.dict enc) = true)
    (hpieces : PiecesOk enc) (hpriv : PrivateOk enc) (hdate : DateOk env enc)
    (hinfo : validate = true ∨ (lookup kInfo enc).isSome = true)
    (hr : readDict env enc validate = .ok t) :
    Rep t enc ∧ ensureInfo t = t ∧ (validate && !env.validate (.dict t)) = false ∧
      ∃ ikvs, lookup kInfo enc = some (.dict ikvs) := by
  have hrep := rep_decodeTop enc hc hu hpieces
  obtain ⟨_, hassert, _, _, hval⟩ := readDict_ok hr
  obtain ⟨ikvs, hl⟩ := info_dict_of_assert hrep hinfo hassert
  have hka : keysAsc (ikvs.map (·.1)) = true :=
    keysAsc_of_canon (canonKvs_iff.mp ((Bool.and_eq_true _ _).mp hc).2 _ (mem_of_lookup hl))
  -- a represented document with `info` needs no `ensureInfo`
  have hens : ∀ {md}, Rep md enc → ensureInfo md = md := fun h =>
    (h.info hl).elim fun _ hI => ensureInfo_of_lookup hI.1
  have hrep2 : Rep t enc := readDict_ind (P := fun md => Rep md enc) hdate hl hrep
    (fun md i h hcd => rep_setCreationDate h hcd)
    (fun md pv h hpv => rep_setPrivate h hl hka hpv (hpriv ikvs pv hl hpv))
    (fun md h => (hens h).symm ▸ h) hr
  exact ⟨hrep2, hens hrep2, hval, ikvs, hl⟩

end Torf.ReadStream
