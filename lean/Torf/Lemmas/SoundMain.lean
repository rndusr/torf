/-
  The exported value of a validated metainfo satisfies `Sound.soundVal`.
-/
import Torf.Lemmas.SoundFacts
namespace Torf.Sound
open Torf Torf.Bencode Torf.Validate

variable (urlOk : Bytes → Bool)

theorem soundVal_of_valid {md0 : Items} {b : BVal} (vf : ValidFacts urlOk md0) (he : Exported (.dict md0) b) :
    soundVal urlOk b = true := by
  obtain ⟨info, pcs, cf, af, hb, hz, h20, size, pv2, hsize, hpv2, hcount⟩ := vf.ex
  obtain ⟨L, rfl, hlook⟩ := he.dict
  obtain ⟨_, hie, hib⟩ := hlook.some cf.hinfo
  obtain ⟨Li, rfl, hlooki⟩ := hie.dict
  have hinfoOf : infoOf (.dict L) = some Li := by simp only [infoOf, hib]
  simp only [soundVal, hinfoOf, Bool.and_eq_true]
  obtain ⟨pv, hpv, hpi, hpd⟩ := cf.pieceLength
  obtain ⟨_, hpe, hpb⟩ := hlooki.some hpv
  cases hpe.int hpi
  have hpos := pieceLength_pos hpd
  have hPL : pieceLength? Li = some (intVal pv).toNat := by simp [pieceLength?, hpb, hpos.1, hpos.2]
  obtain ⟨_, hbe, hbb⟩ := hlooki.some hb
  cases hbe.bytes_eq
  have hPC : piecesLen? Li = some pcs.length := by
    have : pcs.isEmpty = false := by
      cases pcs with
      | nil => exact absurd rfl hz
      | cons _ _ => rfl
    simp [piecesLen?, hbb, this]
  refine ⟨⟨?_, ?_⟩, ?_⟩
  · obtain ⟨nv, hnv, hns⟩ := cf.name
    obtain ⟨_, hne, hnb⟩ := hlooki.some hnv
    obtain ⟨x, rfl⟩ := hne.strOrBytes hns
    simp only [nameOk, hnb]
  · -- the content size is exported as `validate` computed it, in either branch; then the arithmetic, once
    cases hpv.symm.trans hpv2
    have hS : 0 ≤ size ∧ size? Li = some size.toNat := by
      cases hsize with
      | single hfil hl hnum hlen0 =>
        obtain ⟨_, hle, hlb⟩ := hlooki.some hl
        cases hle.num hnum
        exact ⟨hlen0, by simp [size?, hlb, hlooki.none hfil, hlen0]⟩
      | multi hlen hfl hidx hfiles =>
        obtain ⟨_, hfe, hfb⟩ := hlooki.some hfl
        -- `files` is a list or tuple of entries; an empty byte string or mapping would mean no piece at all
        obtain ⟨_, hc, h⟩ := hfe.iter (fun n ⟨e, _, _, _, he, _⟩ => nomatch he) hidx
        cases hfiles.symm.trans hc
        rcases h with ⟨hl, hfacts⟩ | ⟨rfl, _⟩
        case inr =>
          simp only [List.map_nil, List.sum_nil, expPieces_zero] at hcount
          omega
        obtain ⟨bs, rfl, n, hn, hne⟩ := sumFiles_exported hl hfacts
        exact hne ▸ ⟨Int.natCast_nonneg n, by simp [size?, hlooki.none hlen, hfb, hn]⟩
    obtain ⟨h0, hS⟩ := hS
    rw [expPieces_eq h0 hpos.1] at hcount
    simp only [countOk, hPL, hPC, hS, beq_iff_eq, ceilDiv]
    omega
  · simp only [announceOk, Bool.and_eq_true]
    constructor
    · cases ha : PyVal.lookupStr "announce" md0 with
      | none => simp only [hlook.none ha]
      | some v =>
        obtain ⟨_, hve, hvb⟩ := hlook.some ha
        simp only [hvb, hve.url (cf.announce v ha).1 (cf.announce v ha).2]
    · cases ha : PyVal.lookupStr "announce-list" md0 with
      | none => simp only [hlook.none ha]
      | some al =>
        obtain ⟨_, hale, halb⟩ := hlook.some ha
        rcases hale.iter_all (g := tierB urlOk) (fun n ht => nomatch ht.1)
          (fun _ _ ht hb => tierB_exported urlOk ht hb) (af al ha) with ⟨tiers, rfl, hall⟩ | rfl | rfl
        · simp only [halb, hall]
        · simp only [halb]
        · simp only [halb]

end Torf.Sound
