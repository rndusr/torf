/-
  Lemmas for C10: one iteration of the main loop, for a good file and for a bad file,
  re-establishes the invariant.
-/
import Torf.Lemmas.MissingInv
namespace Torf.Missing
open Torf

variable {α : Type} {L : Nat} {sizes : List Nat} {disk : List (Option (List α))} {m : Nat} {st : St α}

theorem Core.step_good (hc : Core L sizes disk m st) (hL : 0 < L) (hm : m < sizes.length)
    (hgood : fileError sizes disk m = none) :
    Core L sizes disk (m + 1) (step L sizes disk st m) := by
  rw [step_of_good L sizes disk st m hc.nofail hc.not_bycatch hgood, Stream.fileStep_eq L hL]
  dsimp only [List.nil_append]
  have hX := carry_read sizes disk m hm hgood st.trailing _ st.skip (hc.head.le hm)
    hc.head.skip_le hc.carry
  -- `X`, the bytes at hand, is the expected stream from the last piece boundary to the end of `m`
  generalize st.trailing ++ ((disk.getD m none).getD []).drop st.skip = X at hX
  have hle : st.out.length * L ≤ pos sizes (m + 1) := by
    rw [pos_succ]
    exact Nat.le_trans (hc.head.le hm) (Nat.add_le_add_left hc.head.skip_le _)
  have hXlen : X.length + st.out.length * L = pos sizes (m + 1) := by
    rw [← List.length_map (f := some), hX, List.length_drop, List.length_take_of_le (pos_le_length_expStream sizes disk (m + 1))]
    exact Nat.sub_add_cancel hle
  have hc1 := Nat.div_mul_le_self X.length L
  have hc2 := Nat.lt_div_mul_add (a := X.length) hL
  generalize X.length / L = c at hc1 hc2
  have hmul : (st.out.length + c) * L = st.out.length * L + c * L := Nat.add_mul _ _ _
  -- the `c` whole pieces of `X`
  have hXc : (X.take (c * L)).map some =
      ((expStream sizes disk).drop (st.out.length * L)).take (c * L) := by
    rw [List.map_take, hX, List.drop_take, List.take_take, Nat.min_eq_left (by omega)]
  have hnew : ((chunks L (X.take (c * L))).map dataItem).length = c := by
    rw [List.length_map, length_chunks L hL, List.length_take_of_le hc1, nPieces_mul L hL]
  have hlen : (st.out ++ (chunks L (X.take (c * L))).map dataItem).length = st.out.length + c := by
    rw [List.length_append, hnew]
  refine ⟨hc.nofail, ?_, ?_, ?_, fun k hk => hc.fresh k (Nat.le_of_succ_le hk)⟩
  · refine hc.emitted.append 1 _ ?_ ?_ ?_
    · rw [hnew, specData_drop L hL, ← List.map_take, chunks_take L hL, ← hXc, map_data_chunks L hL]
    · intro it hit _
      obtain ⟨p, _, rfl⟩ := List.mem_map.mp hit
      exact ⟨rfl, rfl⟩
    · show _ = bycatchExcs sizes disk [m]
      rw [bycatchExcs_good sizes disk [m] (fun k hk => List.mem_singleton.mp hk ▸ hgood)]
      simp [reported, dataItem]
  · show (X.drop (c * L)).map some = ((expStream sizes disk).take (pos sizes (m + 1) + 0)).drop _
    rw [Nat.add_zero, hlen, hmul, List.map_drop, hX, List.drop_drop]
  · show Head L sizes disk (m + 1) _ 0 st.seen
    rw [hlen]
    exact hc.head.good hgood c (by omega) (by omega)

theorem Core.step_bad (hc : Core L sizes disk m st) (hL : 0 < L)
    (hyp : NoBadEmpty sizes disk = true) (hm : m < sizes.length) {reason : ErrKind}
    (hbad : fileError sizes disk m = some reason) :
    ∃ m', m < m' ∧ m' ≤ sizes.length ∧ Core L sizes disk m' (step L sizes disk st m) ∧
      ∀ k, m < k → k < m' → k ∈ (step L sizes disk st m).bycatch := by
  have hS := noBadEmpty_size sizes disk hyp m hm (by rw [hbad]; nofun)
  -- `b`: the last piece of file `m`
  obtain ⟨k, hpis, hb1, hb2⟩ := hc.head.pieces hL hm hS
  generalize hb : st.out.length + k = b at hb1 hb2
  obtain ⟨early, c, sk, haff, hearly, hcle, hr⟩ := affected_skipBy L hL sizes b m hm hb1 hb2
  -- earlier files selected with the last fake piece are good: a bad one ends before piece `st.out.length`
  have hgood : ∀ k ∈ early, fileError sizes disk k = none := by
    intro k' hk
    obtain ⟨hkm, hka⟩ := hearly k' hk
    apply Classical.byContradiction
    intro hkbad
    rw [atPiece_of_end_le L hL sizes b k' (noBadEmpty_size sizes disk hyp k' (by omega) hkbad)
      (Nat.le_trans (hc.head.badpast k' hkm hkbad)
        (Nat.mul_le_mul_right L (hb ▸ Nat.le_add_right _ k)))] at hka
    cases hka
  have hlast : (List.range' st.out.length (k + 1)).getLast? = some b := by
    rw [List.range'_1_concat, List.getLast?_concat, hb]
  have hstep : step L sizes disk st m =
      { st with trailing := [], skip := sk,
                seen := st.seen ++ List.range' st.out.length (k + 1),
                bycatch := st.bycatch ++ (early ++ List.range' (m + 1) c),
                out := st.out ++ mkItems m reason (k + 1)
                  (bycatchExcs sizes disk (early ++ List.range' (m + 1) c)) } := by
    unfold step
    simp only [hc.nofail, hc.not_bycatch, hbad, Bool.false_eq_true, if_false]
    rw [missingCall_eq_geom, missingGeom_eq L sizes st.seen m _ b _ hpis hlast haff, List.length_range']
    rfl
  rw [hstep]
  subst hb
  refine ⟨m + 1 + c, by omega, hcle, ?_, fun k' hk hk' => List.mem_append_right _
    (List.mem_append_right _ (List.mem_range'_1.mpr ⟨hk, hk'⟩))⟩
  exact hc.bad hL hm hbad hS hb1
    (by rw [bycatchExcs_append, bycatchExcs_good sizes disk early hgood, List.nil_append])
    (fun x hx => (List.mem_append.mp hx).elim
      (fun h => Nat.lt_of_lt_of_le (hearly x h).1 (Nat.le_trans (Nat.le_succ m) (Nat.le_add_right _ c)))
      fun h => (List.mem_range'_1.mp h).2) hr

end Torf.Missing
