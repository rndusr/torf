/-
  Torf.Lemmas.PipelineC04Cancel — how much work can still happen after a cancellation (C04), for
  every configuration.  Only the reader adds pieces to the pipeline; every other step moves pieces
  between the four places (`inFlight`) without changing their number.  The number of pieces pushed
  plus `pushCredit` (1 while the reader sits at a `put`) counts the pieces the reader has taken
  up; a step changes it only if the reader takes up a further piece, which needs a clear stop flag
  and a reader inside its loop (`StepG.credit`).  So once the stop flag is set the reader may
  complete the `put` it is blocked in and nothing more, and a reader that has left its loop (in
  particular one that died of a read fault) pushes nothing (`credit_run`).
-/
import Torf.Lemmas.PipelineC04Inv
namespace Torf.Pipeline

/-- the `put` the reader is blocked in will still be completed after a stop request -/
def pushCredit (s : State) : Nat :=
  match s.rpc with
  | .putting _ => 1
  | _ => 0

/-- pieces whose hash has been delivered: already collected by main, or waiting in the hash queue -/
def hashedSoFar (s : State) : Nat := s.seen.length + (s.hq.filterMap id).length

def readerLeft (s : State) : Prop := s.rpc = .closing ∨ s.rpc = .done

theorem inFlight_len (s : State) :
    (inFlight s).length =
      hashedSoFar s + (s.hs.filterMap hk).length + (s.pq.filterMap id).length := by
  simp only [inFlight_def, hashedSoFar, List.length_append]

theorem MainStepG.pushed {cfg : Cfg} {s s' : State} (hA : InvA cfg s) (hs : MainStepG cfg s s') :
    (inFlight s').length = (inFlight s).length ∧
      (s'.rpc = s.rpc ∨ (s.rpc = .notStarted ∧ (s'.rpc = .begin_ ∨ s'.rpc = .refused))) :=
  ⟨(hs.inFlight_perm hA).length_eq, (hs.frame hA.rfresh).2.2.1⟩

theorem HasherStep.pushed {cfg : Cfg} {s s' : State} {i : Nat} (hs : HasherStep cfg s i s') :
    (inFlight s').length = (inFlight s).length ∧ s'.rpc = s.rpc :=
  ⟨hs.inFlight_perm.length_eq, hs.frame.rpc⟩

theorem JanitorStep.pushed {s s' : State} (hs : JanitorStep s s') :
    (inFlight s').length = (inFlight s).length ∧ s'.rpc = s.rpc :=
  ⟨congrArg List.length hs.inFlight_eq, hs.frame.rpc⟩

theorem StepG.pushed {cfg : Cfg} {s s' : State} (hA : InvA cfg s) (hs : StepG cfg s s') :
    ReaderStep cfg s s' ∨ ((inFlight s').length = (inFlight s).length ∧
      (s'.rpc = s.rpc ∨ (s.rpc = .notStarted ∧ (s'.rpc = .begin_ ∨ s'.rpc = .refused)))) := by
  cases hs with
  | reader h' => exact .inl h'
  | main h' => exact .inr (h'.pushed hA)
  | hasher i h' | janitor h' => exact .inr ⟨h'.pushed.1, .inl h'.pushed.2⟩

theorem pushCredit_of_left {s : State} (h : readerLeft s) : pushCredit s = 0 := by
  unfold pushCredit; rcases h with h | h <;> rw [h]

theorem StepG.credit {cfg : Cfg} {s s' : State} (hA : InvA cfg s)
    (hq : s.stop = true ∨ readerLeft s) (hs : StepG cfg s s') :
    (inFlight s').length + pushCredit s' = (inFlight s).length + pushCredit s ∧
      (readerLeft s → readerLeft s') := by
  rcases hs.pushed hA with h' | ⟨h1, h2⟩
  · cases h' with
    | begin hr t hn | put k hr hc t hn =>
      cases hn with
      | next _ _ h3 => simp [readerLeft, hr, show s.stop = false from h3] at hq
      | _ =>
        -- the reader leaves its loop; a pending `put` is completed and uses the credit up
        exact ⟨by simp [inFlight_def, pushCredit, hr, Nat.add_assoc], fun _ => .inl rfl⟩
    | close hr hc => exact ⟨by simp [inFlight_def, pushCredit, hr], fun _ => .inr rfl⟩
  · unfold readerLeft pushCredit
    rcases h2 with h2 | ⟨h2, h3 | h3⟩ <;> rw [h1, h2] <;> (try rw [h3]) <;> exact ⟨rfl, by simp⟩

theorem StepG.stopped {cfg : Cfg} {s s' : State} (hA : InvA cfg s) (hstop : s.stop = true)
    (hs : StepG cfg s s') :
    (inFlight s').length + pushCredit s' ≤ (inFlight s).length + pushCredit s :=
  Nat.le_of_eq (hs.credit hA (.inl hstop)).1

theorem credit_run {cfg : Cfg} {s s' : State} {ls : List Label} (hr : Reachable cfg s)
    (h : s.stop = true ∨ readerLeft s) (hrun : run cfg s ls = some s') :
    (inFlight s').length + pushCredit s' = (inFlight s).length + pushCredit s ∧
      (s.stop = true → s'.stop = true) ∧ (readerLeft s → readerLeft s') := by
  refine run_inductionG
    (P := fun t => (inFlight t).length + pushCredit t = (inFlight s).length + pushCredit s ∧
      (s.stop = true → t.stop = true) ∧ (readerLeft s → readerLeft t))
    ?_ hr ⟨rfl, id, id⟩ hrun
  intro t t' hA ⟨h1, h2, h3⟩ hg
  have ⟨h4, h5⟩ := hg.credit hA (h.imp h2 h3)
  exact ⟨h4.trans h1, fun hs => hg.mono.1 (h2 hs), fun hl => h5 (h3 hl)⟩

theorem stopped_run {cfg : Cfg} {s s' : State} {ls : List Label} (hr : Reachable cfg s)
    (hstop : s.stop = true) (hrun : run cfg s ls = some s') :
    s'.stop = true ∧ (inFlight s').length + pushCredit s' ≤ (inFlight s).length + pushCredit s :=
  have ⟨h1, h2, _⟩ := credit_run hr (.inl hstop) hrun
  ⟨h2 hstop, Nat.le_of_eq h1⟩

theorem left_run {cfg : Cfg} {s s' : State} {ls : List Label} (hr : Reachable cfg s)
    (hl : readerLeft s) (hrun : run cfg s ls = some s') :
    readerLeft s' ∧ (inFlight s').length = (inFlight s).length := by
  have ⟨h1, _, h3⟩ := credit_run hr (.inr hl) hrun
  rw [pushCredit_of_left hl, pushCredit_of_left (h3 hl)] at h1
  exact ⟨h3 hl, h1⟩

theorem pushCredit_le_one (s : State) : pushCredit s ≤ 1 := by
  unfold pushCredit; split <;> omega

theorem InvG.held_le {cfg : Cfg} {s : State} (h : InvG cfg s) : (s.hs.filterMap hk).length ≤ cfg.N := by
  rw [← h.len]; exact List.length_filterMap_le _ _

theorem InvG.pq_le {cfg : Cfg} {s : State} (h : InvG cfg s) : (s.pq.filterMap id).length ≤ cfg.cap :=
  Nat.le_trans (List.length_filterMap_le _ _) h.pqcap

end Torf.Pipeline
