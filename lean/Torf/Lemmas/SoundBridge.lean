/-
  Bridge for C07: from the Python-side metainfo (`PyVal`, `Codec.encodeValue`) to what the strict parser reads back from
  the exported bytes (`Sound.parse`, `Sound.lookupB`).

  * `parse_ser_norm` : the strict parser reads `ser u` back as `norm u`.
  * `Exported v b`   : the value `v` of a Python dict is exported as `b` (it converts to some `u`, and `b = norm u`).
    Everything downstream uses it through its inversions, one per shape of `v`: a dict is exported as a dict whose
    lookups mirror `PyVal.lookupStr` (`Exported.dict`), a list element by element (`Exported.nil`, `Exported.cons`), a
    tuple like the list (`Exported.tuple`), a value whose conversion is known as its normal form (`Exported.eq_norm`).
-/
import Torf.Lemmas.CodecLookup
import Torf.Spec.Sound

namespace Torf.Sound
-- not `Torf.Export`: it re-exports `BVal`/`Bytes` as abbreviations and has its own `encodeValue`/`ser`; opened next to
-- `Torf.Bencode`/`Torf.Codec` it makes those names ambiguous (so in the files that follow)
open Torf Torf.Bencode Torf.Codec

theorem parse_ser_norm (u : BVal) (hu : uniqKeys u = true) (hs : serOk u = true) :
    Sound.parse (Bencode.ser u) = some (norm u) :=
  parseStrict_ser_norm pyMaxDigits u hu hs

theorem encodeList_length (l : List PyVal) (l' : List BVal) (he : Codec.encodeList l = .ok l') :
    l'.length = l.length := by
  induction l generalizing l' with
  | nil => cases he; rfl
  | cons v t ih =>
    obtain ⟨v', t', _, ht, rfl⟩ := encodeList_cons_ok he
    simp only [List.length_cons, ih t' ht]

theorem lookupB_eq (k : String) (L : List (Bytes × BVal)) : lookupB k L = Bencode.lookup (utf8Enc k) L :=
  (lookup_eq_list_lookup _ L).symm

/-- `v`, a value of a Python dict (`wf`: `str` keys pairwise distinct at every level), is exported as `b`: it
    converts, and the strict parser reads the serialised conversion back as `b` -/
def Exported (v : PyVal) (b : BVal) : Prop :=
  wf v = true ∧ ∃ u, Codec.encodeValue v = .ok u ∧ norm u = b

theorem Exported.eq_norm {v : PyVal} {b u : BVal} (h : Exported v b)
    (hu : Codec.encodeValue v = .ok u) : b = norm u := by
  obtain ⟨_, u', he, rfl⟩ := h
  cases he.symm.trans hu
  rfl

structure Mirrors (kvs : List (PyVal × PyVal)) (L : List (Bytes × BVal)) : Prop where
  none : ∀ {k}, PyVal.lookupStr k kvs = none → lookupB k L = none
  some : ∀ {k v}, PyVal.lookupStr k kvs = some v → ∃ b, Exported v b ∧ lookupB k L = some b

theorem Exported.dict {kvs : List (PyVal × PyVal)} {b : BVal} (h : Exported (.dict kvs) b) :
    ∃ L, b = .dict L ∧ Mirrors kvs L := by
  obtain ⟨hw, u, he, rfl⟩ := h
  obtain ⟨hn, hwk⟩ := wf_dict hw
  obtain ⟨es, _, rfl⟩ := encodeValue_dict_ok he
  -- each half is the three-way correspondence `encodeDict_lookup_cases` with the other case refuted
  refine ⟨_, rfl, fun {k} hnone => ?_, fun {k v} hv => ?_⟩ <;> rw [lookupB_eq] <;>
    rcases encodeDict_lookup_cases hn he k with ⟨h1, h2⟩ | ⟨m, w, h1, h2, h3⟩
  · exact h2
  · exact nomatch hnone.symm.trans h1
  · exact nomatch hv.symm.trans h1
  · cases hv.symm.trans h1
    exact ⟨norm w, ⟨wf_of_lookupStr hwk hv, w, h2, rfl⟩, h3⟩

theorem Exported.str_keys {kvs : List (PyVal × PyVal)} {b : BVal} (h : Exported (.dict kvs) b) :
    ∀ q ∈ kvs, ∃ s, q.1 = .str s := by
  obtain ⟨_, u, he, _⟩ := h
  obtain ⟨es, hes, _⟩ := encodeValue_dict_ok he
  exact (encodeKvs_keys hes).str_keys

theorem Exported.nil {b : BVal} (h : Exported (.list []) b) : b = .list [] := h.eq_norm rfl

theorem Exported.cons {v : PyVal} {t : List PyVal} {b : BVal} (h : Exported (.list (v :: t)) b) :
    ∃ b₁ bs, b = .list (b₁ :: bs) ∧ Exported v b₁ ∧ Exported (.list t) (.list bs) := by
  obtain ⟨hw, u, he, rfl⟩ := h
  simp only [wf, wfList, Bool.and_eq_true] at hw
  obtain ⟨l', hl', rfl⟩ := encodeSeq_ok he
  obtain ⟨v', t', hv', ht', rfl⟩ := encodeList_cons_ok hl'
  exact ⟨norm v', normList t', by simp only [norm, normList], ⟨hw.1, v', hv', rfl⟩,
    by simpa only [wf] using hw.2, .list t', by simp only [Codec.encodeValue, ht'], by simp only [norm]⟩

theorem Exported.tuple {l : List PyVal} {b : BVal} (h : Exported (.tuple l) b) : Exported (.list l) b := h

theorem Exported.bytes_eq {x : Bytes} {b : BVal} (h : Exported (.bytes x) b) : b = .bytes x :=
  h.eq_norm rfl

theorem Exported.empty_dict {b : BVal} (h : Exported (.dict []) b) : b = .dict [] := h.eq_norm rfl

end Torf.Sound
