/-
  Keys the model of `Torrent.validate()` does not know (property C08, round 6).

  `Validate.validate` looks at a metainfo only through lookups of a fixed vocabulary of keys:
  `topKeys` in the metainfo, `infoKeys` in `info`, `fileKeys` in an entry of `info.files`, and through
  integer subscripts.  `SameKnown a b` says that two metainfos answer all those lookups alike
  (whatever else they hold: other keys, at any position, with values of any type); the theorem
  `validate_same` says that `validate` cannot tell them apart, nor two file systems that answer its four questions
  alike (`FsSame`, Lemmas/ValidateFs); `validate_sameKnown` is it for one file system.  After it: `d[k] = v` and `del d[k]` for a key `k`
  outside a vocabulary do not touch its lookups (`firstWith_setStr`, `firstWith_without`), which gives the pairs of
  metainfos the `C08_unknown_*_key` theorems speak of (`sameKnown_top`, `sameKnown_info`, `sameKnown_file`).
-/
import Torf.Lemmas.ValidateBase
import Torf.Lemmas.ValidateFs
import Torf.Model.Codec
import Torf.Model.KeyVocabulary
namespace Torf.UnknownKeys
open Torf Torf.Export Torf.Validate

/-- the two dicts answer the lookup of every key in `K` and every integer subscript alike -/
def AgreeOn (K : List String) (a b : Items) : Prop :=
  (∀ k ∈ K, PyVal.lookupStr k a = PyVal.lookupStr k b) ∧ (∀ n, lookupNat n a = lookupNat n b)

/-- a key of the vocabulary `K`, or an integer subscript -/
def keyIn (K : List String) : Key → Prop
  | .s s => s ∈ K
  | .i _ => True

/-- the second key of a chain `k :: rest`, if there is one, is in the vocabulary of the first: when `obj[k]` is missing,
    `assert_type` breaks off the walk and looks the next key up in `obj` itself -/
def nextIn (K : List String) (rest : List Key) : Prop := ∀ k' ∈ rest.head?, keyIn K k'

theorem nextIn_nil {K : List String} : nextIn K [] := nofun

theorem nextIn_i {K : List String} {n : Nat} {rest : List Key} : nextIn K (.i n :: rest) := by
  simp [nextIn, keyIn]

theorem AgreeOn.refl (K : List String) (a : Items) : AgreeOn K a a := ⟨fun _ _ => rfl, fun _ => rfl⟩

theorem AgreeOn.lookupKey {K : List String} {a b : Items} (h : AgreeOn K a b) {k : Key} (hk : keyIn K k) :
    lookupKey k a = lookupKey k b := by
  cases k with
  | s s => exact h.1 s hk
  | i n => exact h.2 n

theorem getItem_agree {K : List String} {a b : Items} (h : AgreeOn K a b) {k : Key} (hk : keyIn K k) :
    getItem (.dict a) k = getItem (.dict b) k := by
  simp only [Validate.getItem, h.lookupKey hk]

theorem getE_agree {K : List String} {a b : Items} (h : AgreeOn K a b) {k : Key} (hk : keyIn K k) :
    getE (.dict a) k = getE (.dict b) k := by
  simp only [getE, getItem_agree h hk]

theorem assertFinal_agree {K : List String} {a b : Items} (h : AgreeOn K a b) {k : Key} (hk : keyIn K k)
    (r : Rule) : assertFinal (.dict a) k r = assertFinal (.dict b) k r := by
  simp only [assertFinal, keyExists, h.lookupKey hk, getItem_agree h hk]

theorem assertType_agree {K : List String} {a b : Items} (h : AgreeOn K a b) {k : Key} (hk : keyIn K k)
    (rest : List Key) (h2 : nextIn K rest) (r : Rule) :
    assertType (.dict a) (k :: rest) r = assertType (.dict b) (k :: rest) r := by
  cases rest with
  | nil => simp only [assertType]; exact assertFinal_agree h hk r
  | cons k' rest' =>
    have hk' : keyIn K k' := h2 k' rfl
    simp only [assertType, getItem_agree h hk]
    cases getItem (.dict b) k with
    | val v => rfl
    | missing => exact assertFinal_agree h hk' r
    | typeError => rfl

theorem assertType_down {a : Items} {s : String} {v : PyVal} (hv : PyVal.lookupStr s a = some v)
    (k' : Key) (rest : List Key) (r : Rule) :
    assertType (.dict a) (.s s :: k' :: rest) r = assertType v (k' :: rest) r :=
  assertType_step (getItem_dict_s_some hv)

/-- the values answer the lookup of every key in `K` and every integer subscript alike: identical, or mappings that
    `AgreeOn K` (what `SameEntry` says with `fileKeys` and `SameInfo`, `files` apart, with `infoKeys'`) -/
def Agree (K : List String) (v v' : PyVal) : Prop :=
  v = v' ∨ ∃ x y, v = .dict x ∧ v' = .dict y ∧ AgreeOn K x y

section
variable {K : List String} {v v' : PyVal} (h : Agree K v v') {k : String} (hk : k ∈ K)
include h

theorem Agree.isDict : v.isDict = v'.isDict := by
  rcases h with rfl | ⟨x, y, rfl, rfl, _⟩ <;> rfl

include hk

theorem Agree.getE : getE v (.s k) = getE v' (.s k) := by
  rcases h with rfl | ⟨x, y, rfl, rfl, hxy⟩
  · rfl
  · exact getE_agree hxy (k := .s k) hk

theorem Agree.inE : inE (.s k) v = inE (.s k) v' := by
  rcases h with rfl | ⟨x, y, rfl, rfl, hxy⟩
  · rfl
  · simp only [Validate.inE, hxy.lookupKey (k := .s k) hk]

theorem Agree.assertType (rest : List Key) (h2 : nextIn K rest) (r : Rule) :
    assertType v (.s k :: rest) r = assertType v' (.s k :: rest) r := by
  rcases h with rfl | ⟨x, y, rfl, rfl, hxy⟩
  · rfl
  · exact assertType_agree hxy (k := .s k) hk rest h2 r

end

/-- entries of `info.files`: identical, or mappings that agree on `fileKeys` -/
def SameEntry (e e' : PyVal) : Prop :=
  e = e' ∨ ∃ x y, e = .dict x ∧ e' = .dict y ∧ AgreeOn fileKeys x y

/-- lists of the same length whose entries are pairwise `SameEntry` -/
inductive SameEntries : List PyVal → List PyVal → Prop where
  | nil : SameEntries [] []
  | cons {e e' : PyVal} {l l' : List PyVal} : SameEntry e e' → SameEntries l l' → SameEntries (e :: l) (e' :: l')

/-- `info.files`: identical, or lists of the same length whose entries are pairwise `SameEntry` -/
def SameFiles (f f' : Option PyVal) : Prop :=
  f = f' ∨ ∃ l l', f = some (.list l) ∧ f' = some (.list l') ∧ SameEntries l l'

/-- the vocabulary of `info` apart from `files` (`SameInfo` spells it out) -/
def infoKeys' : List String := ["name", "piece length", "pieces", "private", "length", "md5sum"]

/-- `info`: identical, or mappings that agree on `infoKeys` except `files`, which are `SameFiles` -/
def SameInfo (i i' : Option PyVal) : Prop :=
  i = i' ∨ ∃ x y, i = some (.dict x) ∧ i' = some (.dict y) ∧
    AgreeOn ["name", "piece length", "pieces", "private", "length", "md5sum"] x y ∧
    SameFiles (PyVal.lookupStr "files" x) (PyVal.lookupStr "files" y)

/-- the metainfos agree on `topKeys` except `info`, which are `SameInfo` -/
def SameKnown (a b : Items) : Prop :=
  AgreeOn ["creation date", "announce", "announce-list"] a b ∧
  SameInfo (PyVal.lookupStr "info" a) (PyVal.lookupStr "info" b)

theorem SameEntry.refl (e : PyVal) : SameEntry e e := Or.inl rfl

theorem SameKnown.refl (a : Items) : SameKnown a a := ⟨.refl _ a, .inl rfl⟩

theorem SameEntry.toAgree {e e' : PyVal} (h : SameEntry e e') : Agree fileKeys e e' := h

theorem SameInfo.isNone {i i' : Option PyVal} (h : SameInfo i i') : i = none ↔ i' = none := by
  rcases h with rfl | ⟨x, y, rfl, rfl, _⟩ <;> simp

theorem lookupNat_append (n : Nat) (a b : Items) :
    lookupNat n (a ++ b) = (lookupNat n a).or (lookupNat n b) := by
  simp only [lookupNat_eq_firstWith, firstWith_append]

theorem SameKnown.ensureInfo {a b : Items} (h : SameKnown a b) : SameKnown (ensureInfo a) (ensureInfo b) := by
  obtain ⟨hA, hI⟩ := h
  unfold Validate.ensureInfo
  cases ha : PyVal.lookupStr "info" a with
  | some v =>
    cases hb : PyVal.lookupStr "info" b with
    | none => exact nomatch ha.symm.trans (hI.isNone.2 hb)
    | some w => exact ⟨hA, hI⟩
  | none =>
    have hb : PyVal.lookupStr "info" b = none := (hI.isNone).1 ha
    simp only [hb]
    refine ⟨⟨fun k hk => ?_, fun n => ?_⟩, ?_⟩
    · rw [lookupStr_append, lookupStr_append, hA.1 k hk]
    · rw [lookupNat_append, lookupNat_append, hA.2 n]
    · rw [lookupStr_append, lookupStr_append, ha, hb]; exact Or.inl rfl

theorem SameEntries.refl : ∀ l : List PyVal, SameEntries l l
  | [] => .nil
  | e :: l => .cons (SameEntry.refl e) (SameEntries.refl l)

theorem SameEntries.length {l l' : List PyVal} (h : SameEntries l l') : l.length = l'.length := by
  induction h with
  | nil => rfl
  | cons _ _ ih => simp [ih]

theorem SameEntries.getItem {l l' : List PyVal} (h : SameEntries l l') : ∀ i : Nat,
    (getItem (.list l) (.i i) = .missing ∧ getItem (.list l') (.i i) = .missing) ∨
      ∃ e e', getItem (.list l) (.i i) = .val e ∧ getItem (.list l') (.i i) = .val e' ∧ SameEntry e e' := by
  induction h with
  | nil => exact fun _ => .inl ⟨rfl, rfl⟩
  | cons he _ ih =>
    intro i
    cases i with
    | zero => exact .inr ⟨_, _, rfl, rfl, he⟩
    | succ n => exact ih n

/-- `assert_type(md, (…, 'files', i), (abc.Mapping,))` seen from the list -/
theorem assertType_index {l l' : List PyVal} (h : SameEntries l l') (i : Nat) :
    assertType (.list l) [.i i] { types := PyVal.isDict } =
      assertType (.list l') [.i i] { types := PyVal.isDict } := by
  rw [assertType_single, assertType_single, assertFinal_eq (keyFits_i _ i), assertFinal_eq (keyFits_i _ i)]
  rcases h.getItem i with ⟨h1, h2⟩ | ⟨e, e', h1, h2, he⟩
  · rw [h1, h2]
  · simp only [h1, h2, checkVal, passes, he.toAgree.isDict]; rfl

/-- `assert_type(md, (…, 'files', i, key, …))` seen from the list -/
theorem assertType_index_key {l l' : List PyVal} (h : SameEntries l l') (i : Nat) {k : String}
    (hk : k ∈ fileKeys) (rest : List Key) (h2 : nextIn fileKeys rest) (r : Rule) :
    assertType (.list l) (.i i :: .s k :: rest) r = assertType (.list l') (.i i :: .s k :: rest) r := by
  rcases h.getItem i with ⟨h1, h2'⟩ | ⟨e, e', h1, h2', he⟩
  · simp only [assertType, h1, h2', assertFinal, keyExists]; rfl
  · rw [assertType_step h1, assertType_step h2']
    exact he.toAgree.assertType hk rest h2 r

theorem AgreeOn.cons {K : List String} {a b : Items} (h : AgreeOn K a b) {k : String}
    (hk : PyVal.lookupStr k a = PyVal.lookupStr k b) : AgreeOn (k :: K) a b :=
  ⟨fun k' hk' => by
      rcases List.mem_cons.1 hk' with rfl | h'
      · exact hk
      · exact h.1 k' h',
   h.2⟩

theorem AgreeOn.mono {K K' : List String} {a b : Items} (h : AgreeOn K a b) (hs : ∀ k ∈ K', k ∈ K) :
    AgreeOn K' a b := ⟨fun k hk => h.1 k (hs k hk), h.2⟩

theorem keyIn_mono {K K' : List String} (hs : ∀ k ∈ K', k ∈ K) {k : Key} (h : keyIn K' k) : keyIn K k := by
  cases k with
  | s s => exact hs s h
  | i n => trivial

section
variable {v v' : PyVal} (h : SameInfo (some v) (some v'))
include h

theorem SameInfo.agree : Agree infoKeys' v v' := by
  rcases h with h | ⟨x, y, hx, hy, hxy, _⟩
  · exact .inl (Option.some.inj h)
  · cases hx
    cases hy
    exact .inr ⟨x, y, rfl, rfl, hxy⟩

theorem SameInfo.files : Agree ("files" :: infoKeys') v v' ∨ ∃ x y l l', v = .dict x ∧ v' = .dict y ∧
    PyVal.lookupStr "files" x = some (.list l) ∧ PyVal.lookupStr "files" y = some (.list l') ∧ SameEntries l l' := by
  rcases h with h | ⟨x, y, hx, hy, hxy, hf | ⟨l, l', hl, hl', hll⟩⟩
  · exact .inl (.inl (Option.some.inj h))
  · cases hx
    cases hy
    exact .inl (.inr ⟨x, y, rfl, rfl, hxy.cons hf⟩)
  · cases hx
    cases hy
    exact .inr ⟨x, y, l, l', rfl, rfl, hl, hl', hll⟩

theorem inE_files : inE (.s "files") v = inE (.s "files") v' := by
  rcases h.files with hf | ⟨x, y, l, l', rfl, rfl, hl, hl', _⟩
  · exact hf.inE List.mem_cons_self
  · simp only [inE, lookupKey, hl, hl', Option.isSome_some]

/-- `for … in info['files']`: whatever is done with the entries, if it cannot tell `SameEntries` lists apart
    it cannot tell the two `info`s apart -/
theorem files_same {α : Type} {f g : List PyVal → Except ErrKind α}
    (hfg : ∀ fl fl', SameEntries fl fl' → f fl = g fl') :
    (do let fl ← iterE (← getE v (.s "files")); f fl) = (do let fl ← iterE (← getE v' (.s "files")); g fl) := by
  rcases h.files with hf | ⟨x, y, l, l', rfl, rfl, hl, hl', hll⟩
  · rw [hf.getE List.mem_cons_self]
    exact bind_congr fun _ => bind_congr fun fl => hfg fl fl (.refl fl)
  · rw [getE_ok (getItem_dict_s_some hl), getE_ok (getItem_dict_s_some hl')]
    exact hfg l l' hll

end

theorem forEnum_same {f g : Nat → PyVal → Except ErrKind Unit}
    (hfg : ∀ i e e', SameEntry e e' → f i e = g i e') {l l' : List PyVal} (h : SameEntries l l') :
    ∀ n, forEnum f n l = forEnum g n l' := by
  induction h with
  | nil => intro n; rfl
  | cons he _ ih => intro n; simp only [forEnum, hfg _ _ _ he, ih]

theorem sumLengths_same {l l' : List PyVal} (h : SameEntries l l') :
    ∀ acc, sumLengths l acc = sumLengths l' acc := by
  induction h with
  | nil => intro acc; rfl
  | cons he _ ih =>
    intro acc
    simp only [sumLengths, he.toAgree.getE (k := "length") (by simp [fileKeys]), ih]

theorem checkFileOnDisk_same {fs fs' : FsOracle} (hfs : FsSame fs fs') (i : Nat) {e e' : PyVal} (h : SameEntry e e') :
    checkFileOnDisk fs i e = checkFileOnDisk fs' i e' := by
  simp only [checkFileOnDisk, hfs.size i, h.toAgree.getE (k := "path") (by simp [fileKeys]),
    h.toAgree.getE (k := "length") (by simp [fileKeys])]

section
variable (urlOk : Bytes → Bool) {a b : Items}
  (hA : AgreeOn ["creation date", "announce", "announce-list"] a b)
include hA

/-- `assert_type(md, (key, …), …)` for a top-level key other than `info`, then integer subscripts only -/
theorem assertType_top {k : String} (hk : k ∈ ["creation date", "announce", "announce-list"]) (rest : List Key)
    (h2 : nextIn ["creation date", "announce", "announce-list"] rest) (r : Rule) :
    assertType (.dict a) (.s k :: rest) r = assertType (.dict b) (.s k :: rest) r :=
  assertType_agree hA (k := .s k) hk rest h2 r

theorem checkTier_same (i : Nat) : checkTier urlOk (.dict a) i = checkTier urlOk (.dict b) i := by
  simp only [checkTier, assertType_top hA (k := "announce-list") (by simp) [.i i] nextIn_i,
    fun j => assertType_top hA (k := "announce-list") (by simp) [.i i, .i j] nextIn_i,
    getE_agree hA (k := .s "announce-list") (by simp [keyIn])]

theorem checkAnnounceList_same : checkAnnounceList urlOk (.dict a) a = checkAnnounceList urlOk (.dict b) b := by
  have hf : checkTier urlOk (.dict a) = checkTier urlOk (.dict b) := funext (checkTier_same urlOk hA)
  simp only [checkAnnounceList, hf, hA.1 "announce-list" (by simp)]

end

/-! `assert_type(md, ('info', …), …)` in two metainfos whose `info` values are `SameInfo`: the four shapes of key
    chains below `info` that `validate()` uses -/
section
variable (urlOk : Bytes → Bool) {fs fs' : FsOracle} (hfs : FsSame fs fs') {a b : Items} {v v' : PyVal}
  (ha : PyVal.lookupStr "info" a = some v) (hb : PyVal.lookupStr "info" b = some v') (hv : SameInfo (some v) (some v'))
include ha hb hv

/-- a key of `infoKeys'`, then integer subscripts only -/
theorem assertType_info_key {k : String} (hk : k ∈ infoKeys') (rest : List Key)
    (h2 : nextIn infoKeys' rest) (r : Rule) :
    assertType (.dict a) (.s "info" :: .s k :: rest) r = assertType (.dict b) (.s "info" :: .s k :: rest) r := by
  rw [assertType_down ha, assertType_down hb]
  exact hv.agree.assertType hk rest h2 r

/-- `assert_type(md, ('info', 'files'), (utils.Iterable,))` -/
theorem assertType_files :
    assertType (.dict a) [.s "info", .s "files"] { types := PyVal.isIterable } =
      assertType (.dict b) [.s "info", .s "files"] { types := PyVal.isIterable } := by
  rw [assertType_down ha, assertType_down hb]
  rcases hv.files with hf | ⟨x, y, l, l', rfl, rfl, hl, hl', _⟩
  · exact hf.assertType List.mem_cons_self [] nextIn_nil _
  · simp only [assertType, assertFinal, keyExists, lookupKey, hl, hl', Validate.getItem, checkVal, passes,
      PyVal.isIterable, Option.isSome_some]
    rfl

/-- `assert_type(md, ('info', 'files', i), (abc.Mapping,))` -/
theorem assertType_files_index (i : Nat) :
    assertType (.dict a) [.s "info", .s "files", .i i] { types := PyVal.isDict } =
      assertType (.dict b) [.s "info", .s "files", .i i] { types := PyVal.isDict } := by
  rw [assertType_down ha, assertType_down hb]
  rcases hv.files with hf | ⟨x, y, l, l', rfl, rfl, hl, hl', hll⟩
  · exact hf.assertType List.mem_cons_self [.i i] nextIn_i _
  · rw [assertType_down hl, assertType_down hl']
    exact assertType_index hll i

/-- `assert_type(md, ('info', 'files', i, key, …))`: a key of `fileKeys`, then integer subscripts only -/
theorem assertType_files_key (i : Nat) {k : String}
    (hk : k ∈ fileKeys) (rest : List Key) (h2 : nextIn fileKeys rest) (r : Rule) :
    assertType (.dict a) (.s "info" :: .s "files" :: .i i :: .s k :: rest) r =
      assertType (.dict b) (.s "info" :: .s "files" :: .i i :: .s k :: rest) r := by
  rw [assertType_down ha, assertType_down hb]
  rcases hv.files with hf | ⟨x, y, l, l', rfl, rfl, hl, hl', hll⟩
  · exact hf.assertType List.mem_cons_self _ nextIn_i _
  · rw [assertType_down hl, assertType_down hl']
    exact assertType_index_key hll i hk rest h2 r

theorem checkCommon_same (hA : AgreeOn ["creation date", "announce", "announce-list"] a b) :
    checkCommon urlOk (.dict a) = checkCommon urlOk (.dict b) := by
  have e0 : assertType (.dict a) [.s "info"] { types := PyVal.isDict } =
      assertType (.dict b) [.s "info"] { types := PyVal.isDict } := by
    simp only [assertType, assertFinal, keyExists, lookupKey, ha, hb, Validate.getItem, checkVal, passes,
      hv.agree.isDict, Option.isSome_some]
    rfl
  have ei := fun k hk => @assertType_info_key a b v v' ha hb hv k hk [] nextIn_nil
  have et := fun k hk => @assertType_top a b hA k hk [] nextIn_nil
  unfold checkCommon
  rw [e0, ei "name" (by simp [infoKeys']), ei "piece length" (by simp [infoKeys']),
    ei "pieces" (by simp [infoKeys']), ei "private" (by simp [infoKeys']),
    et "creation date" (by simp), et "announce" (by simp), et "announce-list" (by simp)]

theorem checkFile_same (i : Nat) {e e' : PyVal} (he : SameEntry e e') :
    checkFile (.dict a) i e = checkFile (.dict b) i e' := by
  have fk := fun k hk => @assertType_files_key a b v v' ha hb hv i k hk
  simp only [checkFile, assertType_files_index ha hb hv, fk "length" (by simp [fileKeys]) [] nextIn_nil,
    fk "path" (by simp [fileKeys]) [] nextIn_nil, fk "md5sum" (by simp [fileKeys]) [] nextIn_nil,
    fun j => fk "path" (by simp [fileKeys]) [.i j] nextIn_i,
    he.toAgree.getE (k := "path") (by simp [fileKeys])]

include hfs

theorem checkSingle_same (plen : Nat) :
    checkSingle fs (.dict a) v plen = checkSingle fs' (.dict b) v' plen := by
  have ei := fun k hk => @assertType_info_key a b v v' ha hb hv k hk [] nextIn_nil
  simp only [checkSingle, hfs.hasPath, hfs.root, ei "length" (by simp [infoKeys']), ei "md5sum" (by simp [infoKeys']),
    hv.agree.getE (k := "piece length") (by simp [infoKeys']), hv.agree.getE (k := "length") (by simp [infoKeys'])]

theorem checkMulti_same (plen : Nat) :
    checkMulti fs (.dict a) v plen = checkMulti fs' (.dict b) v' plen := by
  unfold checkMulti
  rw [assertType_files ha hb hv]
  refine bind_congr fun _ => files_same hv fun fl fl' hfl => ?_
  simp only [forEnum_same (fun i _ _ he => checkFile_same ha hb hv i he) hfl 0,
    forEnum_same (fun i _ _ he => checkFileOnDisk_same hfs i he) hfl 0, sumLengths_same hfl 0,
    hfs.hasPath, hfs.isDir, hv.agree.getE (k := "piece length") (by simp [infoKeys'])]

end

/-- **what `validate()` reads**: of the metainfo the lookups of its vocabulary, of the file system the answers `FsSame`
    lists; two inputs alike in these are treated alike, for every URL oracle -/
theorem validate_same (urlOk : Bytes → Bool) {fs fs' : FsOracle} (hfs : FsSame fs fs') {a0 b0 : Items}
    (h : SameKnown a0 b0) : validate urlOk fs a0 = validate urlOk fs' b0 := by
  obtain ⟨hA, hv⟩ := h.ensureInfo
  obtain ⟨v, ha⟩ := ensureInfo_lookup a0
  obtain ⟨v', hb⟩ := ensureInfo_lookup b0
  rw [ha, hb] at hv
  have ea : getE (.dict (ensureInfo a0)) (.s "info") = pure v := getE_ok (getItem_dict_s_some ha)
  have eb : getE (.dict (ensureInfo b0)) (.s "info") = pure v' := getE_ok (getItem_dict_s_some hb)
  simp only [validate, ea, eb, pure_bind, checkCommon_same urlOk ha hb hv hA, checkAnnounceList_same urlOk hA,
    hv.agree.getE (k := "pieces") (by simp [infoKeys']), hv.agree.inE (k := "length") (by simp [infoKeys']),
    inE_files hv, checkSingle_same hfs ha hb hv, checkMulti_same hfs ha hb hv]

/-- **`validate()` cannot tell apart two metainfos that answer the lookups of its vocabulary alike** —
    whatever other keys they hold at the top level, in `info` and in the entries of `info.files`,
    wherever those keys sit and whatever is stored under them; every URL oracle, every file system -/
theorem validate_sameKnown (urlOk : Bytes → Bool) (fs : FsOracle) {a0 b0 : Items} (h : SameKnown a0 b0) :
    validate urlOk fs a0 = validate urlOk fs b0 :=
  validate_same urlOk (.refl fs) h

/-- the dict without its entries under the `str` key `k` -/
def without (k : String) (a : Items) : Items := a.filter fun kv => !Codec.isStrKey k kv.1

/-- `d[k] = v` and `del d[k]` touch only entries under the `str` key `k`: a lookup that never stops at such an entry
    does not notice -/
theorem firstWith_setStr {p : PyVal → Bool} {k : String}
    (hp : ∀ key, Codec.isStrKey k key = true → p key = false) (v : PyVal) : ∀ a : Items,
    firstWith p (Codec.setStr k v a) = firstWith p a
  | [] => by simp only [Codec.setStr, firstWith, hp (.str k) (beq_self_eq_true k), Bool.false_eq_true, if_false]
  | (key, w) :: t => by
    simp only [Codec.setStr]
    split
    · rename_i hk; simp only [firstWith, hp key hk, Bool.false_eq_true, if_false]
    · simp only [firstWith, firstWith_setStr hp v t]

theorem firstWith_without {p : PyVal → Bool} {k : String}
    (hp : ∀ key, Codec.isStrKey k key = true → p key = false) : ∀ a : Items,
    firstWith p (without k a) = firstWith p a
  | [] => rfl
  | (key, w) :: t => by
    have ih : firstWith p (List.filter (fun kv => !Codec.isStrKey k kv.1) t) = firstWith p t :=
      firstWith_without hp t
    cases hk : Codec.isStrKey k key with
    | true => simp only [without, List.filter_cons, hk, Bool.not_true, Bool.false_eq_true, if_false, firstWith,
        hp key hk, ih]
    | false => simp only [without, List.filter_cons, hk, Bool.not_false, if_true, firstWith, ih]

theorem isStrKey_ne {k k' : String} (hne : k' ≠ k) (key : PyVal) (h : Codec.isStrKey k key = true) :
    Codec.isStrKey k' key = false := by
  cases key with
  | str s =>
    have : s = k := beq_iff_eq.mp h
    exact beq_eq_false_iff_ne.mpr (this ▸ hne.symm)
  | _ => rfl

theorem keyEqNat_of_isStrKey {k : String} (n : Nat) (key : PyVal) (h : Codec.isStrKey k key = true) :
    keyEqNat n key = false := by
  cases key <;> first | rfl | cases h

theorem lookupStr_setStr_self (k : String) (v : PyVal) : ∀ a : Items,
    PyVal.lookupStr k (Codec.setStr k v a) = some v
  | [] => by simp only [Codec.setStr, PyVal.lookupStr, if_true]
  | (key, w) :: t => by
    rw [lookupStr_eq_firstWith]
    simp only [Codec.setStr]
    split
    · rename_i hk; simp only [firstWith, hk, if_true]
    · rename_i hk
      simp only [firstWith, hk, Bool.false_eq_true, if_false, ← lookupStr_eq_firstWith, lookupStr_setStr_self k v t]

theorem AgreeOn.setStr (K : List String) {k : String} (hk : k ∉ K) (v : PyVal) (a : Items) :
    AgreeOn K (Codec.setStr k v a) a :=
  ⟨fun k' hk' => by
      simp only [lookupStr_eq_firstWith, firstWith_setStr (isStrKey_ne fun h : k' = k => hk (h ▸ hk'))],
   fun n => by simp only [lookupNat_eq_firstWith, firstWith_setStr (keyEqNat_of_isStrKey n)]⟩

theorem AgreeOn.without (K : List String) {k : String} (hk : k ∉ K) (a : Items) :
    AgreeOn K (without k a) a :=
  ⟨fun k' hk' => by
      simp only [lookupStr_eq_firstWith, firstWith_without (isStrKey_ne fun h : k' = k => hk (h ▸ hk'))],
   fun n => by simp only [lookupNat_eq_firstWith, firstWith_without (keyEqNat_of_isStrKey n)]⟩

theorem AgreeOn.symm {K : List String} {a b : Items} (h : AgreeOn K a b) : AgreeOn K b a :=
  ⟨fun k hk => (h.1 k hk).symm, fun n => (h.2 n).symm⟩

theorem AgreeOn.trans {K : List String} {a b c : Items} (h : AgreeOn K a b) (h' : AgreeOn K b c) : AgreeOn K a c :=
  ⟨fun k hk => (h.1 k hk).trans (h'.1 k hk), fun n => (h.2 n).trans (h'.2 n)⟩

theorem AgreeOn.setStr_without (K : List String) {k : String} (hk : k ∉ K) (v : PyVal) (a : Items) :
    AgreeOn K (Codec.setStr k v a) (UnknownKeys.without k a) :=
  (AgreeOn.setStr K hk v a).trans (AgreeOn.without K hk a).symm

/-- agreement on all of `topKeys` (in particular an identical `info`) -/
theorem AgreeOn.sameKnown {a b : Items} (h : AgreeOn topKeys a b) : SameKnown a b :=
  ⟨h.mono fun _ hk => List.mem_cons_of_mem _ hk, Or.inl (h.1 "info" List.mem_cons_self)⟩

theorem sameKnown_top {k : String} (hk : k ∉ topKeys) (v : PyVal) (a : Items) :
    SameKnown (Codec.setStr k v a) (without k a) :=
  (AgreeOn.setStr_without topKeys hk v a).sameKnown

theorem sameKnown_setInfo {x y : Items} (hxy : AgreeOn infoKeys' x y)
    (hf : SameFiles (PyVal.lookupStr "files" x) (PyVal.lookupStr "files" y)) (a : Items) :
    SameKnown (Codec.setStr "info" (.dict x) a) (Codec.setStr "info" (.dict y) a) := by
  refine ⟨(AgreeOn.setStr _ (by decide) _ a).trans (AgreeOn.setStr _ (by decide) _ a).symm, ?_⟩
  rw [lookupStr_setStr_self, lookupStr_setStr_self]
  exact Or.inr ⟨x, y, rfl, rfl, hxy, hf⟩

theorem sameKnown_info {k : String} (hk : k ∉ infoKeys) (v : PyVal) (a info : Items) :
    SameKnown (Codec.setStr "info" (.dict (Codec.setStr k v info)) a)
      (Codec.setStr "info" (.dict (without k info)) a) :=
  have h := AgreeOn.setStr_without infoKeys hk v info
  have e : infoKeys = infoKeys' ++ ["files"] := rfl
  sameKnown_setInfo (h.mono fun _ hk => e ▸ List.mem_append_left _ hk)
    (Or.inl (h.1 "files" (e ▸ List.mem_append_right _ List.mem_cons_self))) a

theorem SameEntries.set {l : List PyVal} {e e' : PyVal} : ∀ {n : Nat}, l[n]? = some e → SameEntry e' e →
    SameEntries (l.set n e') l := by
  induction l with
  | nil => intro n h; simp at h
  | cons x t ih =>
    intro n h he
    cases n with
    | zero =>
      simp only [List.getElem?_cons_zero, Option.some.injEq] at h
      subst h
      exact .cons he (SameEntries.refl t)
    | succ m =>
      simp only [List.getElem?_cons_succ] at h
      exact .cons (SameEntry.refl x) (ih h he)

theorem sameKnown_file {k : String} (hk : k ∉ fileKeys) (v : PyVal) (a info e : Items) (l : List PyVal) (n : Nat)
    (hf : PyVal.lookupStr "files" info = some (.list l)) (he : l[n]? = some (.dict e)) :
    SameKnown
      (Codec.setStr "info" (.dict (Codec.setStr "files" (.list (l.set n (.dict (Codec.setStr k v e)))) info)) a)
      (Codec.setStr "info" (.dict info) a) := by
  refine sameKnown_setInfo (AgreeOn.setStr infoKeys' (by decide) _ info) ?_ a
  rw [lookupStr_setStr_self, hf]
  exact Or.inr ⟨_, _, rfl, rfl, SameEntries.set he (Or.inr ⟨_, _, rfl, rfl, AgreeOn.setStr fileKeys hk v e⟩)⟩

theorem lookup_info_ensureInfo {a b : Items} (h : PyVal.lookupStr "info" a = PyVal.lookupStr "info" b) :
    PyVal.lookupStr "info" (ensureInfo a) = PyVal.lookupStr "info" (ensureInfo b) := by
  unfold Validate.ensureInfo
  cases ha : PyVal.lookupStr "info" a with
  | some v => rw [ha] at h; simp only [← h, ha]
  | none =>
    rw [ha] at h; simp only [← h]
    rw [lookupStr_append, lookupStr_append, ha, ← h]

/-- the bytes `infohash` hashes do not depend on anything outside `topKeys` at the top level -/
theorem infoBytes_agree (urlOk : Bytes → Bool) (fs : FsOracle) {a b : Items} (h : AgreeOn topKeys a b) :
    infoBytes urlOk fs a = infoBytes urlOk fs b := by
  have hl := lookup_info_ensureInfo (h.1 "info" List.mem_cons_self)
  have hg : getE (.dict (ensureInfo a)) (.s "info") = getE (.dict (ensureInfo b)) (.s "info") := by
    simp only [getE, Validate.getItem, lookupKey, hl]
  simp only [infoBytes, validate_sameKnown urlOk fs h.sameKnown, hg]

end Torf.UnknownKeys
