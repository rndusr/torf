/-
  `validate` and the file system: the reason why `os.stat` failed is invisible to `validate()`
  (every failure is "does not exist").  `FsSame` lists the four questions `validate()` asks a file system; `fs.blur` answers them as `fs` does
  (`FsSame.blur`), and `validate` reads no more of a file system than these (`Torf.UnknownKeys.validate_same`).
-/
import Torf.Model.Validate
namespace Torf.Validate
open Torf Torf.Export

theorem Stat.blur_isFile (st : Stat) : st.blur.isFile = st.isFile := by cases st <;> rfl
theorem Stat.blur_isDir (st : Stat) : st.blur.isDir = st.isDir := by cases st <;> rfl
theorem Stat.blur_exists (st : Stat) : st.blur.exists = st.exists := by cases st <;> rfl
theorem Stat.blur_blur (st : Stat) : st.blur.blur = st.blur := by cases st <;> rfl

theorem statSize_blur (st : Stat) : statSize st.blur = statSize st := by
  cases st <;> rfl

theorem checkRootFile_blur (fs : FsOracle) (len : Int) :
    checkRootFile fs.blur len = checkRootFile fs len := by
  unfold checkRootFile FsOracle.blur
  cases fs.root <;> rfl

/-- all that `validate()` asks a file system, answered alike by the two: whether a content path is set, `isdir` and
    the single-file cross-check of the content path, and `exists` / `isfile` / `real_size` of the listed file `i` -/
structure FsSame (fs fs' : FsOracle) : Prop where
  hasPath : fs.hasPath = fs'.hasPath
  isDir : fs.root.isDir = fs'.root.isDir
  root : ∀ len, checkRootFile fs len = checkRootFile fs' len
  size : ∀ i, statSize (fs.fileStat i) = statSize (fs'.fileStat i)

theorem FsSame.refl (fs : FsOracle) : FsSame fs fs := ⟨rfl, rfl, fun _ => rfl, fun _ => rfl⟩

theorem FsSame.blur (fs : FsOracle) : FsSame fs.blur fs :=
  ⟨rfl, Stat.blur_isDir _, checkRootFile_blur fs, fun _ => statSize_blur _⟩

end Torf.Validate
