/-
  Round trips of the base32 / base16 model (`Torf.Model.Base32`), for data of every length and
  without enumerating digits or bytes: a quantum and its eight base-32 digits are related by Horner
  steps on the numerals `encQuantum` divides by (`horner_step`), its five bytes likewise
  (`div256`/`mod256`), and the padded tails are one lemma over the number of padding characters
  (`b32decode_final`).
-/
import Torf.Model.Base32

namespace Torf.Base32

theorem toNat_b32char (v : Nat) (h : v < 32) :
    (b32char v).toNat = if v < 26 then 65 + v else 24 + v := by
  unfold b32char
  split
  · rw [UInt8.toNat_ofNat']; omega
  · rw [UInt8.toNat_ofNat']; omega

theorem b32val_b32char (v : Nat) (h : v < 32) : b32val (b32char v) = some v := by
  unfold b32val
  rw [toNat_b32char v h]
  by_cases hv : v < 26
  · rw [if_pos hv, if_pos (by omega)]; congr 1; omega
  · rw [if_neg hv, if_neg (by omega), if_pos (by omega)]; congr 1; omega

theorem b32char_alpha (v : Nat) (h : v < 32) :
    (65 ≤ (b32char v).toNat ∧ (b32char v).toNat ≤ 90) ∨
      (50 ≤ (b32char v).toNat ∧ (b32char v).toNat ≤ 55) := by
  rw [toNat_b32char v h]
  split <;> omega

theorem b32char_ne_pad (v : Nat) (h : v < 32) : b32char v ≠ 61 := by
  intro hc
  have := b32char_alpha v h
  rw [hc, show (61 : UInt8).toNat = 61 from rfl] at this
  omega

theorem quantum_lt (a b c d e : UInt8) : quantum a b c d e < 2^40 := by
  have ha := a.toNat_lt
  have hb := b.toNat_lt
  have hc := c.toNat_lt
  have hd := d.toNat_lt
  have he := e.toNat_lt
  unfold quantum
  omega

theorem horner_step (n a : Nat) : n / (a * 32) * 32 + n / a % 32 = n / a := by
  rw [← Nat.div_div_eq_div_mul]; exact Nat.div_add_mod' _ 32

theorem decQuantum_encQuantum (n : Nat) (h : n < 2^40) :
    decQuantum (b32char (n / 34359738368 % 32)) (b32char (n / 1073741824 % 32))
      (b32char (n / 33554432 % 32)) (b32char (n / 1048576 % 32)) (b32char (n / 32768 % 32))
      (b32char (n / 1024 % 32)) (b32char (n / 32 % 32)) (b32char (n % 32)) = some n := by
  unfold decQuantum
  simp only [b32val_b32char _ (Nat.mod_lt _ (by decide : 0 < 32))]
  congr 1
  -- from the top digit down; each weight is 32 times the next (`a * 32` unifies with the numeral)
  rw [Nat.mod_eq_of_lt (Nat.div_lt_of_lt_mul h : n / 34359738368 < 32),
    horner_step n 1073741824, horner_step n 33554432, horner_step n 1048576, horner_step n 32768,
    horner_step n 1024, horner_step n 32]
  exact Nat.div_add_mod' n 32

theorem decQuantum_encQuantum' (n : Nat) (h : n < 2^40) :
    (match encQuantum n with
      | [c0, c1, c2, c3, c4, c5, c6, c7] => decQuantum c0 c1 c2 c3 c4 c5 c6 c7
      | _ => none) = some n :=
  decQuantum_encQuantum n h

theorem div256 (x : Nat) (y : UInt8) : (x * 256 + y.toNat) / 256 = x := by
  have := y.toNat_lt; omega

theorem mod256 (x : Nat) (y : UInt8) : (x * 256 + y.toNat) % 256 = y.toNat := by
  have := y.toNat_lt; omega

theorem bytesOfQuantum_quantum (a b c d e : UInt8) :
    bytesOfQuantum (quantum a b c d e) = [a, b, c, d, e] := by
  unfold bytesOfQuantum quantum
  -- with the quotients taken one byte at a time, `div256`/`mod256` peel the Horner form
  rw [show (4294967296 : Nat) = 256 * 256 * 256 * 256 from rfl,
    show (16777216 : Nat) = 256 * 256 * 256 from rfl, show (65536 : Nat) = 256 * 256 from rfl]
  simp only [← Nat.div_div_eq_div_mul, div256, mod256, Nat.mod_eq_of_lt a.toNat_lt,
    UInt8.ofNat_toNat]

theorem unpad_of_ne {c : UInt8} (h : c ≠ 61) : unpad c = c := by
  unfold unpad; rw [if_neg h]

theorem unpad_pad : unpad 61 = 65 := rfl

theorem b32char_zero : b32char 0 = 65 := rfl

/-- `a` stands for the weight `32 ^ i` of a position `i < p`, in the form of the numeral
    `encQuantum` divides by, so that `decide` settles `ha` at each use -/
theorem low_digit_zero {n p : Nat} (hz : n % 32 ^ p = 0) {a : Nat} (ha : a * 32 ∣ 32 ^ p)
    (a0 : 0 < a) : n / a % 32 = 0 := by
  obtain ⟨t, rfl⟩ := Nat.dvd_trans ha (Nat.dvd_of_mod_eq_zero hz)
  rw [Nat.mul_assoc, Nat.mul_div_cancel_left _ a0, Nat.mul_mod_right]

/-- A final quantum with `p` padding characters (`p = 0`: a full one).  The `p` low digits of `n`
    vanish, so `encQuantum n` ends in `p` characters `A`, and `A` is what `unpad` makes of `=`. -/
theorem b32decode_final (n : Nat) (hn : n < 2 ^ 40) (p k : Nat) (hk : tailBytes p = some k)
    (hz : n % 32 ^ p = 0) :
    b32decode ((encQuantum n).take (8 - p) ++ pad p) = some ((bytesOfQuantum n).take k) := by
  have hne : ∀ m : Nat, b32char (m % 32) ≠ 61 :=
    fun m => b32char_ne_pad _ (Nat.mod_lt _ (by decide))
  have hd := decQuantum_encQuantum n hn
  have z0 : 32 ∣ 32 ^ p → n % 32 = 0 := fun h => by
    have := low_digit_zero hz (a := 1) (by simpa using h) (by decide); rwa [Nat.div_one] at this
  unfold tailBytes at hk
  split at hk <;> cases hk
  all_goals
    -- the side conditions `a * 32 ∣ 32 ^ p` select the digits below `p` (none if `p = 0`)
    try simp (disch := decide) only [z0, low_digit_zero hz, b32char_zero] at hd
    show b32decode [_, _, _, _, _, _, _, _] = _
    rw [b32decode.eq_2]
    simp [List.takeWhile, hne, tailBytes, unpad_of_ne, unpad_pad, hd]

theorem b32decode_final_bytes (a b c d e : UInt8) (p k : Nat) (hk : tailBytes p = some k)
    (hz : quantum a b c d e % 32 ^ p = 0) :
    b32decode ((encQuantum (quantum a b c d e)).take (8 - p) ++ pad p) =
      some ([a, b, c, d, e].take k) := by
  rw [b32decode_final _ (quantum_lt a b c d e) p k hk hz, bytesOfQuantum_quantum]

theorem b32encode_ne_nil (d : Bytes) (h : d ≠ []) : b32encode d ≠ [] := by
  fun_cases b32encode d
  · rw [encQuantum]; simp
  · rw [encQuantum]; simp [pad]
  · rw [encQuantum]; simp [pad]
  · rw [encQuantum]; simp [pad]
  · rw [encQuantum]; simp [pad]
  · exact absurd rfl h

theorem b32decode_quantum_append (a b c d e : UInt8) (s r : Bytes) (hs : s ≠ [])
    (hr : b32decode s = some r) :
    b32decode (encQuantum (quantum a b c d e) ++ s) = some (a :: b :: c :: d :: e :: r) := by
  have hd := decQuantum_encQuantum _ (quantum_lt a b c d e)
  rw [encQuantum]
  simp only [List.cons_append, List.nil_append]
  rw [b32decode.eq_3 _ _ _ _ _ _ _ _ s (fun h => hs h), hd, hr]
  simp only [bytesOfQuantum_quantum]
  rfl

theorem mul_mod_of_dvd (x : Nat) {m k : Nat} (h : k ∣ m) : x * m % k = 0 :=
  Nat.mod_eq_zero_of_dvd (Nat.dvd_mul_left_of_dvd h x)

theorem b32decode_b32encode (d : Bytes) : b32decode (b32encode d) = some d := by
  induction d using b32encode.induct with
  | case1 a b c d e t ih =>
    rw [b32encode.eq_1]
    by_cases ht : t = []
    · subst ht
      rw [b32encode.eq_6, List.append_nil]
      exact b32decode_final_bytes a b c d e 0 5 rfl (Nat.mod_one _)
    · exact b32decode_quantum_append a b c d e _ t (b32encode_ne_nil t ht) ih
  -- a tail of `j` bytes is padded with `5 - j` zero bytes: the quantum is a multiple of
  -- `256 ^ (5 - j)`, which `32 ^ p` divides for the `p` whole digits in `8 * (5 - j)` zero bits
  | case2 a b c d =>
    exact b32decode_final_bytes a b c d 0 1 4 rfl (by
      unfold quantum; simp only [UInt8.toNat_zero, Nat.add_zero]; exact mul_mod_of_dvd _ (by decide))
  | case3 a b c =>
    exact b32decode_final_bytes a b c 0 0 3 3 rfl (by
      unfold quantum; simp only [UInt8.toNat_zero, Nat.add_zero, Nat.mul_assoc]
      exact mul_mod_of_dvd _ (by decide))
  | case4 a b =>
    exact b32decode_final_bytes a b 0 0 0 4 2 rfl (by
      unfold quantum; simp only [UInt8.toNat_zero, Nat.add_zero, Nat.mul_assoc]
      exact mul_mod_of_dvd _ (by decide))
  | case5 a =>
    exact b32decode_final_bytes a 0 0 0 0 6 1 rfl (by
      unfold quantum; simp only [UInt8.toNat_zero, Nat.add_zero, Nat.mul_assoc]
      exact mul_mod_of_dvd _ (by decide))
  | case6 => rfl

theorem b32decode_b32encode_of_dvd (d : Bytes) (_h : d.length % 5 = 0) :
    b32decode (b32encode d) = some d :=
  b32decode_b32encode d

theorem encQuantum_length (n : Nat) : (encQuantum n).length = 8 := rfl

theorem b32encode_length (d : Bytes) : (b32encode d).length = (d.length + 4) / 5 * 8 := by
  induction d using b32encode.induct with
  | case1 a b c d e t ih =>
    rw [b32encode.eq_1, List.length_append, encQuantum_length, ih]
    simp only [List.length_cons]
    omega
  | case2 a b c d => simp [b32encode, encQuantum, pad]
  | case3 a b c => simp [b32encode, encQuantum, pad]
  | case4 a b => simp [b32encode, encQuantum, pad]
  | case5 a => simp [b32encode, encQuantum, pad]
  | case6 => rfl

theorem encQuantum_all_alpha (n : Nat) :
    ∀ c ∈ encQuantum n, (65 ≤ c.toNat ∧ c.toNat ≤ 90) ∨ (50 ≤ c.toNat ∧ c.toNat ≤ 55) := by
  have h32 : ∀ m : Nat, m % 32 < 32 := fun m => Nat.mod_lt _ (by decide)
  intro c hc
  unfold encQuantum at hc
  simp only [List.mem_cons, List.not_mem_nil, or_false] at hc
  rcases hc with rfl | rfl | rfl | rfl | rfl | rfl | rfl | rfl <;> exact b32char_alpha _ (h32 _)

theorem b32encode_all_alpha_of_dvd (d : Bytes) (h : d.length % 5 = 0) :
    ∀ c ∈ b32encode d, (65 ≤ c.toNat ∧ c.toNat ≤ 90) ∨ (50 ≤ c.toNat ∧ c.toNat ≤ 55) := by
  induction d using b32encode.induct with
  | case1 a b c d e t ih =>
    simp only [List.length_cons] at h
    intro x hx
    rw [b32encode.eq_1, List.mem_append] at hx
    rcases hx with hx | hx
    · exact encQuantum_all_alpha _ x hx
    · exact ih (by omega) x hx
  | case2 a b c d => simp at h
  | case3 a b c => simp at h
  | case4 a b => simp at h
  | case5 a => simp at h
  | case6 => intro x hx; rw [b32encode.eq_6] at hx; cases hx

theorem toNat_hexDigitLower (v : Nat) (h : v < 16) :
    (hexDigitLower v).toNat = if v < 10 then 48 + v else 87 + v := by
  unfold hexDigitLower
  split
  · rw [UInt8.toNat_ofNat']; omega
  · rw [UInt8.toNat_ofNat']; omega

theorem hexDigitLower_hex (v : Nat) (h : v < 16) :
    (48 ≤ (hexDigitLower v).toNat ∧ (hexDigitLower v).toNat ≤ 57) ∨
      (97 ≤ (hexDigitLower v).toNat ∧ (hexDigitLower v).toNat ≤ 102) := by
  rw [toNat_hexDigitLower v h]
  split <;> omega

theorem hexValLower_hexDigitLower (v : Nat) (h : v < 16) :
    hexValLower (hexDigitLower v) = some v := by
  unfold hexValLower
  rw [toNat_hexDigitLower v h]
  by_cases hv : v < 10
  · rw [if_pos hv, if_pos (by omega)]; congr 1; omega
  · rw [if_neg hv, if_neg (by omega), if_pos (by omega)]; congr 1; omega

/-- `str.upper()` on one ASCII character -/
def upperChar (c : UInt8) : UInt8 :=
  if 97 ≤ c.toNat ∧ c.toNat ≤ 122 then UInt8.ofNat (c.toNat - 32) else c

theorem upper_cons (c : UInt8) (t : Bytes) : upper (c :: t) = upperChar c :: upper t := rfl

theorem toNat_upperChar_hexDigitLower (v : Nat) (h : v < 16) :
    (upperChar (hexDigitLower v)).toNat = if v < 10 then 48 + v else 55 + v := by
  unfold upperChar
  rw [toNat_hexDigitLower v h]
  by_cases hv : v < 10
  · rw [if_pos hv, if_pos hv, if_neg (by omega), toNat_hexDigitLower v h, if_pos hv]
  · rw [if_neg hv, if_neg hv, if_pos (by omega), UInt8.toNat_ofNat']; omega

theorem hexValUpper_upperChar_hexDigitLower (v : Nat) (h : v < 16) :
    hexValUpper (upperChar (hexDigitLower v)) = some v := by
  unfold hexValUpper
  rw [toNat_upperChar_hexDigitLower v h]
  by_cases hv : v < 10
  · rw [if_pos hv, if_pos (by omega)]; congr 1; omega
  · rw [if_neg hv, if_neg (by omega), if_pos (by omega)]; congr 1; omega

theorem hexLower_cons (b : UInt8) (t : Bytes) :
    hexLower (b :: t) =
      hexDigitLower (b.toNat / 16) :: hexDigitLower (b.toNat % 16) :: hexLower t := rfl

theorem byte_div_lt (b : UInt8) : b.toNat / 16 < 16 := by
  have := b.toNat_lt; omega

theorem byte_mod_lt (b : UInt8) : b.toNat % 16 < 16 := Nat.mod_lt _ (by decide)

theorem ofNat_div_mod (b : UInt8) : UInt8.ofNat (b.toNat / 16 * 16 + b.toNat % 16) = b := by
  have h : b.toNat / 16 * 16 + b.toNat % 16 = b.toNat := by omega
  rw [h, UInt8.ofNat_toNat]

theorem hexLower_length (d : Bytes) : (hexLower d).length = 2 * d.length := by
  induction d with
  | nil => rfl
  | cons b t ih =>
    rw [hexLower_cons]
    simp only [List.length_cons, ih]
    omega

theorem b16decode_upper_hexLower (d : Bytes) : b16decode (upper (hexLower d)) = some d := by
  induction d with
  | nil => rfl
  | cons b t ih =>
    rw [hexLower_cons, upper_cons, upper_cons, b16decode.eq_3,
      hexValUpper_upperChar_hexDigitLower _ (byte_div_lt b),
      hexValUpper_upperChar_hexDigitLower _ (byte_mod_lt b), ih]
    simp only [ofNat_div_mod]

theorem unhexLower_hexLower (d : Bytes) : unhexLower (hexLower d) = some d := by
  induction d with
  | nil => rfl
  | cons b t ih =>
    rw [hexLower_cons, unhexLower.eq_3,
      hexValLower_hexDigitLower _ (byte_div_lt b),
      hexValLower_hexDigitLower _ (byte_mod_lt b), ih]
    simp only [ofNat_div_mod]

theorem hexLower_all_hex (d : Bytes) :
    ∀ c ∈ hexLower d, (48 ≤ c.toNat ∧ c.toNat ≤ 57) ∨ (97 ≤ c.toNat ∧ c.toNat ≤ 102) := by
  induction d with
  | nil => intro c hc; cases hc
  | cons b t ih =>
    intro c hc
    rw [hexLower_cons] at hc
    simp only [List.mem_cons] at hc
    rcases hc with rfl | rfl | hc
    · exact hexDigitLower_hex _ (byte_div_lt b)
    · exact hexDigitLower_hex _ (byte_mod_lt b)
    · exact ih c hc

end Torf.Base32
