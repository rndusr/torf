/-
  What a listed file is depends on where the spelling of the content path resolves to, not on its
  text.
-/
import Torf.Model.VerifySpelling
import Torf.Lemmas.ReuseSearch
namespace Torf.VerifySpelling
open Torf Torf.Verify Torf.VerifyFs Torf.VerifyCall
open Torf.Reuse (World resolve walk walk1 FS)
open Torf.Paths (PPath)

/-- no symbolic link is met when the components `n` are walked from directory `st` -/
def NoLinkBelow (fs : FS) (st : List Nat) (n : List String) : Prop :=
  ∀ s t r, walk1 fs st n ≠ .follow s t r

theorem walk_nofollow (fs : FS) (k : Nat) (st : List Nat) (n : List String)
    (h : NoLinkBelow fs st n) : walk fs k st n = walk fs 0 st n := by
  rw [Reuse.walk_eq, Reuse.walk_eq fs 0]
  cases hw : walk1 fs st n with
  | follow s t r => exact absurd hw (h s t r)
  | _ => rfl

theorem resolve_join (w : World) (p : PPath) (st : List Nat) (n : List String)
    (hp : resolve w p = .ok (.dir st)) (hn : NoLinkBelow w.fs st n) :
    resolve w (joinPath p n) = walk w.fs 0 st n := by
  obtain ⟨k, _, hk⟩ := Reuse.resolve_append hp
  exact (hk n).trans (walk_nofollow w.fs k st n hn)

theorem stateOf_join {α : Type} (e : Env α) (p p' : PPath) (st : List Nat) (n : List String)
    (hp : resolve e.w p = .ok (.dir st)) (hp' : resolve e.w p' = .ok (.dir st))
    (hn : NoLinkBelow e.w.fs st n) :
    stateOf e (joinPath p n) = stateOf e (joinPath p' n) := by
  unfold stateOf
  rw [resolve_join e.w p st n hp hn, resolve_join e.w p' st n hp' hn]

end Torf.VerifySpelling
