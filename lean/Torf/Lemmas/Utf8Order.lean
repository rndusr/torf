import Torf.Model.Codec

/-!
# UTF-8 encoding preserves order

Code-point (lexicographic on `Char`) order of `String`s coincides with the
lexicographic unsigned-byte order of their UTF-8 encodings.
-/

namespace Torf.Codec
open Torf Torf.Bencode

theorem utf8Enc_eq_flatMap (s : String) :
    utf8Enc s = s.toList.flatMap String.utf8EncodeChar := by
  unfold utf8Enc
  rw [String.toUTF8_eq_toByteArray, ← String.utf8Encode_toList, List.utf8Encode,
    List.toList_data_toByteArray]

/-! A code point `v` of length class `k` (`lo k ≤ v < lo (k+1)`) is encoded as a lead byte
`v / 64 ^ k + off k` followed by the `k` lowest base-64 digits of `v`, each above the marker `0x80`.
Both tables increase, so the lead byte orders code points of different classes, and within a class
the encoding is a positional numeral. -/

private def lo : Nat → Nat
  | 0 => 0 | 1 => 0x80 | 2 => 0x800 | 3 => 0x10000 | _ => 0x110000

private def off : Nat → Nat
  | 0 => 0 | 1 => 0xc0 | 2 => 0xe0 | 3 => 0xf0 | _ => 0x100

private def conts : Nat → Nat → List UInt8
  | 0, _ => []
  | k + 1, v => UInt8.ofNat (v / 64 ^ k % 64 + 0x80) :: conts k v

private def form (k v : Nat) : List UInt8 := UInt8.ofNat (v / 64 ^ k + off k) :: conts k v

private theorem lo_mono : ∀ j ≤ 4, ∀ k ≤ 4, j ≤ k → lo j ≤ lo k := by decide
private theorem off_mono : ∀ j ≤ 4, ∀ k ≤ 4, j ≤ k → off j ≤ off k := by decide

/-- the lead byte of class `k` has room for what a code point of that class has above its `k`
    continuation digits -/
private theorem lo_le : ∀ k ≤ 3, lo (k + 1) ≤ 64 ^ k * (off (k + 1) - off k) := by decide

private theorem lead_lt_off {k v : Nat} (hk : k ≤ 3) (h : v < lo (k + 1)) :
    v / 64 ^ k + off k < off (k + 1) :=
  Nat.add_lt_of_lt_sub (Nat.div_lt_of_lt_mul (Nat.lt_of_lt_of_le h (lo_le k hk)))

private theorem utf8EncodeChar_eq_form (c : Char) :
    ∃ k ≤ 3, lo k ≤ c.val.toNat ∧ c.val.toNat < lo (k + 1) ∧
      String.utf8EncodeChar c = form k c.val.toNat := by
  have hc : c.val.toNat < 0x110000 := by
    have h := c.valid
    simp only [UInt32.isValidChar, Nat.isValidChar] at h
    omega
  unfold String.utf8EncodeChar
  generalize c.val.toNat = v at *
  by_cases h1 : v ≤ 0x7f
  · refine ⟨0, by decide, Nat.zero_le _, Nat.lt_succ_of_le h1, ?_⟩
    rw [if_pos h1, form, conts, Nat.pow_zero, Nat.div_one]; rfl
  by_cases h2 : v ≤ 0x7ff
  · refine ⟨1, by decide, Nat.lt_of_not_le h1, Nat.lt_succ_of_le h2, ?_⟩
    rw [if_neg h1, if_pos h2]
    simp only [form, conts, Nat.reducePow, Nat.div_one, off]
    -- core's lead byte is `v / 64 ^ k % m + off k`; below `lo (k + 1)` the `% m` does nothing
    congr 3; omega
  by_cases h3 : v ≤ 0xffff
  · refine ⟨2, by decide, Nat.lt_of_not_le h2, Nat.lt_succ_of_le h3, ?_⟩
    rw [if_neg h1, if_neg h2, if_pos h3]
    simp only [form, conts, Nat.reducePow, Nat.div_one, off]
    congr 3; omega
  · refine ⟨3, by decide, Nat.lt_of_not_le h3, hc, ?_⟩
    rw [if_neg h1, if_neg h2, if_neg h3]
    simp only [form, conts, Nat.reducePow, Nat.div_one, off]
    congr 3; omega

private theorem byte_lt {a b : Nat} (h : a < b) (hb : b < 256) : UInt8.ofNat a < UInt8.ofNat b := by
  rw [UInt8.lt_iff_toNat_lt, UInt8.toNat_ofNat', UInt8.toNat_ofNat']
  omega

private theorem conts_append_lt {v w : Nat} (h : v < w) (r₁ r₂ : List UInt8) :
    ∀ k, v / 64 ^ k = w / 64 ^ k → conts k v ++ r₁ < conts k w ++ r₂
  | 0, hq => by omega
  | k + 1, hq => by
    have hle : v / 64 ^ k ≤ w / 64 ^ k := Nat.div_le_div_right (Nat.le_of_lt h)
    rw [Nat.pow_succ, ← Nat.div_div_eq_div_mul, ← Nat.div_div_eq_div_mul] at hq
    rw [conts, conts, List.cons_append, List.cons_append, List.cons_lt_cons_iff]
    rcases Nat.lt_or_eq_of_le hle with hlt | heq
    · exact .inl (byte_lt (by omega) (by omega))
    · exact .inr ⟨by rw [heq], conts_append_lt h r₁ r₂ k heq⟩

theorem utf8EncodeChar_append_lt {c d : Char} (h : c < d) (r₁ r₂ : List UInt8) :
    String.utf8EncodeChar c ++ r₁ < String.utf8EncodeChar d ++ r₂ := by
  have hlt : c.val.toNat < d.val.toNat := UInt32.lt_iff_toNat_lt.mp h
  obtain ⟨j, hj, hjlo, hjhi, ec⟩ := utf8EncodeChar_eq_form c
  obtain ⟨k, hk, hklo, hkhi, ed⟩ := utf8EncodeChar_eq_form d
  generalize c.val.toNat = v at *
  generalize d.val.toNat = w at *
  have hw : w / 64 ^ k + off k < 256 :=
    Nat.lt_of_lt_of_le (lead_lt_off hk hkhi) (off_mono (k + 1) (by omega) 4 (by omega) (by omega))
  rw [ec, ed, form, form, List.cons_append, List.cons_append, List.cons_lt_cons_iff]
  rcases Nat.lt_trichotomy j k with hjk | rfl | hjk
  · -- a shorter encoding has the smaller lead byte
    refine .inl (byte_lt ?_ hw)
    calc v / 64 ^ j + off j < off (j + 1) := lead_lt_off hj hjhi
      _ ≤ off k := off_mono (j + 1) (by omega) k (by omega) hjk
      _ ≤ w / 64 ^ k + off k := Nat.le_add_left _ _
  · rcases Nat.lt_or_eq_of_le (Nat.div_le_div_right (c := 64 ^ j) (Nat.le_of_lt hlt)) with hq | hq
    · exact .inl (byte_lt (Nat.add_lt_add_right hq _) hw)
    · exact .inr ⟨by rw [hq], conts_append_lt hlt r₁ r₂ j hq⟩
  · exact absurd (Nat.lt_of_lt_of_le hkhi (lo_mono (k + 1) (by omega) j (by omega) hjk))
      (by omega)

private theorem flatMap_lt_of_lt {cs ds : List Char} (h : cs < ds) :
    cs.flatMap String.utf8EncodeChar < ds.flatMap String.utf8EncodeChar := by
  induction cs generalizing ds with
  | nil =>
    cases ds with
    | nil => exact absurd h (List.not_lt_nil _)
    | cons d ds =>
      rw [List.flatMap_cons, List.flatMap_nil]
      cases hd : String.utf8EncodeChar d with
      | nil => exact absurd hd String.utf8EncodeChar_ne_nil
      | cons b bs => exact List.nil_lt_cons _ _
  | cons c cs ih =>
    cases ds with
    | nil => exact absurd h (List.not_lt_nil _)
    | cons d ds =>
      rw [List.flatMap_cons, List.flatMap_cons]
      rcases List.cons_lt_cons_iff.mp h with hcd | ⟨rfl, hrest⟩
      · exact utf8EncodeChar_append_lt hcd _ _
      · exact List.append_left_lt (ih hrest)

private theorem flatMap_lt_iff (cs ds : List Char) :
    cs.flatMap String.utf8EncodeChar < ds.flatMap String.utf8EncodeChar ↔ cs < ds := by
  refine ⟨fun h => ?_, flatMap_lt_of_lt⟩
  apply Classical.byContradiction
  intro hn
  -- `¬ cs < ds` is `ds ≤ cs`
  have hle : ds ≤ cs := hn
  rcases List.le_iff_lt_or_eq.mp hle with hlt | heq
  · exact List.lt_asymm h (flatMap_lt_of_lt hlt)
  · subst heq
    exact List.lt_irrefl _ h

theorem utf8_lt (s t : String) : utf8Enc s < utf8Enc t ↔ s < t := by
  rw [utf8Enc_eq_flatMap, utf8Enc_eq_flatMap, flatMap_lt_iff]
  exact Iff.rfl

theorem utf8_order (s t : String) : utf8Enc s ≤ utf8Enc t ↔ s ≤ t :=
  -- on lists and on strings `a ≤ b` unfolds to `¬ b < a`
  not_congr (utf8_lt t s)

end Torf.Codec
