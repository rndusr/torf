/-
  With `cap + 1` descriptors free the handle table never makes `open()` fail, so the call is the
  one of `verifyCall`.
-/
import Torf.Model.VerifyEnv
import Torf.Lemmas.Handles
import Torf.Lemmas.VerifyCall
namespace Torf.VerifyEnv
open Torf Torf.Missing Torf.Verify Torf.VerifyFs Torf.VerifyCall

variable {α δ : Type} [Inhabited α]

theorem verifyCall_eq_ofRun [DecidableEq δ] (H : List α → δ) (L : Nat) (sizes : List Nat)
    (fd : List (FState α)) (stored : List δ) (hasCb single pathIsDir : Bool)
    (tpath : Option String) (interval : Int) (clock : List Int) :
    verifyCall H L sizes fd stored hasCb single pathIsDir tpath interval clock =
      verifyOfRun H L sizes stored hasCb single pathIsDir interval clock
        (runOf ((List.range sizes.length).foldl (stepP single tpath L sizes fd) {})) := rfl

theorem stepP_skip (single : Bool) (tpath : Option String) (L : Nat) (sizes : List Nat)
    (fd : List (FState α)) (s : StFs α) (j : Nat)
    (h : (s.fault.isSome || s.st.failed || s.st.bycatch.contains j) = true) :
    stepP single tpath L sizes fd s j = s := by
  -- whichever test holds returns `s`; the tests before it then have `s` in both branches
  unfold stepP
  simp only [Bool.or_eq_true] at h
  rcases h with (h | h) | h <;> simp only [h, if_true, ite_self]

theorem stepR_tbl_le (single : Bool) (tpath : Option String) (cap free : Nat) (L : Nat)
    (sizes : List Nat) (s : StR α) (j : Nat) (h : s.tbl.length ≤ cap + 1) :
    (stepR single tpath cap free L sizes s j).tbl.length ≤ cap + 1 := by
  unfold stepR
  split
  · exact h
  · split
    · simp only
      have := Handles.length_evict_le cap s.tbl
      split
      · simp only [List.length_append, List.length_cons, List.length_nil]; omega
      · simp only; omega
    · simp only
      have := Handles.length_evict_le cap s.tbl
      split
      · simp only; omega
      · simp only; omega
    · exact h

theorem stepR_headroom (single : Bool) (tpath : Option String) (cap free : Nat)
    (hfree : cap + 1 ≤ free) (L : Nat) (sizes : List Nat) (s : StR α) (j : Nat) :
    (stepR single tpath cap free L sizes s j).base = stepP single tpath L sizes s.eff s.base j ∧
    (stepR single tpath cap free L sizes s j).eff = s.eff := by
  unfold stepR
  by_cases hg : (s.base.fault.isSome || s.base.st.failed || s.base.st.bycatch.contains j) = true
  · simp only [hg, if_true]
    exact ⟨(stepP_skip single tpath L sizes s.eff s.base j hg).symm, trivial⟩
  · simp only [hg, Bool.false_eq_true, if_false]
    have hlt : (Handles.evict cap s.tbl).length < free := by
      have := Handles.length_evict_le cap s.tbl; omega
    split
    · simp only [hlt, if_true]
      exact ⟨trivial, trivial⟩
    · simp only [hlt, if_true]
      exact ⟨trivial, trivial⟩
    · exact ⟨rfl, rfl⟩

theorem foldR_headroom (single : Bool) (tpath : Option String) (cap free : Nat)
    (hfree : cap + 1 ≤ free) (L : Nat) (sizes : List Nat) (js : List Nat) (s : StR α) :
    (js.foldl (stepR single tpath cap free L sizes) s).base =
      js.foldl (stepP single tpath L sizes s.eff) s.base ∧
    (js.foldl (stepR single tpath cap free L sizes) s).eff = s.eff :=
  List.foldl_rel (r := fun (c : StR α) c' => c.base = c' ∧ c.eff = s.eff) ⟨rfl, rfl⟩
    fun j _ c c' h => by
      obtain ⟨h1, h2⟩ := stepR_headroom single tpath cap free hfree L sizes c j
      exact ⟨by rw [h1, h.1, h.2], h2.trans h.2⟩

end Torf.VerifyEnv
