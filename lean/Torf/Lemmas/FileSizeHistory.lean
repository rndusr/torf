/-
  Helper lemmas for the history theorems of C20: `partial_size` meets its specification on
  well-formed prefix-free layouts; with a memo that is *consistent* with the current metainfo — or
  with the memo switched off, as in the code — every operation of a history is the memo-free
  function of the current metainfo.
-/
import Torf.Spec.FileSizeHistory
import Torf.Lemmas.FileSize
namespace Torf.FileSize

theorem startsWith_self (a : List String) : startsWith a a = true := by
  induction a with
  | nil => rfl
  | cons x xs ih => simp [startsWith, ih]

theorem startsWith_cons_same (n : String) (a b : List String) :
    startsWith (n :: a) (n :: b) = startsWith a b := by
  simp [startsWith]

theorem partialSizeLoop_noexact (name : String) (p : List String) (l : List Listed) (acc : List Nat)
    (hno : ∀ g ∈ l, name :: g.path.filter (· ≠ "") ≠ p) :
    partialSizeLoop name p l acc =
      if (acc ++ (l.filter fun g => startsWith (name :: g.path.filter (· ≠ "")) p).map (·.size)).isEmpty
      then .error .path
      else .ok (acc ++ (l.filter fun g => startsWith (name :: g.path.filter (· ≠ "")) p).map (·.size)).sum := by
  induction l generalizing acc with
  | nil => simp [partialSizeLoop]
  | cons g rest ih =>
    have h2 := fun x hx => hno x (List.mem_cons_of_mem _ hx)
    unfold partialSizeLoop
    simp only [hno g (List.mem_cons_self ..), if_false, List.filter_cons]
    by_cases hs : startsWith (name :: g.path.filter (· ≠ "")) p = true
    · simp only [hs, if_true, ih _ h2, List.map_cons, List.append_assoc, List.singleton_append]
    · simp only [hs, Bool.false_eq_true, if_false, ih _ h2]

theorem filter_eq_singleton (l : List Listed) (pred : Listed → Bool) (f : Listed) (hn : l.Nodup)
    (hf : f ∈ l) (hp : ∀ g ∈ l, pred g = true ↔ g = f) : l.filter pred = [f] := by
  rw [List.filter_congr (q := (· == f)) fun g hg => by rw [Bool.eq_iff_iff, hp g hg, beq_iff_eq],
    List.filter_beq, hn.count, if_pos hf, List.replicate_one]

theorem partialSize_eq_spec (t : Torrent) (hwf : WF t) (hpf : PrefixFree t) (p : List String) :
    partialSize t p = partialSizeSpec t p := by
  unfold partialSize partialSizeSpec
  unfold WF Torrent.listed at hwf
  unfold PrefixFree Torrent.listed at hpf
  cases hm : t.mode with
  | single n => rfl
  | multi files =>
    simp only [hm] at hwf hpf ⊢
    -- `p` a listed file: the loop returns at it, and prefix-freeness leaves it alone in the specification's
    -- filter; else nothing returns early and the loop collects what the filter keeps
    by_cases hex : ∃ f ∈ files, t.name :: f.path = p
    · obtain ⟨f, hf, rfl⟩ := hex
      rw [partialSizeLoop_listed t.name f files [] hf
        (fun g hg hp => by rw [eq_of_nodup_map hwf.1 hg hf hp]) hwf.2]
      have hfil : files.filter (fun g => startsWith (t.name :: g.path) (t.name :: f.path)) = [f] := by
        apply filter_eq_singleton files _ f (List.Pairwise.of_map _ (fun _ _ h e => h (e ▸ rfl)) hwf.1) hf
        intro g hg
        rw [startsWith_cons_same]
        constructor
        · intro h
          exact eq_of_nodup_map hwf.1 hg hf (hpf f hf g hg h)
        · intro h; subst h; exact startsWith_self _
      simp [hfil]
    · have hfil : ∀ g ∈ files, g.path.filter (· ≠ "") = g.path :=
        fun g hg => filter_ne_empty g.path (hwf.2 g hg)
      rw [partialSizeLoop_noexact t.name p files [] fun g hg h => hex ⟨g, hg, hfil g hg ▸ h⟩,
        List.filter_congr fun g hg => by rw [hfil g hg]]
      simp

theorem freshObs_eq_specObs (t : Torrent) (op : Op) (h : opHyp t op) :
    freshObs t op = specObs t op := by
  cases op with
  | edit o t' => rfl
  | setter o t' => rfl
  | copy o => rfl
  | lookup o p =>
    obtain ⟨hwf, hpf⟩ := h
    simp only [freshObs, specObs, partialSize_eq_spec t hwf hpf p]
  | lookupAll o =>
    simp only [freshObs, specObs]
    congr 1
    apply List.map_congr_left
    intro f hf
    exact partialSize_listed t h f hf
  | props o => rfl
  | check o fs cb raises =>
    simp only [freshObs, specObs, verifyFilesize_eq_spec t h fs cb]

def metasAfter (metas : List Torrent) (ops : List Op) : List Torrent := ops.foldl metaStep metas

theorem runFresh_append (metas : List Torrent) (ops : List Op) (op : Op) :
    runFresh metas (ops ++ [op]) = runFresh metas ops ++
      [match (metasAfter metas ops)[op.target]? with
        | none => Obs.nothing
        | some t => freshObs t op] := by
  induction ops generalizing metas with
  | nil => simp only [runFresh, metasAfter, List.nil_append, List.foldl_nil]; rfl
  | cons a rest ih => simp [runFresh, ih, metasAfter]

/-- every memo entry is what `partial_size` computes from the metainfo `t` -/
def MemoOk (t : Torrent) (m : Memo) : Prop :=
  ∀ p n, memoGet m p = some n → partialSize t p = .ok n

/-- the invariant of an object's memo: consistent with the metainfo if it is in use.  (`memoOn = false`,
    the code, never reads or writes the memo, so nothing is asked of it.) -/
def MemoInv (b : Bool) (t : Torrent) (m : Memo) : Prop := b = true → MemoOk t m

theorem MemoInv.nil (b : Bool) (t : Torrent) : MemoInv b t [] := fun _ p n hp => by simp [memoGet] at hp

/-- a result with the memo threaded through (`x`) is the memo-free result `y`, and the memo it
    leaves meets the invariant -/
def MemoAgrees (b : Bool) (t : Torrent) (x : α × Memo) (y : α) : Prop :=
  x.1 = y ∧ MemoInv b t x.2

theorem partialSizeM_spec (b : Bool) (t : Torrent) (m : Memo) (p : List String)
    (h : MemoInv b t m) : MemoAgrees b t (partialSizeM b t m p) (partialSize t p) := by
  unfold partialSizeM
  cases b with
  | false => exact ⟨rfl, nofun⟩
  | true =>
    have h := h rfl
    cases hs : t.isSingle with
    | true => exact ⟨rfl, fun _ => h⟩
    | false =>
      simp only [Bool.not_false, Bool.and_self, if_true]
      cases hg : memoGet m p with
      | some n => exact ⟨(h p n hg).symm, fun _ => h⟩
      | none =>
        cases hp : partialSize t p with
        | error e => exact ⟨rfl, fun _ => h⟩
        | ok n =>
          refine ⟨rfl, fun _ q k hq => ?_⟩
          simp only [memoGet] at hq
          by_cases hpq : p = q
          · subst hpq
            simp only [if_true, Option.some.injEq] at hq
            subst hq; exact hp
          · simp only [hpq, if_false] at hq
            exact h q k hq

/-- the left side is what each of the three reports in `loopM`'s body is, with `m` the memo so far and
    `rM` the rest of the loop -/
theorem MemoAgrees.report {b : Bool} {t : Torrent} {m : Memo} (hm : MemoInv b t m)
    {rM : (Res × List Call) × Memo} {rL : Res × List Call} (hr : MemoAgrees b t rM rL)
    (cb : Callback) (total i : Nat) (exc : Option Err) :
    MemoAgrees b t
      (match cancel cb total i exc with
        | .error e => ((Res.raised e, []), m)
        | .ok (stop, calls) =>
          if stop then ((.ok false, calls), m) else ((rM.1.1, calls ++ rM.1.2), rM.2))
      (reportL cb total i exc rL) := by
  unfold reportL
  cases cancel cb total i exc with
  | error e => exact ⟨rfl, hm⟩
  | ok p =>
    obtain ⟨stop, calls⟩ := p
    cases stop
    · exact ⟨by simp only [Bool.false_eq_true, if_false]; rw [hr.1], hr.2⟩
    · exact ⟨rfl, hm⟩

theorem loopM_spec (b : Bool) (t : Torrent) (fs : FS) (cb : Callback) (total : Nat) (l : List Listed)
    (i : Nat) (exc : Option Err) (m : Memo) (h : MemoInv b t m) :
    MemoAgrees b t (loopM b t fs cb total i l exc m) (loop t fs cb total i l exc) := by
  induction l generalizing i exc m with
  | nil => exact ⟨rfl, h⟩
  | cons f rest ih =>
    obtain ⟨hA1, hA2⟩ := partialSizeM_spec b t m (t.name :: f.path) h
    rw [loopM, loop_cons_report]
    generalize partialSizeM b t m (t.name :: f.path) = look at hA1 hA2 ⊢
    obtain ⟨r, m'⟩ := look
    subst hA1
    cases pathExists (fs f.path) with
    | false => exact (ih _ _ m h).report h ..
    | true =>
      cases realSize (fs f.path) with
      | error e => exact ⟨rfl, h⟩
      | ok actual =>
        cases partialSize t (t.name :: f.path) with
        | error e => exact ⟨rfl, hA2⟩
        | ok expected =>
          dsimp only
          by_cases hne : actual = expected
          · rw [if_neg (not_not_intro hne), if_neg (not_not_intro hne)]
            exact (ih _ _ m' hA2).report hA2 ..
          · rw [if_pos hne, if_pos hne]
            exact (ih _ _ m' hA2).report hA2 ..

theorem verifyFilesizeM_spec (b : Bool) (t : Torrent) (m : Memo) (fs : FS) (cb : Callback)
    (h : MemoInv b t m) :
    MemoAgrees b t (verifyFilesizeM b t m fs cb) (verifyFilesize t fs cb) := by
  unfold verifyFilesizeM verifyFilesize
  dsimp only
  split
  · exact ⟨rfl, h⟩
  · split
    · cases cancel cb t.listed.length 0 (some Err.isDir) <;> exact ⟨rfl, h⟩
    · exact loopM_spec b t fs cb _ _ 0 none m h

theorem lookupAllM_spec (b : Bool) (t : Torrent) (l : List Listed) (m : Memo) (h : MemoInv b t m) :
    MemoAgrees b t (lookupAllM b t l m) (l.map fun f => partialSize t (t.name :: f.path)) := by
  induction l generalizing m with
  | nil => exact ⟨rfl, h⟩
  | cons f rest ih =>
    obtain ⟨hA1, hA2⟩ := partialSizeM_spec b t m (t.name :: f.path) h
    obtain ⟨i1, i2⟩ := ih _ hA2
    exact ⟨by simp only [lookupAllM, List.map_cons, hA1, i1], i2⟩

def Op.isEdit : Op → Bool
  | .edit .. => true
  | _ => false

theorem map_info_setObj (objs : List Obj) (o : Nat) (ob : Obj) (m : Memo) (h : objs[o]? = some ob) :
    (setObj objs o { ob with memo := m }).map (·.info) = objs.map (·.info) := by
  obtain ⟨hlt, rfl⟩ := List.getElem?_eq_some_iff.mp h
  have : objs[o].info = (objs.map (·.info))[o]'(by simpa using hlt) := by simp
  rw [setObj, List.map_set, this, List.set_getElem_self]

theorem forall_mem_setObj {P : Obj → Prop} {objs : List Obj} (hok : ∀ ob ∈ objs, P ob) (o : Nat)
    {ob : Obj} (hob : P ob) : ∀ x ∈ setObj objs o ob, P x := fun x hx =>
  (List.mem_or_eq_of_mem_set hx).elim (hok x) (· ▸ hob)

/-- `hne`: an edit through the mapping changes the metainfo and leaves the memo as it is, so with the
    memo in use it is the one operation that breaks `MemoInv` -/
theorem step_spec (b : Bool) (objs : List Obj) (op : Op)
    (hok : ∀ ob ∈ objs, MemoInv b ob.info ob.memo) (hne : b = true → op.isEdit = false) :
    (∀ ob ∈ (step b objs op).1, MemoInv b ob.info ob.memo) ∧
    (step b objs op).1.map (·.info) = metaStep (objs.map (·.info)) op ∧
    (step b objs op).2 =
      (match (objs.map (·.info))[op.target]? with
        | none => Obs.nothing
        | some t => freshObs t op) := by
  have hlen : ∀ {o ob}, objs[o]? = some ob → o < objs.length :=
    fun h => (List.getElem?_eq_some_iff.mp h).1
  -- an operation that only looks things up: the memo of its object is the only thing that changes
  have look : ∀ {α : Type} (o : Nat) (ob : Obj) (view : α → Obs) (x : α × Memo) (y : α),
      objs[o]? = some ob → MemoAgrees b ob.info x y →
      (∀ ob' ∈ setObj objs o { ob with memo := x.2 }, MemoInv b ob'.info ob'.memo) ∧
      (setObj objs o { ob with memo := x.2 }).map (·.info) = objs.map (·.info) ∧ view x.1 = view y :=
    fun o ob view x y h hx =>
      ⟨forall_mem_setObj hok o hx.2, map_info_setObj objs o ob x.2 h, congrArg view hx.1⟩
  have inv : ∀ {o : Nat} {ob : Obj}, objs[o]? = some ob → MemoInv b ob.info ob.memo :=
    fun h => hok _ (List.mem_of_getElem? h)
  cases op <;> simp only [step, metaStep, Op.target, List.getElem?_map, List.length_map]
  case edit o t' =>
    cases b with
    | true => cases hne rfl
    | false =>
      cases h : objs[o]? with
      | none => exact ⟨hok, by simp [Nat.not_lt.mpr (List.getElem?_eq_none_iff.mp h)], rfl⟩
      | some ob => exact ⟨fun _ _ => nofun, by simp [hlen h, setObj, List.map_set], rfl⟩
  case setter o t' =>
    cases h : objs[o]? with
    | none => exact ⟨hok, by simp [Nat.not_lt.mpr (List.getElem?_eq_none_iff.mp h)], rfl⟩
    | some ob =>
      exact ⟨forall_mem_setObj hok o (.nil b t'), by simp [hlen h, setObj, List.map_set], rfl⟩
  case copy o =>
    cases h : objs[o]? with
    | none => exact ⟨hok, rfl, rfl⟩
    | some ob =>
      refine ⟨fun x hx => ?_, by simp, rfl⟩
      rcases List.mem_append.mp hx with hx | hx
      · exact hok x hx
      · rw [List.mem_singleton.mp hx]; exact .nil b _
  case lookup o p =>
    cases h : objs[o]? with
    | none => exact ⟨hok, rfl, rfl⟩
    | some ob => exact look o ob .size _ _ h (partialSizeM_spec b ob.info ob.memo p (inv h))
  case lookupAll o =>
    cases h : objs[o]? with
    | none => exact ⟨hok, rfl, rfl⟩
    | some ob => exact look o ob .sizes _ _ h (lookupAllM_spec b ob.info ob.info.listed ob.memo (inv h))
  case props o => cases h : objs[o]? <;> exact ⟨hok, rfl, rfl⟩
  case check o fs cb raises =>
    cases h : objs[o]? with
    | none => exact ⟨hok, rfl, rfl⟩
    | some ob =>
      exact look o ob (fun r => .check (outcome cb raises r) r.2) _ _ h
        (verifyFilesizeM_spec b ob.info ob.memo fs cb (inv h))

theorem run_spec (b : Bool) (objs : List Obj) (ops : List Op)
    (hok : ∀ ob ∈ objs, MemoInv b ob.info ob.memo)
    (hne : b = true → ∀ op ∈ ops, op.isEdit = false) :
    run b objs ops = runFresh (objs.map (·.info)) ops := by
  induction ops generalizing objs with
  | nil => rfl
  | cons op ops ih =>
    obtain ⟨h0, h1, h2⟩ := step_spec b objs op hok (fun hb => hne hb op (List.mem_cons_self ..))
    simp only [run, runFresh]
    rw [ih _ h0 (fun hb x hx => hne hb x (List.mem_cons_of_mem _ hx)), h1, h2]
    rfl

end Torf.FileSize
