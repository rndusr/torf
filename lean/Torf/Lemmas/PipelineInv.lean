/-
  Torf.Lemmas.PipelineInv — the combined invariant of the pipeline for configurations without
  refused thread starts, on every reachable state; consequence: when main has returned, no
  worker thread is running.
-/
import Torf.Lemmas.PipelineJan
namespace Torf.Pipeline

structure Inv (cfg : Cfg) (s : State) : Prop where
  a : InvA cfg s
  b1 : InvB1 cfg s
  b2 : InvB2 s
  b3 : InvB3 cfg s

theorem Inv.init (cfg : Cfg) : Inv cfg (init cfg) :=
  ⟨.init cfg, .init cfg, .init cfg, .init cfg⟩

theorem Inv.step {cfg : Cfg} {s s' : State} {l : Label} (hrf : cfg.refuse = []) (h : Inv cfg s)
    (hs : step cfg s l = some s') : Inv cfg s' := by
  have hst := Step.of_step hrf h.a hs
  exact ⟨h.a.step hs, h.b1.step hst, h.b2.step h.a hst, h.b3.step h.b1 hst⟩

theorem Inv.of_reachable {cfg : Cfg} {s : State} (hrf : cfg.refuse = []) (h : Reachable cfg s) :
    Inv cfg s :=
  Reachable.induction (P := Inv cfg) (Inv.init cfg) (fun _ _ _ _ hp hs => hp.step hrf hs) h

theorem Reachable.inductionS {cfg : Cfg} {P : State → Prop} (hrf : cfg.refuse = [])
    (h0 : P (Pipeline.init cfg)) (hstep : ∀ s s', Inv cfg s → P s → Step cfg s s' → P s')
    {s : State} (h : Reachable cfg s) : P s :=
  Reachable.induction h0
    (fun _ _ _ hr hp hs =>
      have hI := Inv.of_reachable hrf hr
      hstep _ _ hI hp (.of_step hrf hI.a hs)) h

theorem Inv.threads_done {cfg : Cfg} {s : State} (h : Inv cfg s) (ht : terminal s = true) :
    allThreadsDone s = true :=
  h.b3.threads_done h.b1.rjoined ht

end Torf.Pipeline
