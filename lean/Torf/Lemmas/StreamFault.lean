/-
  Torf.Lemmas.StreamFault — facts about the reading loop over a failing read layer
  (`Model/StreamFault.lean`).  Every level of the reader answers `none` as soon as a call below it
  does, so a run that ends with pieces is a sequence of successful `_read_from_fh` calls, and what
  holds of every successful call, and composes, holds of the run (`Lifts`, `iterPieces_lift`):
  * a property of the environment that every successful call maintains holds at the end
    (`iterPieces_inv`): no OSError was raised unless OSErrors are retried, nothing is lost by a
    policy that seeks back, nothing is lost when OSErrors are not retried and MemoryErrors strike
    up front;
  * a run that ends with `lost = 0` read exactly what the fault-free loop of `Model/Stream.lean`
    reads (`iterPieces_lost_zero`).
-/
import Torf.Model.StreamFault
import Torf.Lemmas.Stream
import Torf.Lemmas.Fold
namespace Torf.StreamFault
open Torf

/-- `T env env' A` is a claim about the stretch of a run that leads from `env` to `env'`, `A` saying
    that the stretch answered what the fault-free reader of `Model/Stream.lean` answers.  A family of
    such claims that is closed under these three rules and holds of every successful read holds of
    every run that ends with pieces (`iterPieces_lift`). -/
structure Lifts (T : Env → Env → Prop → Prop) : Prop where
  skip : ∀ env, T env env True
  seq : ∀ {a b c : Env} {A B : Prop}, T a b A → T b c B → T a c (A ∧ B)
  weaken : ∀ {a b : Env} {A B : Prop}, (A → B) → T a b A → T a b B

section Lift
variable {pol : Policy} {T : Env → Env → Prop → Prop} (hT : Lifts T)
  (hread : ∀ (size : Nat) (rest : List α) (env : Env) (p rest' : List α) (env' : Env),
    read pol size rest env = (some p, rest', env') →
      T env env' (p = rest.take size ∧ rest' = rest.drop size))
include hT hread

theorem readLoop_lift (L : Nat) :
    ∀ (fuel : Nat) (rest : List α) (env : Env) (ps : List (List α)) (env' : Env),
      readLoop pol L fuel rest env = (some ps, env') → T env env' (ps = Stream.readLoop L fuel rest) := by
  intro fuel
  induction fuel with
  | zero => intro rest env ps env' h; cases h; exact hT.weaken (fun _ => rfl) (hT.skip _)
  | succ fuel ih =>
    intro rest env ps env' h
    unfold readLoop at h
    unfold Stream.readLoop
    split at h
    · cases h
    · rename_i piece rest1 env1 hr
      have h1 := hread L _ _ _ _ _ hr
      split at h
      · rename_i he
        cases h
        exact hT.weaken (fun hp => by rw [← hp.1, if_pos he]) h1
      · rename_i he
        split at h
        · cases h
        · rename_i ps1 env2 hloop
          cases h
          exact hT.weaken (fun hp => by rw [← hp.1.1, if_neg he, ← hp.1.2, hp.2])
            (hT.seq h1 (ih _ _ _ _ hloop))

theorem iterFromHandle_lift (L : Nat) (prepend content : List α) (env : Env) (ps : List (List α))
    (env' : Env) (h : iterFromHandle pol L prepend content env = (some ps, env')) :
    T env env' (ps = Stream.iterFromHandle L prepend content) := by
  unfold iterFromHandle at h
  unfold Stream.iterFromHandle
  simp only at h ⊢
  split at h
  · rename_i he
    rw [if_pos he]
    split at h
    · cases h
    · rename_i ps1 env1 hloop
      cases h
      exact hT.weaken (fun hps => by rw [hps]) (readLoop_lift hT hread L _ _ _ _ _ hloop)
  · rename_i he
    rw [if_neg he]
    split at h
    · cases h
    · rename_i got rest env1 hr
      split at h
      · cases h
      · rename_i ps1 env2 hloop
        cases h
        exact hT.weaken (fun hp => by rw [hp.2, hp.1.1, hp.1.2])
          (hT.seq (hread _ _ _ _ _ _ hr) (readLoop_lift hT hread L _ _ _ _ _ hloop))

theorem foldl_fileStep_lift (L : Nat) (files : List (List α)) :
    ∀ (st : St α) (to to' : List α × List (List α)), st.1 = some to →
      (files.foldl (fileStep pol L) st).1 = some to' →
        T st.2 (files.foldl (fileStep pol L) st).2 (to' = files.foldl (Stream.fileStep L) to) := by
  induction files with
  | nil =>
    intro st to to' hto h
    exact hT.weaken (fun _ => Option.some.inj (hto.symm.trans h) ▸ rfl) (hT.skip _)
  | cons f fs ih =>
    intro st to to' hto h
    simp only [List.foldl_cons] at h ⊢
    cases hi : iterFromHandle pol L to.1 f st.2 with
    | mk a env1 =>
      have hstep : fileStep pol L st f =
          (a.map fun pieces => Stream.consume L to.2 pieces, env1) := by
        simp only [fileStep, hto, hi]; cases a <;> rfl
      cases a with
      | none =>
        -- once ReadError is raised nothing more happens
        rw [hstep, foldl_absorb _ _ (fun _ => rfl)] at h
        cases h
      | some pieces =>
        rw [hstep] at h ⊢
        exact hT.weaken (fun hp => by rw [hp.2, hp.1]; rfl)
          (hT.seq (iterFromHandle_lift hT hread L _ _ _ _ _ hi) (ih _ _ to' rfl h))

theorem iterPieces_lift (L : Nat) (files : List (List α)) (plan : List Ev) (ps : List (List α))
    (h : (iterPieces pol L files plan).1 = some ps) :
    T { plan := plan } (iterPieces pol L files plan).2 (ps = Stream.iterPieces L files) := by
  unfold iterPieces at h ⊢
  unfold Stream.iterPieces
  simp only at h ⊢
  cases hs : (files.foldl (fileStep pol L) (some ([], []), { plan := plan })).1 with
  | none => simp [hs] at h
  | some to =>
    simp only [hs, Option.some.injEq] at h
    exact hT.weaken (fun hto => by rw [← h, hto])
      (foldl_fileStep_lift hT hread L files _ ([], []) to rfl hs)

end Lift

theorem iterPieces_inv {pol : Policy} (P : Env → Prop)
    (hread : ∀ (size : Nat) (rest : List α) (env : Env) (p rest' : List α) (env' : Env),
      P env → read pol size rest env = (some p, rest', env') → P env')
    (L : Nat) (files : List (List α)) (plan : List Ev) (hP : P { plan := plan })
    (ps : List (List α)) (h : (iterPieces pol L files plan).1 = some ps) :
    P (iterPieces pol L files plan).2 :=
  iterPieces_lift (T := fun a b _ => P a → P b) ⟨fun _ => id, fun f g => g ∘ f, fun _ f => f⟩
    (fun size rest env p rest' env' hr hP => hread size rest env p rest' env' hP hr) L files plan ps h hP

/-- a failed attempt that is read again: `gone` more bytes are lost and the call goes on behind
    them — unless the policy seeks back, then nothing is lost and it goes on where it was -/
theorem readFh_again {sb : Bool} {rest p rest' : List α} {size gone lost lost' : Nat}
    (h : ∃ n, (sb = true → n = 0) ∧ lost' = (lost + if sb = true then 0 else gone) + n ∧
      p = ((if sb = true then rest else rest.drop gone).drop n).take size ∧
      rest' = ((if sb = true then rest else rest.drop gone).drop n).drop size) :
    ∃ n, (sb = true → n = 0) ∧ lost' = lost + n ∧ p = (rest.drop n).take size ∧
      rest' = (rest.drop n).drop size := by
  obtain ⟨m, hm0, hl, hp, hrest⟩ := h
  cases sb
  · refine ⟨gone + m, fun h => (nomatch h), ?_, ?_, ?_⟩
    · rw [hl, Nat.add_assoc]; rfl
    · rw [hp]; exact congrArg _ (List.drop_drop ..)
    · rw [hrest]; exact congrArg _ (List.drop_drop ..)
  · exact ⟨m, hm0, hl, hp, hrest⟩

/-- What a successful `_read_from_fh` returns: the bytes behind the `n` bytes that its failed
    attempts consumed, `n` being what it adds to `lost` (nothing if the policy seeks back). -/
theorem readFh_some (pol : Policy) (size : Nat) :
    ∀ (fuel att : Nat) (rest : List α) (env : Env) (p rest' : List α) (env' : Env),
      readFh pol size fuel att rest env = (some p, rest', env') →
        ∃ n, (pol.seekBack = true → n = 0) ∧ env'.lost = env.lost + n ∧
          p = (rest.drop n).take size ∧ rest' = (rest.drop n).drop size := by
  intro fuel att rest env p rest' env'
  fun_induction readFh pol size fuel att rest env
  case case2 | case3 => intro h; cases h; exact ⟨0, fun _ => rfl, rfl, rfl, rfl⟩  -- the read succeeds
  case case4 | case8 => intro h; rename_i ih; exact readFh_again (ih h)          -- MemoryError / OSError, read again
  all_goals exact fun h => nomatch h                                             -- ReadError, out of fuel

theorem readFh_lost_zero (pol : Policy) (size fuel att : Nat) (rest : List α) (env : Env)
    (p rest' : List α) (env' : Env) (h : readFh pol size fuel att rest env = (some p, rest', env'))
    (hl : env'.lost = 0) : env.lost = 0 ∧ p = rest.take size ∧ rest' = rest.drop size := by
  obtain ⟨n, _, hn, hp, hrest⟩ := readFh_some pol size fuel att rest env p rest' env' h
  obtain ⟨h0, rfl⟩ := Nat.add_eq_zero_iff.1 (hn ▸ hl)
  exact ⟨h0, hp, hrest⟩

/-- **No byte lost.**  Whatever the policy and whatever was raised and retried: a run that does
    not end in ReadError and lost no byte yields exactly what the fault-free reader yields. -/
theorem iterPieces_lost_zero (pol : Policy) (L : Nat) (files : List (List α)) (plan : List Ev)
    (ps : List (List α)) (h : (iterPieces pol L files plan).1 = some ps)
    (hl : (iterPieces pol L files plan).2.lost = 0) : ps = Stream.iterPieces L files :=
  -- backwards along the run: nothing lost at the end of a stretch ⇒ nothing lost before it (a read
  -- only adds to `lost`), and the stretch read what the fault-free reader reads
  (iterPieces_lift (T := fun a b A => b.lost = 0 → a.lost = 0 ∧ A)
    ⟨fun _ h => ⟨h, trivial⟩,
      fun f g h => let ⟨hb, hB⟩ := g h; let ⟨ha, hA⟩ := f hb; ⟨ha, hA, hB⟩,
      fun i f h => (f h).imp id i⟩
    (fun size rest env p rest' env' hr => readFh_lost_zero pol size _ _ rest env p rest' env' hr)
    L files plan ps h hl).2

theorem iterPieces_seekBack {pol : Policy} (hp : pol.seekBack = true) (L : Nat) (files : List (List α))
    (plan : List Ev) (ps : List (List α)) (h : (iterPieces pol L files plan).1 = some ps) :
    (iterPieces pol L files plan).2.lost = 0 :=
  iterPieces_inv (pol := pol) (fun env => env.lost = 0)
    (fun size rest env _ _ _ hP hr => by
      obtain ⟨n, hn, hl, _⟩ := readFh_some pol size _ _ rest env _ _ _ hr
      rw [hl, hn hp, hP])
    L files plan rfl ps h

/-- every MemoryError of the plan strikes before the read consumed anything (the allocation of
    the result fails up front) -/
def memUpFront (plan : List Ev) : Prop := ∀ k, Ev.fail k .mem ∈ plan → k = 0

theorem memUpFront.tail {e : Ev} {plan : List Ev} (h : memUpFront (e :: plan)) : memUpFront plan :=
  fun k hk => h k (List.mem_cons_of_mem _ hk)

theorem readFh_noRetry {pol : Policy} (hp : pol.retryOs = none) (size : Nat) :
    ∀ (fuel att : Nat) (rest : List α) (env : Env) (p rest' : List α) (env' : Env),
      readFh pol size fuel att rest env = (some p, rest', env') →
        env'.osRaised = env.osRaised ∧
          (memUpFront env.plan → memUpFront env'.plan ∧ env'.lost = env.lost) := by
  intro fuel att rest env p rest' env'
  fun_induction readFh pol size fuel att rest env
  case case2 => intro h; cases h; exact ⟨rfl, fun hm => ⟨hm, rfl⟩⟩       -- the plan is exhausted: the read succeeds
  case case3 => intro h; cases h; rename_i hpl; exact ⟨rfl, fun hm => ⟨(hpl ▸ hm).tail, rfl⟩⟩  -- `ok`
  case case4 =>
    -- MemoryError, read again: up front it consumed nothing
    intro h
    rename_i k plan gone _ env1 _ hpl ih
    obtain ⟨a, b⟩ := ih h
    refine ⟨a, fun hm => ?_⟩
    obtain ⟨b1, b2⟩ := b (hpl ▸ hm).tail
    have hk0 : k = 0 := hm k (by rw [hpl]; exact List.mem_cons_self ..)
    exact ⟨b1, b2.trans (by simp [env1, gone, hk0])⟩
  case case8 => rename_i hos _ _ _; cases hp.symm.trans hos   -- an OSError would not be read again
  all_goals exact fun h => nomatch h

theorem iterPieces_os {pol : Policy} (hp : pol.retryOs = none) (L : Nat) (files : List (List α))
    (plan : List Ev) (ps : List (List α)) (h : (iterPieces pol L files plan).1 = some ps) :
    (iterPieces pol L files plan).2.osRaised = 0 :=
  iterPieces_inv (pol := pol) (fun env => env.osRaised = 0)
    (fun size rest env _ _ _ hP hr => (readFh_noRetry hp size _ _ rest env _ _ _ hr).1.trans hP)
    L files plan rfl ps h

theorem iterPieces_memUpFront {pol : Policy} (hp : pol.retryOs = none) (L : Nat) (files : List (List α))
    (plan : List Ev) (hm : memUpFront plan) (ps : List (List α))
    (h : (iterPieces pol L files plan).1 = some ps) : (iterPieces pol L files plan).2.lost = 0 :=
  (iterPieces_inv (pol := pol) (fun env => memUpFront env.plan ∧ env.lost = 0)
    (fun size rest env _ _ _ hP hr => by
      obtain ⟨a, b⟩ := (readFh_noRetry hp size _ _ _ _ _ _ _ hr).2 hP.1
      exact ⟨a, b.trans hP.2⟩)
    L files plan ⟨hm, rfl⟩ ps h).2

end Torf.StreamFault
