/-
  What the loops of both disk models share.  While no bad file has been met the main loop of
  `iter_pieces` is in the state the loop of `Stream.iterPieces` would be in (`GoodSt`,
  `goodSt_fold`); `itemsOf`: the yielded items as a function of the final state.  Then `step2`,
  the two-disk generalisation of `Missing.step` (one disk for the main loop, one for the by-catch
  probe — the only place where `_MissingPieces.__call__` looks at the disk,
  `Missing.missingCall_eq_geom`), and its first bad file (`fold_step2_first_bad`): the classic
  loop is `step2 disk disk`, the loop over the full alphabet of path states is `step2` on the two
  disks a description projects to (hence its namespace, `VerifyFs`).
-/
import Torf.Lemmas.MissingCall
import Torf.Lemmas.Fold
import Torf.Spec.Verify
namespace Torf.Verify
open Torf Torf.Missing

def contentOf (disk : List (Option (List α))) (k : Nat) : List α := (disk.getD k none).getD []

structure GoodSt (st : St α) (tr : List α) (out : List (List α)) : Prop where
  trailing : st.trailing = tr
  out : st.out = out.map dataItem
  skip : st.skip = 0
  bycatch : st.bycatch = []
  failed : st.failed = false

theorem goodSt_step (L : Nat) (sizes : List Nat) (disk : List (Option (List α))) (st : St α)
    (tr : List α) (out : List (List α)) (j : Nat)
    (hg : GoodSt st tr out) (hj : fileError sizes disk j = none) :
    GoodSt (step L sizes disk st j)
      (Stream.fileStep L (tr, out) (contentOf disk j)).1
      (Stream.fileStep L (tr, out) (contentOf disk j)).2 := by
  obtain ⟨h1, h2, h3, h4, h5⟩ := hg
  rw [step_of_good L sizes disk st j h5 (by rw [h4]; rfl) hj, h1, h2, h3, List.drop_zero]
  unfold Stream.fileStep contentOf
  rw [Stream.consume_out L out]
  exact ⟨rfl, by simp, rfl, h4, h5⟩

theorem goodSt_fold (L : Nat) (sizes : List Nat) (disk : List (Option (List α))) (js : List Nat)
    (st : St α) (tr : List α) (out : List (List α))
    (hg : GoodSt st tr out) (hjs : ∀ j ∈ js, fileError sizes disk j = none) :
    GoodSt (js.foldl (step L sizes disk) st)
      ((js.map (contentOf disk)).foldl (Stream.fileStep L) (tr, out)).1
      ((js.map (contentOf disk)).foldl (Stream.fileStep L) (tr, out)).2 := by
  rw [List.foldl_map]
  exact List.foldl_rel (r := fun st (s : List α × List (List α)) => GoodSt st s.1 s.2) hg
    fun j hj st s h => goodSt_step L sizes disk st s.1 s.2 j h (hjs j hj)

theorem goodSt_init : GoodSt ({} : St α) [] [] := ⟨rfl, rfl, rfl, rfl, rfl⟩

theorem fileError_of_allGood (sizes : List Nat) (disk : List (Option (List α)))
    (hgood : AllGood sizes disk = true) : ∀ k < sizes.length, fileError sizes disk k = none := by
  intro k hk
  have := List.all_eq_true.mp hgood k (List.mem_range.mpr hk)
  simpa using this

def itemsOf (st : St α) : Option (List (Item α)) :=
  if st.failed then none
  else if st.trailing.isEmpty then some st.out
  else some (st.out ++ [dataItem st.trailing])

theorem iterItems_eq (L : Nat) (sizes : List Nat) (disk : List (Option (List α))) :
    iterItems L sizes disk = itemsOf ((List.range sizes.length).foldl (step L sizes disk) {}) := rfl

theorem itemsOf_eq_some (st : St α) (items : List (Item α)) (h : itemsOf st = some items) :
    st.failed = false ∧ ∃ tl, items = st.out ++ tl := by
  unfold itemsOf at h
  split at h
  · cases h
  · rename_i hf
    refine ⟨by simpa using hf, ?_⟩
    split at h <;> cases h
    · exact ⟨[], (List.append_nil _).symm⟩
    · exact ⟨_, rfl⟩

-- the hypothesis has the shape of `AllGood` / `AllGoodFs`
theorem exists_first_some {β : Type} (f : Nat → Option β) (n : Nat)
    (h : ((List.range n).all fun k => (f k).isNone) = false) :
    ∃ j0 b, j0 < n ∧ f j0 = some b ∧ ∀ k < j0, f k = none := by
  cases hf : (List.range n).find? fun k => (f k).isSome with
  | none =>
    obtain ⟨j, hj, hb⟩ := List.all_eq_false.mp h
    have := List.find?_range_eq_none.mp hf j (List.mem_range.mp hj)
    cases hfj : f j <;> simp [hfj] at hb this
  | some j0 =>
    obtain ⟨h1, h2, h3⟩ := List.find?_range_eq_some.mp hf
    obtain ⟨b, hb⟩ := Option.isSome_iff_exists.mp h1
    exact ⟨j0, b, List.mem_range.mp h2, hb, fun k hk => by simpa using h3 k hk⟩

def IsExcItem (it : Item α) : Prop := it.excs ≠ [] ∧ it.data = none

end Torf.Verify

namespace Torf.VerifyFs
open Torf Torf.Missing Torf.Verify

variable {α : Type}

/-- `Missing.step` with one disk for the main loop and one for the by-catch probe -/
def step2 (L : Nat) (sizes : List Nat) (dM dB : List (Option (List α))) (st : St α) (j : Nat) :
    St α :=
  if st.failed then st else
  if st.bycatch.contains j then st else
  match fileError sizes dM j with
  | none =>
    let content := ((dM.getD j none).getD []).drop st.skip
    let r := Stream.consume L [] (Stream.iterFromHandle L st.trailing content)
    { st with trailing := r.1, skip := 0, out := st.out ++ r.2.map dataItem }
  | some reason =>
    match missingCall L sizes dB st.seen st.bycatch j reason with
    | none => { st with failed := true }
    | some r =>
      { st with trailing := [], skip := r.skip, seen := r.seen, bycatch := r.bycatch,
                out := st.out ++ r.items }

theorem step2_self (L : Nat) (sizes : List Nat) (d : List (Option (List α))) :
    step2 L sizes d d = step L sizes d := rfl

theorem step2_out_prefix (L : Nat) (sizes : List Nat) (dM dB : List (Option (List α)))
    (st : St α) (j : Nat) : st.out <+: (step2 L sizes dM dB st j).out := by
  unfold step2
  -- every branch leaves `out` alone or appends to it
  repeat' split
  all_goals first | exact List.prefix_refl _ | exact List.prefix_append _ _

theorem step2_bad (L : Nat) (sizes : List Nat) (dM dB : List (Option (List α))) (st : St α)
    (tr : List α) (out : List (List α)) (j : Nat) (kind : ErrKind) (hg : GoodSt st tr out)
    (hj : fileError sizes dM j = some kind) :
    (step2 L sizes dM dB st j).failed = true ∨
    ∃ es rest, (step2 L sizes dM dB st j).out =
      out.map dataItem ++ ⟨none, j, (j, kind) :: es⟩ :: rest := by
  unfold step2
  simp only [hg.failed, hg.bycatch, hg.out, hj, List.contains_nil, Bool.false_eq_true, if_false,
    missingCall_eq_geom]
  cases missingGeom L sizes st.seen j with
  | none => exact Or.inl rfl
  | some g => exact Or.inr ⟨_, _, rfl⟩

theorem step2_failed (L : Nat) (sizes : List Nat) (dM dB : List (Option (List α))) (st : St α)
    (j : Nat) (h : st.failed = true) : step2 L sizes dM dB st j = st := by
  unfold step2; simp [h]

theorem step2_good_eq (L : Nat) (sizes : List Nat) (dM dB : List (Option (List α))) (st : St α)
    (j : Nat) (h : fileError sizes dM j = none) :
    step2 L sizes dM dB st j = step L sizes dM st j := by
  unfold step2 step; simp only [h]

theorem fold_step2_first_bad (L : Nat) (sizes : List Nat) (dM dB : List (Option (List α)))
    (n j0 : Nat) (kind : ErrKind) (hj0 : j0 < n) (hbad : fileError sizes dM j0 = some kind)
    (hfirst : ∀ k < j0, fileError sizes dM k = none) :
    let st := (List.range n).foldl (step2 L sizes dM dB) {}
    st.failed = true ∨
    ∃ (pre : List (List α)) (es : List (Nat × ErrKind)) (rest : List (Item α)),
      st.out = pre.map dataItem ++ ⟨none, j0, (j0, kind) :: es⟩ :: rest := by
  have hgood : ∀ k ∈ List.range j0, fileError sizes dM k = none :=
    fun k hk => hfirst k (List.mem_range.mp hk)
  have hg := goodSt_fold L sizes dM (List.range j0) {} [] [] goodSt_init hgood
  have hpre : (List.range j0).foldl (step2 L sizes dM dB) {} =
      (List.range j0).foldl (step L sizes dM) {} :=
    foldl_congr_mem fun c j hj => step2_good_eq L sizes dM dB c j (hgood j hj)
  simp only [range_split_lt j0 n hj0, List.foldl_append, List.foldl_cons, hpre]
  generalize List.range' (j0 + 1) (n - j0 - 1) = js
  generalize (List.range j0).foldl (step L sizes dM) {} = st0 at hg
  generalize ((List.range j0).map (Verify.contentOf dM)).foldl (Stream.fileStep L) ([], []) = s
    at hg
  rcases step2_bad L sizes dM dB st0 s.1 s.2 j0 kind hg hbad with hf | ⟨es, rest, hout⟩
  · exact Or.inl (by rw [foldl_absorb _ _ (fun j => step2_failed L sizes dM dB _ j hf)]; exact hf)
  · obtain ⟨ext, hext⟩ := foldl_prefix _ (·.out) (step2_out_prefix L sizes dM dB) js
      (step2 L sizes dM dB st0 j0)
    exact Or.inr ⟨s.2, es, rest ++ ext, by rw [← hext, hout]; simp⟩

end Torf.VerifyFs
