/-
  Torf.Lemmas.Create — `_set_files` against `Spec.created` (for Torf/Properties/C15.lean), on two
  tracks.  Exact: on a listing `L.map (mkItem B)` whose entries have real names every stage of
  `_set_files` is a pure list function of the tree entries (`setFiles_listing`, `passes_eq_keep`,
  `store_eq_created`), and their composition is the specification (`setFiles_eq_created`).
  By membership, with no hypothesis: every stored size is that of a file `dropEmpty` let through
  (`setFiles_sizes`), for `C15_no_empty_file`, whose statement assumes nothing about the names.
  Below both: `normpath` / `abspath` / `relativeTo` / `relpath` on real names, and the tests of
  `utils.filter_files` as `Spec.keep`.
-/
import Torf.Lemmas.Sort
import Torf.Spec.Create
import Torf.Lemmas.Basics
namespace Torf.Create
open Torf Torf.Paths

theorem normStep_clean (a : Bool) (st : List String) (c : String) (h : isClean c = true) :
    normStep a st c = c :: st := by
  unfold isClean at h
  simp only [Bool.and_eq_true, bne_iff_ne, ne_eq] at h
  unfold normStep
  simp [h.1.1, h.1.2, h.2]

theorem foldl_normStep_clean (a : Bool) (st : List String) (r : List String)
    (h : r.all isClean = true) : r.foldl (normStep a) st = r.reverse ++ st := by
  induction r generalizing st with
  | nil => rfl
  | cons c r ih =>
    simp only [List.all_cons, Bool.and_eq_true] at h
    rw [List.foldl_cons, normStep_clean a st c h.1, ih _ h.2]
    simp

theorem normpath_append_clean (a : Bool) (xs r : List String) (h : r.all isClean = true) :
    normpath a (xs ++ r) = normpath a xs ++ r := by
  unfold normpath
  rw [List.foldl_append, foldl_normStep_clean a _ r h]
  simp

theorem foldl_normStep_filter (a : Bool) (xs st : List String) :
    (xs.filter fun c => c != "" && c != ".").foldl (normStep a) st = xs.foldl (normStep a) st := by
  induction xs generalizing st with
  | nil => rfl
  | cons c xs ih =>
    rw [List.filter_cons, List.foldl_cons]
    split
    · exact ih _
    · next h =>
      have key : ∀ x y : Bool, ¬ (!x && !y) = true → (x || y) = true := by decide
      rw [show normStep a st c = st from if_pos (key _ _ h)]
      exact ih st

theorem abspath_pathlibNorm (cwd : Comps) (p : PPath) :
    abspath cwd (pathlibNorm p) = abspath cwd p := by
  obtain ⟨a, cs⟩ := p
  cases a
  · show normpath true (cwd ++ cs.filter _) = normpath true (cwd ++ cs)
    unfold normpath
    rw [List.foldl_append, List.foldl_append, foldl_normStep_filter]
  · exact congrArg List.reverse (foldl_normStep_filter true cs [])

theorem abspath_append_clean (cwd : Comps) (a : Bool) (cs r : Comps) (h : r.all isClean = true) :
    abspath cwd ⟨a, cs ++ r⟩ = abspath cwd ⟨a, cs⟩ ++ r := by
  cases a
  · show normpath true (cwd ++ (cs ++ r)) = _
    rw [← List.append_assoc]
    exact normpath_append_clean true _ r h
  · exact normpath_append_clean true cs r h

theorem abspath_listedPath (cwd : Comps) (B : PPath) (f : FileEnt)
    (h : f.rel.all isClean = true) :
    abspath cwd (listedPath B f) = abspath cwd B ++ f.rel :=
  abspath_append_clean cwd B.abs B.comps f.rel h

theorem name_nil : name [] = "" := rfl

theorem name_concat (xs : Comps) (c : String) : name (xs ++ [c]) = c := by
  simp [name]

theorem name_of_getLast? {xs : Comps} {c : String} (h : xs.getLast? = some c) : name xs = c := by
  simp [name, h]

theorem abspath_getLast?_of_clean (cwd : Comps) (B : PPath)
    (h : isClean (name B.comps) = true) :
    (abspath cwd B).getLast? = some (name B.comps) := by
  obtain ⟨a, cs⟩ := B
  rcases List.eq_nil_or_concat cs with rfl | ⟨init, c, rfl⟩
  · cases h
  · rw [List.concat_eq_append, name_concat] at h ⊢
    rw [abspath_append_clean cwd a init [c] (by simp [h]), List.getLast?_concat]

theorem pathlibNorm_clean (a : Bool) (xs : List String) (h : xs.all isClean = true) :
    (pathlibNorm ⟨a, xs⟩).comps = xs := by
  refine List.filter_eq_self.mpr fun c hc => ?_
  have := List.all_eq_true.mp h c hc
  unfold isClean at this
  simp only [Bool.and_eq_true] at this ⊢
  exact this.1

theorem normStep_true_clean (st : List String) (c : String) (h : st.all isClean = true) :
    (normStep true st c).all isClean = true := by
  unfold normStep
  by_cases h1 : (c == "" || c == ".") = true
  · rw [if_pos h1]; exact h
  · rw [if_neg h1]
    by_cases h2 : (c == "..") = true
    · rw [if_pos h2]
      match st with
      | [] => rfl
      | t :: s =>
        have key : ∀ x y z : Bool, (!x && !y && !z) = true → z = false := by decide
        rw [List.all_cons, Bool.and_eq_true] at h
        show (if (t == "..") = true then _ else s).all isClean = true
        rw [key _ _ _ h.1]
        exact h.2
    · have key : ∀ x y z : Bool, ¬ (x || y) = true → ¬ z = true → (!x && !y && !z) = true := by
        decide
      rw [if_neg h2, List.all_cons, h, Bool.and_true]
      exact key _ _ _ h1 h2

theorem normpath_true_clean (xs : List String) : (normpath true xs).all isClean = true := by
  unfold normpath
  rw [List.all_reverse]
  exact List.foldlRecOn (motive := fun st => st.all isClean = true) xs _ List.all_nil
    fun st h c _ => normStep_true_clean st c h

theorem abspath_clean (cwd : Comps) (p : PPath) : (abspath cwd p).all isClean = true :=
  normpath_true_clean _

/-- `Path(name)`, the `basepath` that `_set_files` hands to `filter_files`: the last component as a
    path, `.` for `/` -/
theorem pathlibNorm_name {a : Comps} (h : a.all isClean = true) :
    (pathlibNorm ⟨false, [name a]⟩).comps = a.getLast?.toList := by
  cases hl : a.getLast? with
  | none => rw [List.getLast?_eq_none_iff.mp hl]; rfl
  | some c =>
    rw [name_of_getLast? hl]
    have hc := List.all_eq_true.mp h c (List.mem_of_getLast? hl)
    exact pathlibNorm_clean false [c] (by simp [hc])

theorem pathlibNorm_mem (p : PPath) : ∀ c ∈ (pathlibNorm p).comps, c ≠ "" ∧ c ≠ "." := by
  intro c hc
  simp only [pathlibNorm, List.mem_filter, Bool.and_eq_true, bne_iff_ne, ne_eq] at hc
  exact hc.2

theorem relativeTo_append (a r : Comps) : relativeTo (a ++ r) a = some r := by
  unfold relativeTo
  rw [if_pos (List.isPrefixOf_iff_prefix.mpr (List.prefix_append a r)), List.drop_left]

theorem relativeTo_parent (a r : Comps) :
    relativeTo (a ++ r) (parent a) = some (a.getLast?.toList ++ r) := by
  rcases List.eq_nil_or_concat a with rfl | ⟨p, n, rfl⟩
  · exact relativeTo_append [] r
  · rw [List.concat_eq_append, parent, List.dropLast_concat, List.getLast?_concat,
      List.append_assoc, relativeTo_append]
    rfl

theorem mapM_except_mem {ε α β : Type} {g : α → Except ε β} {l : List α} {r : List β}
    (h : l.mapM g = .ok r) : ∀ y ∈ r, ∃ x ∈ l, g x = .ok y := by
  induction l generalizing r with
  | nil => cases h; exact List.forall_mem_nil _
  | cons a l ih =>
    rw [List.mapM_cons] at h
    obtain ⟨b, ha, h⟩ := bind_ok h
    obtain ⟨bs, hl, h⟩ := bind_ok h
    cases h
    exact List.forall_mem_cons.mpr ⟨⟨a, List.mem_cons_self .., ha⟩, fun y hy =>
      (ih hl y hy).imp fun x hx => ⟨List.mem_cons_of_mem _ hx.1, hx.2⟩⟩

theorem commonPrefix2_cons (n : String) (a b : Comps) :
    commonPrefix2 (n :: a) (n :: b) = n :: commonPrefix2 a b := by
  rw [commonPrefix2, if_pos (beq_self_eq_true n)]

theorem commonPrefix2_prefix (a b : Comps) : commonPrefix2 a b <+: a ∧ commonPrefix2 a b <+: b := by
  induction a generalizing b with
  | nil => exact ⟨List.nil_prefix, List.nil_prefix⟩
  | cons x a ih =>
    cases b with
    | nil => exact ⟨List.nil_prefix, List.nil_prefix⟩
    | cons y b =>
      unfold commonPrefix2
      split
      · next hxy =>
        exact ⟨List.cons_prefix_cons.mpr ⟨rfl, (ih b).1⟩,
          List.cons_prefix_cons.mpr ⟨eq_of_beq hxy, (ih b).2⟩⟩
      · exact ⟨List.nil_prefix, List.nil_prefix⟩

theorem commonPrefix2_self_append (s d : Comps) : commonPrefix2 s (s ++ d) = s := by
  induction s with
  | nil => cases d <;> rfl
  | cons x s ih => rw [List.cons_append, commonPrefix2_cons, ih]

theorem foldl_commonPrefix2_prefix_init (a : Comps) (l : List Comps) :
    l.foldl commonPrefix2 a <+: a := by
  induction l generalizing a with
  | nil => exact List.prefix_refl _
  | cons b l ih => exact (ih _).trans (commonPrefix2_prefix a b).1

/-- This and `foldl_commonPrefix2_cons` describe `commonpath`, the default base of `filterFiles` and
    the base path of `filesSetter`; no proof of C15 uses them, since `_set_files` hands
    `filter_files` its base path. -/
theorem foldl_commonPrefix2_prefix_mem (a : Comps) (l : List Comps) :
    ∀ b ∈ l, l.foldl commonPrefix2 a <+: b := by
  induction l generalizing a with
  | nil => intro b hb; cases hb
  | cons c l ih =>
    intro b hb
    rcases List.mem_cons.mp hb with rfl | hb
    · exact (foldl_commonPrefix2_prefix_init _ l).trans (commonPrefix2_prefix a b).2
    · exact ih _ b hb

theorem foldl_commonPrefix2_cons (n : String) (a : Comps) (l : List Comps) :
    (l.map (n :: ·)).foldl commonPrefix2 (n :: a) = n :: l.foldl commonPrefix2 a := by
  induction l generalizing a with
  | nil => rfl
  | cons b l ih => simp only [List.map_cons, List.foldl_cons, commonPrefix2_cons, ih]

theorem isHidden_append (a b : Comps) : isHidden (a ++ b) = (isHidden a || isHidden b) :=
  List.any_append

theorem isHidden_prefix {a b : Comps} (h : a <+: b) (hb : isHidden b = false) :
    isHidden a = false := by
  obtain ⟨d, rfl⟩ := h
  rw [isHidden_append] at hb
  exact (Bool.or_eq_false_iff.mp hb).1

theorem relpath_below (cwd : Comps) (base d : Comps)
    (hd : d.all isClean = true) : relpath cwd (base ++ d) base = d := by
  unfold relpath
  rw [← List.append_assoc, normpath_append_clean true _ d hd]
  dsimp only
  rw [commonPrefix2_self_append]
  simp

theorem append_lt_append_iff (p a b : List String) : p ++ a < p ++ b ↔ a < b := by
  induction p with
  | nil => rfl
  | cons c p ih => rw [List.cons_append, List.cons_append, List.cons_lt_cons_self, ih]

theorem append_le_append_iff (p a b : List String) : p ++ a ≤ p ++ b ↔ a ≤ b := by
  rw [← List.not_lt, ← List.not_lt, append_lt_append_iff]

def leRel (a b : FileEnt) : Bool := decide (a.rel ≤ b.rel)

theorem kept_eq (o : Oracles) (st : Settings) (t : Tree) :
    Spec.kept o st t = sortBy leRel (t.files.filter (Spec.keep o st t.name)) := rfl

theorem leRel_trans (a b c : FileEnt) : leRel a b = true → leRel b c = true → leRel a c = true := by
  simp only [leRel, decide_eq_true_eq]; exact List.le_trans

theorem leRel_total (a b : FileEnt) : leRel a b = true ∨ leRel b a = true := by
  simp only [leRel, decide_eq_true_eq]; exact List.le_total _ _

theorem leRel_antisymm (a b : FileEnt) : leRel a b = true → leRel b a = true → a.rel = b.rel := by
  simp only [leRel, decide_eq_true_eq]; exact List.le_antisymm

theorem isExcluded_eq (o : Oracles) (st : Settings) (p : String) :
    isExcluded o st p = (Spec.excluded o st p && !Spec.included o st p) := by
  have key : ∀ a b c d : Bool, (if a = true then false else if b = true then false
      else if c = true then true else if d = true then true else false)
      = ((c || d) && !(a || b)) := by decide
  exact key ..

theorem withBaseStr_top (n : String) (rel : Comps) :
    withBaseStr [n] (n :: rel) = joinSlash (n :: rel) := by
  simp [withBaseStr, parent, strOf]

/-- `[n]` is the `basepath` that `_set_files` hands to `filter_files` (since 1742c6d), `n :: f.rel`
    what its getter `relpath_with_parent` answers for a file of the tree -/
theorem filterKeep_eq_keep (o : Oracles) (st : Settings) (cwd : Comps)
    (n : String) (f : FileEnt) (hrel : f.rel.all isClean = true) :
    (filterKeep o st cwd [n] (n :: f.rel) && f.size != 0) = Spec.keep o st n f := by
  have hrp : relpath cwd (n :: f.rel) [n] = f.rel := relpath_below cwd [n] f.rel hrel
  have key : ∀ a c e s : Bool,
      ((if a = true then false else if (c && !e) = true then false else true) && s)
        = (!a && s && !(c && !e)) := by decide
  unfold filterKeep Spec.keep Spec.patPath
  simp only [hrp, withBaseStr_top, isExcluded_eq]
  exact key ..

theorem keep_iff (o : Oracles) (st : Settings) (n : String) (f : FileEnt) :
    Spec.keep o st n f = true ↔
      (isHidden f.rel = false ∧ f.size ≠ 0 ∧
        ¬ (Spec.excluded o st (Spec.patPath n f) = true ∧
           Spec.included o st (Spec.patPath n f) = false)) := by
  have key : ∀ a s c e : Bool,
      (!a && s && !(c && !e)) = true ↔ a = false ∧ s = true ∧ ¬ (c = true ∧ e = false) := by decide
  rw [← bne_iff_ne]
  exact key ..

/-- `Spec.created` as a function of the name and the kept files -/
def createdOf (n : String) (k : List FileEnt) : Created :=
  if k.isEmpty then .empty
  else if k.length == 1 && k.head?.map (·.rel) == some [] then
    .single n ((k.head?.map (·.size)).getD 0)
  else .multi n (k.map fun f => (f.rel, f.size))

theorem created_eq (o : Oracles) (st : Settings) (t : Tree) :
    Spec.created o st t = createdOf t.name (Spec.kept o st t) := rfl

theorem createdOf_cases {motive : List FileEnt → Created → Prop} (n : String) (k : List FileEnt)
    (nil : motive [] .empty) (file : ∀ s, motive [⟨[], s⟩] (.single n s))
    (multi : k ≠ [] → (∀ s, k ≠ [⟨[], s⟩]) → motive k (.multi n (k.map fun f => (f.rel, f.size)))) :
    motive k (createdOf n k) := by
  match k with
  | [] => exact nil
  | [⟨[], s⟩] => exact file s
  | [⟨_ :: _, _⟩] => exact multi (List.cons_ne_nil _ _) nofun
  | _ :: _ :: _ => exact multi (List.cons_ne_nil _ _) nofun

theorem createdOf_multi (n : String) {k : List FileEnt} (h : k ≠ [])
    (h' : ∀ s, k ≠ [⟨[], s⟩]) : createdOf n k = .multi n (k.map fun f => (f.rel, f.size)) :=
  -- `h` and `h'` go through the motive, where they refute the first two cases
  createdOf_cases (motive := fun k c => k ≠ [] → (∀ s, k ≠ [⟨[], s⟩]) →
      c = .multi n (k.map fun f => (f.rel, f.size)))
    n k (fun h => absurd rfl h) (fun s _ h' => absurd rfl (h' s)) (fun _ _ _ _ => rfl) h h'

/-- the `File` that `list_files` makes of tree entry `f` -/
def mkItem (B : PPath) (f : FileEnt) : Item := ⟨listedPath B f, f⟩

theorem listFiles_eq (cf : String → String) (B : PPath) (order : List FileEnt) :
    ∃ L : List FileEnt, L.Perm order ∧ listFiles cf B order = L.map (mkItem B) := by
  unfold listFiles
  split
  · exact ⟨order, List.Perm.refl _, rfl⟩
  · exact ⟨_, sortBy_perm _ _, sortBy_map _ _ (mkItem B) order fun _ _ _ _ => rfl⟩

theorem withGetter_listing (cwd : Comps) (B : PPath) (L : List FileEnt)
    (hL : ∀ f ∈ L, f.rel.all isClean = true) :
    withGetter cwd (abspath cwd B) (L.map (mkItem B))
      = .ok (L.map fun f => (mkItem B f, (abspath cwd B).getLast?.toList ++ f.rel)) := by
  refine List.mapM_map.trans (mapM_eq_pure fun f hf => ?_)
  show (match relativeTo (abspath cwd (listedPath B f)) _ with | some r => _ | none => _) = _
  rw [abspath_listedPath cwd B f (hL f hf), relativeTo_parent]

theorem filesInfo_listing (cwd : Comps) (B : PPath) (L : List FileEnt)
    (hL : ∀ f ∈ L, f.rel.all isClean = true) :
    filesInfo cwd (abspath cwd B) (L.map (mkItem B)) = .ok (L.map fun f => (f.rel, f.size)) := by
  refine List.mapM_map.trans (mapM_eq_pure fun f hf => ?_)
  show (match relativeTo (abspath cwd (listedPath B f)) _ with | some r => _ | none => _) = _
  rw [abspath_listedPath cwd B f (hL f hf), relativeTo_append]
  rfl

theorem filterFiles_some (o : Oracles) (st : Settings) (cwd : Comps) (s : String)
    (i : α → β) (g : α → Comps) (L : List α) :
    (filterFiles o st cwd (some s) (L.map fun x => (i x, g x))).map (·.1)
      = (L.filter fun x => filterKeep o st cwd (pathlibNorm ⟨false, [s]⟩).comps (g x)).map i := by
  show ((L.map _).filter fun it : β × Comps =>
    filterKeep o st cwd (pathlibNorm ⟨false, [s]⟩).comps it.2).map _ = _
  -- with the test a variable the closing `rfl` does not look into `filterKeep`
  generalize filterKeep o st cwd _ = p
  rw [List.filter_map, List.map_map]
  rfl

/-- the final sort (`sorted(filepaths)` on pathlib paths) is the sort on relative paths -/
theorem sortBy_items (B : PPath) (K : List FileEnt) :
    sortBy (fun a b : Item => decide (a.path.comps ≤ b.path.comps)) (K.map (mkItem B))
      = (sortBy leRel K).map (mkItem B) :=
  sortBy_map _ _ _ K fun _ _ _ _ => decide_eq_decide.mpr (append_le_append_iff _ _ _)

theorem listedPath_eq_self (B : PPath) (f : FileEnt) : listedPath B f = B ↔ f.rel = [] := by
  obtain ⟨a, cs⟩ := B
  simp [listedPath]

theorem kept_eq_of_perm (o : Oracles) (st : Settings) (t : Tree) (L : List FileEnt)
    (hperm : L.Perm t.files) (hnodup : (t.files.map (·.rel)).Nodup) :
    Spec.kept o st t = sortBy leRel (L.filter (Spec.keep o st t.name)) :=
  (kept_eq o st t).trans <| sortBy_eq_of_perm leRel _ _ (hperm.symm.filter _) leRel_trans leRel_total
    fun x hx y hy h1 h2 => eq_of_nodup_map hnodup (List.mem_filter.mp hx).1 (List.mem_filter.mp hy).1
      (leRel_antisymm x y h1 h2)

theorem dirName_eq (cwd : Comps) (B : PPath) (hB : ∀ c ∈ B.comps, c ≠ "" ∧ c ≠ ".") :
    dirName cwd B = name (abspath cwd B) := by
  unfold dirName
  split
  · rfl
  · next h =>
    obtain ⟨a, cs⟩ := B
    rcases List.eq_nil_or_concat cs with rfl | ⟨init, c, rfl⟩
    · -- no component: `.` ends in a dot, so this is `/`
      cases a
      · exact absurd rfl h
      · rfl
    · -- the last spelled component does not end in a dot, so it is a real name, which `abspath` keeps
      rw [List.concat_eq_append] at h hB ⊢
      unfold endsWithDot at h
      rw [name_concat] at h
      obtain ⟨h1, h2⟩ := hB c (List.mem_append_right _ (List.mem_singleton_self c))
      have h3 : c ≠ ".." := fun e => h (by rw [e]; exact Bool.or_true _)
      exact (name_of_getLast? (abspath_getLast?_of_clean cwd _
        (by simp [name_concat, isClean, h1, h2, h3]))).symm

/-- what `_set_files` does with the files `filter_files` has kept -/
def store (cwd : Comps) (B : PPath) (kept : List Item) : Except Err Created :=
  if kept.isEmpty || kept.all (·.ent.size == 0) then
    .ok .empty
  else if kept.length == 1 && kept.head?.map (·.path) == some B then
    .ok (.single (name B.comps) ((kept.head?.map (·.ent.size)).getD 0))
  else
    (filesInfo cwd (abspath cwd B)
      (sortBy (fun a b => decide (a.path.comps ≤ b.path.comps)) kept)).map (.multi (dirName cwd B))

theorem setFiles_eq (o : Oracles) (st : Settings) (cwd : Comps) (ex : PPath → Bool)
    (files : List Item) (B : PPath) :
    setFiles o st cwd ex files B =
      (withGetter cwd (abspath cwd B) (dropEmpty ex files)).bind fun items =>
        store cwd B ((filterFiles o st cwd (some (name (abspath cwd B))) items).map (·.1)) := rfl

/-- what tree entry `f`, listed below `B`, has to pass in `_set_files`: the two tests of
    `filter_files` on `name/rel` (`name` = last component of `abspath B`) and the empty-file rule -/
def passes (o : Oracles) (st : Settings) (cwd : Comps) (ex : PPath → Bool) (B : PPath)
    (f : FileEnt) : Bool :=
  filterKeep o st cwd (abspath cwd B).getLast?.toList ((abspath cwd B).getLast?.toList ++ f.rel) &&
    !(f.size == 0 && ex (listedPath B f))

theorem setFiles_listing (o : Oracles) (st : Settings) (cwd : Comps) (ex : PPath → Bool)
    (B : PPath) (L : List FileEnt) (hL : ∀ f ∈ L, f.rel.all isClean = true) :
    setFiles o st cwd ex (L.map (mkItem B)) B
      = store cwd B ((L.filter (passes o st cwd ex B)).map (mkItem B)) := by
  have hd : dropEmpty ex (L.map (mkItem B))
      = (L.filter fun f => !(f.size == 0 && ex (listedPath B f))).map (mkItem B) := List.filter_map
  rw [setFiles_eq, hd, withGetter_listing cwd B _ fun f hf => hL f (List.mem_filter.mp hf).1]
  show store cwd B _ = _
  rw [filterFiles_some, pathlibNorm_name (abspath_clean cwd B), List.filter_filter]
  rfl

theorem passes_eq_keep (o : Oracles) (st : Settings) (cwd : Comps) (ex : PPath → Bool) (B : PPath)
    (n : String) (f : FileEnt) (hn : (abspath cwd B).getLast? = some n)
    (hrel : f.rel.all isClean = true) (hex : ex (listedPath B f) = true) :
    passes o st cwd ex B f = Spec.keep o st n f := by
  unfold passes
  rw [hn, hex, Bool.and_true, ← filterKeep_eq_keep o st cwd n f hrel]
  rfl

theorem store_ok (cwd : Comps) (B : PPath) (K : List FileEnt)
    (hK : ∀ f ∈ K, f.rel.all isClean = true) : ∃ c, store cwd B (K.map (mkItem B)) = .ok c := by
  unfold store
  rw [sortBy_items, filesInfo_listing cwd B _ fun f hf => hK f (mem_sortBy.mp hf)]
  split
  · exact ⟨_, rfl⟩
  · split <;> exact ⟨_, rfl⟩

theorem store_eq_created (cwd : Comps) (B : PPath) (n : String) (K : List FileEnt)
    (hB : ∀ c ∈ B.comps, c ≠ "" ∧ c ≠ ".") (hn : (abspath cwd B).getLast? = some n)
    (hrel : ∀ f ∈ K, f.rel.all isClean = true) (hsz : ∀ f ∈ K, (f.size == 0) = false)
    (hfile : ∀ f ∈ K, f.rel = [] → name B.comps = n) :
    store cwd B (K.map (mkItem B)) = .ok (createdOf n (sortBy leRel K)) := by
  unfold store
  rw [sortBy_items, filesInfo_listing cwd B _ fun f hf => hrel f (mem_sortBy.mp hf),
    dirName_eq cwd B hB, name_of_getLast? hn]
  match K with
  | [] => rfl
  | [f] =>
    have hs := hsz f (List.mem_singleton_self f)
    by_cases hr : f.rel = []
    · simp [mkItem, hs, listedPath_eq_self, hr, hfile f (List.mem_singleton_self f) hr, createdOf,
        sortBy, insertBy]
    · simp [mkItem, hs, listedPath_eq_self, hr, createdOf, sortBy, insertBy, Except.map]
  | f :: g :: K =>
    -- sorting keeps the length, so `createdOf` is in its multi-file case
    have hlen := length_sortBy leRel (f :: g :: K)
    rw [createdOf_multi n (fun e => by rw [e] at hlen; cases hlen)
      fun s e => by rw [e] at hlen; cases hlen]
    simp [mkItem, hsz f (List.mem_cons_self ..), Except.map]

theorem cleanTree_elim {t : Tree} (h : Spec.cleanTree t = true) :
    isClean t.name = true ∧ (∀ f ∈ t.files, f.rel.all isClean = true) ∧
      (t.files.map (·.rel)).Nodup := by
  simp only [Spec.cleanTree, Bool.and_eq_true, decide_eq_true_eq] at h
  exact ⟨h.1.1.1, List.all_eq_true.mp h.1.1.2, h.1.2⟩

theorem setFiles_eq_created (o : Oracles) (st : Settings) (cwd : Comps)
    (ex : PPath → Bool) (B : PPath) (t : Tree) (L : List FileEnt)
    (hperm : L.Perm t.files) (hB : ∀ c ∈ B.comps, c ≠ "" ∧ c ≠ ".")
    (hct : Spec.cleanTree t = true) (hn : (abspath cwd B).getLast? = some t.name)
    (hsp : (!t.files.any (·.rel.isEmpty) || isClean (name B.comps)) = true)
    (hex : ∀ f ∈ t.files, ex (listedPath B f) = true) :
    setFiles o st cwd ex (L.map (mkItem B)) B = .ok (Spec.created o st t) := by
  obtain ⟨_, hrel, hnodup⟩ := cleanTree_elim hct
  have hm : ∀ f ∈ L, f ∈ t.files := fun f hf => hperm.mem_iff.mp hf
  have hK : ∀ f ∈ L.filter (Spec.keep o st t.name), f ∈ t.files ∧ (f.size == 0) = false :=
    fun f hf => ⟨hm f (List.mem_filter.mp hf).1, by
      simpa using ((keep_iff o st t.name f).mp (List.mem_filter.mp hf).2).2.1⟩
  rw [setFiles_listing o st cwd ex B L fun f hf => hrel f (hm f hf),
    List.filter_congr fun f hf =>
      passes_eq_keep o st cwd ex B t.name f hn (hrel f (hm f hf)) (hex f (hm f hf)),
    created_eq, kept_eq_of_perm o st t L hperm hnodup]
  refine store_eq_created cwd B t.name _ hB hn (fun f hf => hrel f (hK f hf).1)
    (fun f hf => (hK f hf).2) fun f hf hr => ?_
  -- the tree is one file: its spelling ends in a real name, which `abspath` keeps
  rw [List.any_eq_true.mpr ⟨f, (hK f hf).1, by simp [hr]⟩] at hsp
  exact Option.some.inj ((abspath_getLast?_of_clean cwd B (by simpa using hsp)).symm.trans hn)

theorem pathSetter_listing (o : Oracles) (st : Settings) (env : Env) :
    ∃ L : List FileEnt, L.Perm env.order ∧ pathSetter o st env =
      setFiles o st env.cwd env.pathExists (L.map (mkItem (pathlibNorm env.spelling)))
        (pathlibNorm env.spelling) := by
  obtain ⟨L, hL, hlist⟩ := listFiles_eq o.cf (pathlibNorm env.spelling) env.order
  exact ⟨L, hL, by unfold pathSetter; simp only [hlist]⟩

/-- the `(path, size)` entries of a result (`[]` path for the single-file form) -/
def filesOf : Except Err Created → List (Comps × Nat)
  | .ok .empty => []
  | .ok (.single _ s) => [([], s)]
  | .ok (.multi _ fs) => fs
  | .error _ => []

theorem filesOf_created (o : Oracles) (st : Settings) (t : Tree) :
    filesOf (.ok (Spec.created o st t)) = (Spec.kept o st t).map fun f => (f.rel, f.size) :=
  createdOf_cases (motive := fun k c => filesOf (.ok c) = k.map fun f => (f.rel, f.size))
    t.name _ rfl (fun _ => rfl) fun _ _ => rfl

theorem mem_kept (o : Oracles) (st : Settings) (t : Tree) (f : FileEnt) :
    f ∈ Spec.kept o st t ↔ f ∈ t.files ∧ Spec.keep o st t.name f = true := by
  rw [kept_eq, mem_sortBy, List.mem_filter]

theorem mem_filesOf_created (o : Oracles) (st : Settings) (t : Tree) (f : FileEnt) :
    (f.rel, f.size) ∈ filesOf (.ok (Spec.created o st t)) ↔ f ∈ Spec.kept o st t := by
  rw [filesOf_created]
  exact mem_map_inj (a := f) fun a b e => by cases a; cases b; cases e; rfl

theorem withGetter_mem {cwd absB : Comps} {files : List Item} {items : List (Item × Comps)}
    (h : withGetter cwd absB files = .ok items) : ∀ it ∈ items, it.1 ∈ files := by
  intro it hit
  obtain ⟨x, hx, hg⟩ := mapM_except_mem h it hit
  split at hg
  · cases hg; exact hx
  · cases hg

theorem filesInfo_mem {cwd absB : Comps} {sorted : List Item} {info : List (Comps × Nat)}
    (h : filesInfo cwd absB sorted = .ok info) : ∀ e ∈ info, ∃ f ∈ sorted, e.2 = f.ent.size := by
  intro e he
  obtain ⟨x, hx, hg⟩ := mapM_except_mem h e he
  split at hg
  · cases hg; exact ⟨x, hx, rfl⟩
  · cases hg

theorem store_sizes (cwd : Comps) (B : PPath) (kept : List Item) :
    ∀ e ∈ filesOf (store cwd B kept), ∃ k ∈ kept, e.2 = k.ent.size := by
  unfold store
  split
  · nofun
  · split
    · next h =>
      match kept, h with
      | [], h => cases h
      | k :: _, _ =>
        intro e he
        cases List.mem_singleton.mp he
        exact ⟨k, List.mem_cons_self .., rfl⟩
    · cases hi : filesInfo cwd (abspath cwd B)
          (sortBy (fun a b => decide (a.path.comps ≤ b.path.comps)) kept) with
      | error _ => nofun
      | ok info =>
        intro e he
        obtain ⟨f, hf, hsz⟩ := filesInfo_mem hi e he
        exact ⟨f, mem_sortBy.mp hf, hsz⟩

theorem setFiles_sizes (o : Oracles) (st : Settings) (cwd : Comps) (ex : PPath → Bool)
    (files : List Item) (B : PPath) :
    ∀ e ∈ filesOf (setFiles o st cwd ex files B), ∃ f ∈ dropEmpty ex files, e.2 = f.ent.size := by
  rw [setFiles_eq]
  cases hw : withGetter cwd (abspath cwd B) (dropEmpty ex files) with
  | error _ => nofun
  | ok items =>
    intro e he
    obtain ⟨k, hk, hsz⟩ := store_sizes cwd B _ e he
    obtain ⟨it, hit, rfl⟩ := List.mem_map.mp hk
    exact ⟨it.1, withGetter_mem hw it (List.mem_filter.mp hit).1, hsz⟩

theorem any_glob_cf (o : Oracles) (l : List String) (p : String) :
    l.any (fun g => o.glob (o.cf p) (o.cf g)) = (l.map o.cf).any (fun g => o.glob (o.cf p) g) := by
  rw [List.any_map]; rfl

theorem fsExists_listed (fs : FS) (cwd : Comps) (sp : PPath) (f : FileEnt)
    (hrel : f.rel.all isClean = true)
    (hc : fs.contains (abspath cwd sp ++ f.rel, some f.size) = true) :
    fsExists fs cwd (listedPath (pathlibNorm sp) f) = true := by
  show fs.any (fun e => (abspath cwd (listedPath (pathlibNorm sp) f)).isPrefixOf e.1) = true
  rw [abspath_listedPath cwd _ f hrel, abspath_pathlibNorm]
  exact List.any_eq_true.mpr ⟨_, List.contains_iff_mem.mp hc,
    List.isPrefixOf_iff_prefix.mpr (List.prefix_refl _)⟩

end Torf.Create
