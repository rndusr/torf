/-
  Lemmas for C10: the loop invariant of `iter_pieces` on a damaged disk.

  `Core L sizes disk m st`: `st` is the loop state and `m` the next file the main loop works on
  (the files between the loop index and `m` are by-catch files, which it passes over: `Inv` in
  Lemmas/Missing).  `Core` has three parts: `Emitted` (what the items yielded so far are), the
  carry equation (the bytes held back are the expected stream from the last piece boundary to the
  read position) and `Head` (where the read position is: arithmetic on file positions only);
  besides them it records that no file from `m` on is a by-catch file.  Each part has its lemmas
  for the two branches of the loop body: `Emitted.append` for both; `carry_read` after a good file
  (after a bad one nothing is carried); `Head.good`, `Head.bad`.  `Core.bad` puts the parts
  together for a bad file, for any outcome of `_MissingPieces.__call__` that meets `Resume`; for a
  good file `Core.step_good` (Lemmas/MissingStep) does it in place.
-/
import Torf.Lemmas.MissingCall
namespace Torf.Missing
open Torf

def badUpTo (sizes : List Nat) (disk : List (Option (List α))) (m : Nat) : List (Nat × ErrKind) :=
  (List.range m).filterMap fun k => (fileError sizes disk k).map fun e => (k, e)

theorem badUpTo_length (sizes : List Nat) (disk : List (Option (List α))) :
    badUpTo sizes disk sizes.length = badFiles sizes disk := rfl

theorem badUpTo_add (sizes : List Nat) (disk : List (Option (List α))) (m d : Nat) :
    badUpTo sizes disk (m + d) =
      badUpTo sizes disk m ++ bycatchExcs sizes disk (List.range' m d) := by
  -- `badUpTo` is `bycatchExcs` of a range
  show bycatchExcs sizes disk (List.range (m + d)) = bycatchExcs sizes disk (List.range m) ++ _
  rw [← bycatchExcs_append, List.range_eq_range', List.range_eq_range', ← List.range'_append_1,
    Nat.zero_add]

-- The lemmas named after a part of the invariant (`Emitted.…`, `Head.…`, `Core.…`, and `Inv.…` in
-- Lemmas/Missing) are applied to that hypothesis by dot notation and take what their hypotheses
-- determine implicitly; every other lemma takes its arguments explicitly, as in the files before.
variable {α : Type} {L : Nat} {sizes : List Nat} {disk : List (Option (List α))} {m q s : Nat}
  {seen : List Nat} {st : St α}

/-- `out` is right for the files before `m`: item `i` carries what the specification wants for
    piece `i`, data items carry nothing else, the bad files before `m` are reported in order -/
structure Emitted (L : Nat) (sizes : List Nat) (disk : List (Option (List α))) (m : Nat)
    (out : List (Item α)) : Prop where
  data : out.map (·.data) = (specData L sizes disk).take out.length
  clean : ∀ it ∈ out, it.data.isSome → it.excs = [] ∧ it.file = 0
  rep : reported out = badUpTo sizes disk m

/-- The main loop is at the head of file `m` (not a by-catch file; `m = sizes.length` at the end)
    with `q` items out and `s` bytes to skip: `Core` has it with `q = st.out.length`,
    `s = st.skip`; it is stated on numbers because both branches move them by arithmetic alone.
    `s > 0` bytes of `m` belong to the last item, a blanked piece, and are skipped; that piece is
    then the first piece of `m` and is in `seen`. -/
structure Head (L : Nat) (sizes : List Nat) (disk : List (Option (List α))) (m q s : Nat)
    (seen : List Nat) : Prop where
  -- not at the end: after a bad last file the stream ends inside the blanked piece `q - 1`
  le : m < sizes.length → q * L ≤ pos sizes m + s
  lt : pos sizes m + s < q * L + L
  skiplt : s < L
  skipc : 0 < s → m < sizes.length ∧ s < sizeOf sizes m ∧ q * L = pos sizes m + s ∧
    ∃ q0, q = q0 + 1 ∧ q0 ∈ seen
  badpast : ∀ k, k < m → fileError sizes disk k ≠ none → pos sizes (k + 1) ≤ q * L
  seenlt : ∀ x ∈ seen, x < q

/-- Invariant of the main loop, stated for the next file `m` that is processed by the loop
    (= not a by-catch file, as no file from `m` on is); `m = sizes.length` once no such file is left. -/
structure Core (L : Nat) (sizes : List Nat) (disk : List (Option (List α))) (m : Nat)
    (st : St α) : Prop where
  nofail : st.failed = false
  emitted : Emitted L sizes disk m st.out
  carry : st.trailing.map some =
    ((expStream sizes disk).take (pos sizes m + st.skip)).drop (st.out.length * L)
  head : Head L sizes disk m st.out.length st.skip st.seen
  fresh : ∀ k, m ≤ k → k ∉ st.bycatch

theorem Emitted.append {out : List (Item α)} (h : Emitted L sizes disk m out) (d : Nat) (xs : List (Item α))
    (hdata : xs.map (·.data) = ((specData L sizes disk).drop out.length).take xs.length)
    (hclean : ∀ it ∈ xs, it.data.isSome → it.excs = [] ∧ it.file = 0)
    (hrep : reported xs = bycatchExcs sizes disk (List.range' m d)) :
    Emitted L sizes disk (m + d) (out ++ xs) where
  data := by rw [List.map_append, h.data, hdata, List.length_append, List.take_add]
  clean := fun it hit => (List.mem_append.mp hit).elim (h.clean it) (hclean it)
  rep := by rw [reported_append, h.rep, hrep, badUpTo_add]

theorem carry_read (sizes : List Nat) (disk : List (Option (List α))) (m : Nat)
    (hm : m < sizes.length) (hgood : fileError sizes disk m = none) (tr : List α) (a s : Nat)
    (ha : a ≤ pos sizes m + s) (hs : s ≤ sizeOf sizes m)
    (htr : tr.map some = ((expStream sizes disk).take (pos sizes m + s)).drop a) :
    (tr ++ ((disk.getD m none).getD []).drop s).map some =
      ((expStream sizes disk).take (pos sizes (m + 1))).drop a := by
  have hps := pos_succ sizes m
  rw [slice_add _ a (pos sizes m + s) _ ha (by omega) (pos_le_length_expStream sizes disk (m + 1)),
    List.map_append, htr, List.map_drop,
    ← (expFile_good sizes disk m hgood).1, drop_take_pos_succ sizes disk m hm]

theorem Head.init (hL : 0 < L) : Head L sizes disk 0 0 0 [] where
  le := fun _ => by rw [pos_zero]; exact Nat.le_of_eq (Nat.zero_mul L)
  lt := by rw [pos_zero]; omega
  skiplt := hL
  skipc := fun h => absurd h (Nat.lt_irrefl 0)
  badpast := fun k hk => absurd hk (Nat.not_lt_zero k)
  seenlt := fun _ h => nomatch h

theorem Head.skip_le (h : Head L sizes disk m q s seen) : s ≤ sizeOf sizes m :=
  (Nat.eq_zero_or_pos s).elim (fun h0 => h0 ▸ Nat.zero_le _) fun h0 => Nat.le_of_lt (h.skipc h0).2.1

theorem Head.good (h : Head L sizes disk m q s seen) (hgood : fileError sizes disk m = none)
    (c : Nat) (hc1 : (q + c) * L ≤ pos sizes (m + 1)) (hc2 : pos sizes (m + 1) < (q + c) * L + L) :
    Head L sizes disk (m + 1) (q + c) 0 seen where
  le := fun _ => hc1
  lt := hc2
  skiplt := Nat.lt_of_le_of_lt (Nat.zero_le s) h.skiplt
  skipc := fun h0 => absurd h0 (Nat.lt_irrefl 0)
  badpast := fun k hk hbad =>
    have hkm : k < m := (Nat.lt_succ_iff_lt_or_eq.mp hk).resolve_right fun e => hbad (e ▸ hgood)
    Nat.le_trans (h.badpast k hkm hbad) (Nat.mul_le_mul_right L (Nat.le_add_right q c))
  seenlt := fun x hx => Nat.lt_of_lt_of_le (h.seenlt x hx) (Nat.le_add_right q c)

/-- The piece indexes left after Python's remove-while-iterating are exactly the pieces not yet
    emitted, `q, …, q + k`, where `q + k` is the last piece of file `m`: only the first index of
    the file can have been seen, so the index that the removal skips is never a seen one. -/
theorem Head.pieces (h : Head L sizes disk m q s seen) (hL : 0 < L) (hm : m < sizes.length)
    (hS : 0 < sizeOf sizes m) :
    ∃ k, pyRemoveSeen seen (pieceIndexesOfFile L sizes m) = List.range' q (k + 1) ∧
      (q + k) * L < pos sizes (m + 1) ∧ pos sizes (m + 1) ≤ (q + k) * L + L := by
  -- nothing from `q` on has been seen
  have hnot : ∀ (a n : Nat), q ≤ a → ∀ z ∈ List.range' a n, z ∉ seen := fun a n ha z hz hzs =>
    Nat.lt_irrefl z (Nat.lt_of_lt_of_le (h.seenlt z hzs)
      (Nat.le_trans ha (List.mem_range'_1.mp hz).1))
  rcases Nat.eq_zero_or_pos s with rfl | h0
  · -- the file begins in piece `q`
    obtain ⟨k, hpi, hb⟩ := pieceIndexesOfFile_eq L hL sizes m hS q (h.le hm) h.lt
    exact ⟨k, by rw [hpi]; exact pyRemoveSeen_of_not_mem seen _ (hnot q _ (Nat.le_refl q)), hb⟩
  · -- the file begins in piece `q - 1`, which was blanked with the previous bad file
    obtain ⟨_, hsS, heq, q0, rfl, hseen⟩ := h.skipc h0
    have hsl := h.skiplt
    have hmul : (q0 + 1) * L = q0 * L + L := Nat.succ_mul _ _
    obtain ⟨k, hpi, hb1, hb2⟩ := pieceIndexesOfFile_eq L hL sizes m hS q0 (by omega) (by omega)
    -- the file has bytes beyond the skipped ones, so it has a second piece
    obtain ⟨k0, rfl⟩ : ∃ k0, k = k0 + 1 := by
      cases k with
      | zero =>
        have hb2' : pos sizes (m + 1) ≤ q0 * L + L := hb2
        rw [pos_succ] at hb2'
        omega
      | succ k0 => exact ⟨k0, rfl⟩
    refine ⟨k0, ?_, Nat.add_right_comm q0 1 k0 ▸ hb1, Nat.add_right_comm q0 1 k0 ▸ hb2⟩
    rw [hpi, List.range'_succ, List.range'_succ,
      pyRemoveSeen_head_seen seen q0 (q0 + 1) _ hseen (hnot _ _ (Nat.le_add_right _ 1)),
      ← List.range'_succ]

theorem Head.bad (h : Head L sizes disk m q s seen) {k m' sk : Nat}
    (hr : Resume L sizes (q + k) m' sk) :
    Head L sizes disk m' (q + k + 1) sk (seen ++ List.range' q (k + 1)) where
  le := fun hlt => Nat.le_of_eq (hr.eq hlt).symm
  lt := Nat.lt_of_le_of_lt hr.le
    (Nat.lt_add_of_pos_right (Nat.lt_of_le_of_lt (Nat.zero_le s) h.skiplt))
  skiplt := (Nat.eq_zero_or_pos sk).elim
    (fun h0 => h0 ▸ Nat.lt_of_le_of_lt (Nat.zero_le s) h.skiplt) fun h0 => (hr.inside h0).2.2
  skipc := fun h0 =>
    have ⟨h1, h2, _⟩ := hr.inside h0
    ⟨h1, h2, (hr.eq h1).symm, q + k, rfl, List.mem_append_right _
      (List.mem_range'_1.mpr ⟨Nat.le_add_right q k, Nat.lt_succ_self (q + k)⟩)⟩
  -- every file before `m'` ends before the read position
  badpast := fun _ hk _ =>
    Nat.le_trans (pos_mono sizes hk) (Nat.le_trans (Nat.le_add_right _ sk) hr.le)
  seenlt := fun x hx => (List.mem_append.mp hx).elim
    (fun hx => Nat.lt_of_lt_of_le (h.seenlt x hx) (Nat.le_add_right q (k + 1)))
    fun hx => (List.mem_range'_1.mp hx).2

theorem Core.init (hL : 0 < L) : Core L sizes disk 0 ({} : St α) :=
  ⟨rfl, ⟨rfl, fun _ h => (nomatch h), rfl⟩, by simp [pos_zero], Head.init hL, fun _ _ h => nomatch h⟩

theorem Core.not_bycatch (hc : Core L sizes disk m st) : st.bycatch.contains m = false :=
  Bool.eq_false_iff.mpr fun h => hc.fresh m (Nat.le_refl m) (List.contains_iff_mem.mp h)

/-- The state after the bad file `m`: `k + 1` blanked pieces yielded, the files `by_` probed with
    the last of them, reading resumed at offset `sk` of file `m + 1 + c`.  `by_` may hold more than
    the files `m + 1, …, m + c` if the others report nothing (`hbex`): files before `m` that reach
    into the last piece are probed too, and are good. -/
theorem Core.bad (hc : Core L sizes disk m st) (hL : 0 < L) (hm : m < sizes.length)
    {reason : ErrKind} (hbad : fileError sizes disk m = some reason) (hS : 0 < sizeOf sizes m)
    {k : Nat} (hb1 : (st.out.length + k) * L < pos sizes (m + 1)) {c sk : Nat} {by_ : List Nat}
    (hbex : bycatchExcs sizes disk by_ = bycatchExcs sizes disk (List.range' (m + 1) c))
    (hby : ∀ x ∈ by_, x < m + 1 + c)
    (hr : Resume L sizes (st.out.length + k) (m + 1 + c) sk) :
    Core L sizes disk (m + 1 + c)
      { st with trailing := [], skip := sk,
                seen := st.seen ++ List.range' st.out.length (k + 1),
                bycatch := st.bycatch ++ by_,
                out := st.out ++ mkItems m reason (k + 1) (bycatchExcs sizes disk by_) } := by
  have hlen : (st.out ++ mkItems (α := α) m reason (k + 1) (bycatchExcs sizes disk by_)).length =
      st.out.length + k + 1 := by
    rw [List.length_append, mkItems_length]
    rfl
  refine ⟨hc.nofail, ?_, ?_, ?_, fun x hx hmem => (List.mem_append.mp hmem).elim
    (hc.fresh x (Nat.le_trans (Nat.le_trans (Nat.le_succ m) (Nat.le_add_right _ c)) hx))
    fun h => Nat.lt_irrefl x (Nat.lt_of_lt_of_le (hby x h) hx)⟩
  · show Emitted L sizes disk (m + 1 + c) _
    rw [Nat.add_right_comm m 1 c]
    refine hc.emitted.append (c + 1) _ ?_ ?_ ?_
    · rw [mkItems_data, mkItems_length]
      exact (specData_blank L hL sizes disk m hm (by rw [hbad]; nofun) hS _ k
        (Nat.lt_of_le_of_lt (Nat.le_add_right _ _) hc.head.lt) hb1).symm
    · intro it hit hsome
      rw [mkItems_data_none _ _ _ _ it hit] at hsome
      cases hsome
    · rw [mkItems_reported, hbex, List.range'_succ]
      show _ = List.filterMap _ (m :: _)
      rw [List.filterMap_cons, hbad]
      rfl
  · show List.map some [] = ((expStream sizes disk).take (pos sizes (m + 1 + c) + sk)).drop _
    rw [hlen, List.drop_eq_nil_of_le]
    · rfl
    · rw [List.length_take]
      exact Nat.le_trans (Nat.min_le_left _ _) hr.le
  · show Head L sizes disk (m + 1 + c) _ sk _
    rw [hlen]
    exact hc.head.bad hr

end Torf.Missing
