/-
  Lemmas about the conversion half (Torf.Model.Export): the only error the converters and the
  bencoder can produce is ValueError, hence every failure of convert()/dump(validate=False) is a
  MetainfoError.
-/
import Torf.Model.Validate
import Torf.Lemmas.Basics
namespace Torf.Export
open Torf

theorem encodeValue_err (v : PyVal) (e : ErrKind) (h : encodeValue v = .error e) : e = .value := by
  unfold encodeValue at h
  split at h
  · exact absurd h (by simp)
  · simpa [eq_comm] using h

theorem encodeValue_ok {v : PyVal} {u : BVal} (h : encodeValue v = .ok u) :
    Codec.encodeValue v = .ok u := by
  unfold encodeValue at h
  split at h
  · rename_i b hb; simp only [Except.ok.injEq] at h; rw [hb, h]
  · exact absurd h (by simp)

theorem ser_err (v : BVal) (e : ErrKind) (h : ser v = .error e) : e = .value := by
  unfold ser at h
  split at h
  · exact absurd h (by simp)
  · simpa [eq_comm] using h

theorem ser_ok {v : BVal} {bs : Bytes} (h : ser v = .ok bs) :
    Bencode.serOk v = true ∧ bs = Bencode.ser v := by
  unfold ser at h
  split at h
  · rename_i hs; simp only [Except.ok.injEq] at h; exact ⟨hs, h.symm⟩
  · exact absurd h (by simp)

theorem valueToMetainfo_err {α : Type} (x : Except ErrKind α) (hx : ∀ e, x = .error e → e = .value)
    (e : ErrKind) (h : valueToMetainfo x = .error e) : e = .metainfo := by
  cases x with
  | ok a => simp [valueToMetainfo] at h
  | error e' =>
    have := hx e' rfl
    subst this
    simpa [valueToMetainfo, eq_comm] using h

theorem valueToMetainfo_ok {α : Type} {x : Except ErrKind α} {a : α}
    (h : valueToMetainfo x = .ok a) : x = .ok a := by
  unfold valueToMetainfo at h
  split at h
  · exact absurd h (by simp)
  · exact h

/-- `bencode.encode(encode_dict(d))` wrapped in `except ValueError` only raises MetainfoError -/
theorem convertSer_err (kvs : List (PyVal × PyVal)) (e : ErrKind)
    (h : valueToMetainfo (do ser (← encodeDict kvs)) = .error e) : e = .metainfo := by
  apply valueToMetainfo_err _ _ e h
  intro e' h'
  rcases bind_err h' with h1 | ⟨a, _, h2⟩
  · exact encodeValue_err _ e' h1
  · exact ser_err a e' h2

end Torf.Export
