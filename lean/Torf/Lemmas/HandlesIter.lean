/-
  Lemmas about `Torf.Model.HandlesIter` (the code: `pop = false`): every descriptor the object
  has open sits in its table (`opened = tbl.map hid`), whatever iterators are suspended; the table
  never exceeds `cap + 1`; `close()` empties both.  StopIteration leaves the generator finished
  (`pull_stop`), which is what lets consecutive `next()` calls compose (`C19_iter_next_compose`).
-/
import Torf.Model.HandlesIter
namespace Torf.HandlesIter
open Torf

/-- the generator does not hold a handle outside the table -/
def Gen.plain : Gen α → Bool
  | .inFile _ _ _ _ held => held.isNone
  | _ => true

/-- the invariant of the code: every open descriptor is in the table (in `open()` order), no
    generator holds one privately, and the table is within its bound -/
structure Good (cap : Nat) (o : Obj α) : Prop where
  desc : o.opened = o.tbl.map (·.hid)
  gens : ∀ g ∈ o.gens, g.plain = true
  bound : o.tbl.length ≤ cap + 1

theorem good_empty (cap : Nat) : Good cap ({} : Obj α) :=
  ⟨rfl, by simp, by simp⟩

/-- closing the first `n` handles of a table, oldest first, leaves the descriptors of the rest -/
theorem foldl_erase_take (l : List Nat) (n : Nat) :
    (l.take n).foldl (fun acc h => acc.erase h) l = l.drop n := by
  induction n generalizing l with
  | zero => rfl
  | succ n ih =>
    cases l with
    | nil => rfl
    | cons h t => rw [List.take_succ_cons, List.foldl_cons, List.erase_cons_head, ih, List.drop_succ_cons]

/-- The eviction loop, given fuel for the whole table, keeps the last `cap` entries — as in the other
    handle models (`Torf.evict_eq_drop`) — and closes the descriptors of the others.  No invariant is
    assumed, so this also describes the variant `pop`, whose tables do not list every descriptor. -/
theorem evict_eq (cap : Nat) (o : Obj α) (fuel : Nat) (hf : o.tbl.length ≤ fuel) :
    evict cap o fuel = { o with
      tbl := o.tbl.drop (o.tbl.length - cap),
      opened := ((o.tbl.take (o.tbl.length - cap)).map (·.hid)).foldl (fun acc h => acc.erase h)
        o.opened } := by
  obtain ⟨tbl, opened, next, gens⟩ := o
  induction fuel generalizing tbl opened with
  | zero =>
    cases List.eq_nil_of_length_eq_zero (Nat.le_zero.1 hf)
    simp [evict]
  | succ n ih =>
    unfold evict
    cases tbl with
    | nil => simp
    | cons e t =>
      simp only [List.length_cons] at hf ⊢
      split
      · rename_i hc
        rw [ih _ _ (Nat.le_of_succ_le_succ hf), Nat.succ_sub (Nat.le_of_lt_succ hc)]
        rfl
      · rename_i hc
        rw [Nat.sub_eq_zero_of_le (Nat.le_of_not_lt hc)]
        rfl

theorem getOpenFile_good (cap : Nat) (o : Obj α) (j : Nat) (h : Good cap o) :
    Good cap (getOpenFile cap o j).2 := by
  unfold getOpenFile
  split
  · exact h
  · rw [evict_eq cap o _ (Nat.le_refl _)]
    refine ⟨?_, h.gens, ?_⟩
    · simp only [List.map_append, List.map_cons, List.map_nil]
      rw [h.desc, List.map_take, foldl_erase_take, List.map_drop]
    · simp only [List.length_append, List.length_drop, List.length_cons, List.length_nil]
      omega

theorem seek_good (cap : Nat) (o : Obj α) (hid off : Nat) (h : Good cap o) : Good cap (seek o hid off) := by
  refine ⟨?_, h.gens, ?_⟩
  · simp only [seek, List.map_map]
    rw [h.desc]
    apply List.map_congr_left
    intro e _
    simp only [Function.comp]
    split <;> rfl
  · simp only [seek, List.length_map]; exact h.bound

theorem read_good (cap : Nat) (files : List (List α)) (o : Obj α) (hid n : Nat) (h : Good cap o)
    (bs : List α) (o' : Obj α) (hr : read files o hid n = some (bs, o')) : Good cap o' := by
  unfold read at hr
  split at hr
  · simp at hr
  · simp only [Option.some.injEq, Prod.mk.injEq] at hr
    rw [← hr.2]
    exact seek_good cap o hid _ h

theorem closeAll_eq (snap : Table) (o : Obj α) :
    closeAll snap o = { o with
      tbl := o.tbl.filter (fun x => snap.all (fun e => x.file ≠ e.file)),
      opened := (snap.map (·.hid)).foldl (fun acc h => acc.erase h) o.opened } := by
  induction snap generalizing o with
  | nil => simp [closeAll, List.filter_eq_self.2]
  | cons e snap ih =>
    rw [closeAll, ih]
    simp only [List.filter_filter, List.all_cons, List.map_cons, List.foldl_cons, Bool.and_comm]

theorem foldl_erase_self (l : List Nat) : l.foldl (fun acc h => acc.erase h) l = [] := by
  simpa using foldl_erase_take l l.length

theorem closeAll_good (cap : Nat) (o : Obj α) (h : Good cap o) :
    (closeAll o.tbl o).tbl = [] ∧ (closeAll o.tbl o).opened = [] ∧ Good cap (closeAll o.tbl o) := by
  rw [closeAll_eq]
  have ht : o.tbl.filter (fun x => o.tbl.all (fun e => x.file ≠ e.file)) = [] :=
    List.filter_eq_nil_iff.2 fun x hx hall => by simpa using List.all_eq_true.1 hall x hx
  have ho : (o.tbl.map (·.hid)).foldl (fun acc h => acc.erase h) o.opened = [] := by
    rw [h.desc]; exact foldl_erase_self _
  exact ⟨ht, ho, ⟨by rw [ho, ht]; rfl, h.gens, by rw [ht]; simp⟩⟩

theorem readG_good (cap : Nat) (files : List (List α)) (o : Obj α) (j hid n : Nat) (h : Good cap o)
    (bs : List α) (o' : Obj α) (held : Option Nat)
    (hr : readG files o j hid none n = some (bs, o', held)) : Good cap o' ∧ held = none := by
  simp only [readG] at hr
  cases hrd : read files o hid n with
  | none => rw [hrd] at hr; cases hr
  | some r =>
    rw [hrd] at hr
    cases hr
    exact ⟨read_good cap files o hid n h r.1 r.2 hrd, rfl⟩

theorem go_good (c : Cfg α δ) (hp : c.pop = false) (fuel : Nat) (ctl : Ctl α) (o : Obj α)
    (hc : match ctl with | .enter .. => True | .reading _ _ _ held => held = none)
    (h : Good c.cap o) :
    (go c fuel ctl o).2.1.plain = true ∧ Good c.cap (go c fuel ctl o).2.2 := by
  -- `hc`: a frame inside a file holds no handle of its own; with `pop = false` nothing is hidden on
  -- entering a file, and a read that starts with `held = none` hands `none` back (`readG_good`)
  induction fuel generalizing ctl o with
  | zero => exact ⟨rfl, h⟩
  | succ n ih =>
    cases ctl with
    | enter j tr =>
      unfold go
      split
      · split <;> exact ⟨rfl, h⟩
      · have h1 := seek_good c.cap _ (getOpenFile c.cap o j).1 0 (getOpenFile_good c.cap o j h)
        simp only [hp, Bool.false_eq_true, ↓reduceIte]
        split
        · exact ih _ _ rfl h1
        · split
          · exact ⟨rfl, h1⟩
          · rename_i bs o2 held hr
            obtain ⟨h2, rfl⟩ := readG_good c.cap c.files _ _ _ _ h1 _ _ _ hr
            split
            · exact ⟨rfl, h2⟩
            · exact ih _ _ rfl h2
    | reading j hid tr held =>
      cases hc
      unfold go
      split
      · exact ⟨rfl, h⟩
      · rename_i bs o1 held1 hr
        obtain ⟨h2, rfl⟩ := readG_good c.cap c.files _ _ _ _ h _ _ _ hr
        split
        · exact ih _ _ trivial h2
        · split
          · exact ⟨rfl, h2⟩
          · exact ih _ _ rfl h2

theorem pull_good (c : Cfg α δ) (hp : c.pop = false) (g : Gen α) (o : Obj α) (hg : g.plain = true)
    (h : Good c.cap o) : (pull c g o).2.1.plain = true ∧ Good c.cap (pull c g o).2.2 := by
  cases g with
  | fresh => exact go_good c hp _ _ o trivial h
  | inFile j hid off tr held =>
    have : held = none := by simpa [Gen.plain] using hg
    subst this
    exact go_good c hp _ _ o rfl h
  | atEnd => exact ⟨rfl, h⟩
  | finished => exact ⟨rfl, h⟩

theorem pulls_good (c : Cfg α δ) (hp : c.pop = false) (k : Nat) (g : Gen α) (o : Obj α)
    (acc : List (List α)) (hg : g.plain = true) (h : Good c.cap o) :
    (pulls c k g o acc).2.1.plain = true ∧ Good c.cap (pulls c k g o acc).2.2 := by
  induction k generalizing g o acc with
  | zero => exact ⟨hg, h⟩
  | succ k ih =>
    have hpl := pull_good c hp g o hg h
    unfold pulls
    rcases hr : pull c g o with ⟨r, g1, o1⟩
    rw [hr] at hpl
    cases r with
    | item p => exact ih g1 o1 _ hpl.1 hpl.2
    | stop => exact hpl
    | closedFile => exact hpl
    | fuel => exact hpl

theorem dropGen_plain (g : Gen α) (o : Obj α) (hg : g.plain = true) : dropGen g o = o := by
  cases g with
  | inFile j hid off tr held =>
    have : held = none := by simpa [Gen.plain] using hg
    subst this
    rfl
  | _ => rfl

theorem getPieceLoop_good (c : Cfg α δ) (rel : List Nat) (seekTo n : Nat) (piece : List α) (o : Obj α)
    (h : Good c.cap o) : Good c.cap (getPieceLoop c rel seekTo n piece o).2 := by
  induction rel generalizing seekTo n piece o with
  | nil => exact h
  | cons j js ih =>
    unfold getPieceLoop
    have h1 := seek_good c.cap _ (getOpenFile c.cap o j).1 seekTo (getOpenFile_good c.cap o j h)
    simp only
    cases hr : read c.files (seek (getOpenFile c.cap o j).2 (getOpenFile c.cap o j).1 seekTo)
        (getOpenFile c.cap o j).1 n with
    | none => exact h1
    | some r => exact ih _ _ _ _ (read_good c.cap c.files _ _ _ h1 r.1 r.2 (by rw [hr]))

theorem getPiece_good (c : Cfg α δ) (i : Int) (o : Obj α) (h : Good c.cap o) :
    Good c.cap (getPiece c i o).2 := by
  unfold getPiece
  simp only
  split
  · exact h
  · split
    · exact h
    · have := getPieceLoop_good c ‹_› ‹_› c.L [] o h
      split
      · exact this
      · split <;> exact this

theorem set_gens_good (cap : Nat) (o : Obj α) (s : Nat) (g : Gen α) (hg : g.plain = true) (h : Good cap o) :
    Good cap { o with gens := o.gens.set s g } :=
  ⟨h.desc, fun x hx => by
    rcases List.mem_or_eq_of_mem_set hx with hx | rfl
    · exact h.gens x hx
    · exact hg, h.bound⟩

theorem run_good [BEq δ] (c : Cfg α δ) (hp : c.pop = false) (op : Op) (o : Obj α) (h : Good c.cap o) :
    Good c.cap (run c op o).obj := by
  cases op with
  | iterFull | iterAbandon k =>
    simp only [run]
    rw [dropGen_plain _ _ (pulls_good c hp _ .fresh o [] rfl h).1]
    exact (pulls_good c hp _ .fresh o [] rfl h).2
  | getPiece i | getPieceHash i =>
    have := getPiece_good c i o h
    simp only [run]
    rcases hr : getPiece c i o with ⟨x, u⟩
    rw [hr] at this
    cases x <;> exact this
  | verifyPiece i =>
    have := getPiece_good c i o h
    simp only [run]
    cases Handles.pyIndex c.stored i with
    | none => exact h
    | some st =>
      simp only
      rcases hr : getPiece c i o with ⟨x, u⟩
      rw [hr] at this
      cases x <;> exact this
  | close | ctxExit => exact (closeAll_good c.cap o h).2.2
  | iterStart =>
    exact ⟨h.desc, fun g hg => by
      rcases List.mem_append.1 hg with hg | hg
      · exact h.gens g hg
      · simp only [List.mem_singleton] at hg; subst hg; rfl, h.bound⟩
  | iterNext s k =>
    simp only [run]
    cases hg : o.gens[s]? with
    | none => exact h
    | some g =>
      have hgp := h.gens g (List.mem_of_getElem? hg)
      have := pulls_good c hp k g o [] hgp h
      exact set_gens_good c.cap _ s _ this.1 this.2
  | iterDrop s =>
    simp only [run]
    cases hg : o.gens[s]? with
    | none => exact h
    | some g =>
      have hgp := h.gens g (List.mem_of_getElem? hg)
      simp only [dropGen_plain g o hgp]
      exact set_gens_good c.cap o s .finished rfl h

theorem runAll_good [BEq δ] (c : Cfg α δ) (hp : c.pop = false) (ops : List Op) (o : Obj α)
    (h : Good c.cap o) : ∀ r ∈ runAll c ops o, r.nopen = r.ntbl ∧ r.nopen ≤ c.cap + 1 := by
  induction ops generalizing o with
  | nil => simp [runAll]
  | cons op ops ih =>
    have hg := run_good c hp op o h
    intro r hr
    simp only [runAll, List.mem_cons] at hr
    rcases hr with rfl | hr
    · have : (run c op o).obj.opened.length = (run c op o).obj.tbl.length := by
        rw [hg.desc, List.length_map]
      exact ⟨this, by rw [this]; exact hg.bound⟩
    · exact ih _ hg r hr

/-- the object after a history -/
def after [BEq δ] (c : Cfg α δ) : List Op → Obj α → Obj α
  | [], o => o
  | op :: ops, o => after c ops (run c op o).obj

theorem after_good [BEq δ] (c : Cfg α δ) (hp : c.pop = false) (ops : List Op) (o : Obj α)
    (h : Good c.cap o) : Good c.cap (after c ops o) := by
  induction ops generalizing o with
  | nil => exact h
  | cons op ops ih => exact ih _ (run_good c hp op o h)

theorem pulls_finished (c : Cfg α δ) (k : Nat) (o : Obj α) (acc : List (List α)) :
    pulls c k .finished o acc = (.ok acc, .finished, o) := by
  cases k with
  | zero => rfl
  | succ k => simp [pulls, pull]

theorem go_stop (c : Cfg α δ) (fuel : Nat) (ctl : Ctl α) (o : Obj α) :
    (go c fuel ctl o).1 = .stop → (go c fuel ctl o).2.1 = .finished := by
  -- along the branches of `go`: StopIteration comes from one place only
  fun_induction go c fuel ctl o
  case case2 => exact fun _ => rfl                     -- the end of the loop over the files, nothing carried
  case case4 | case7 | case9 | case11 => assumption    -- the frame runs on
  all_goals exact fun h => nomatch h                   -- an item, an exception, out of fuel

theorem pull_stop (c : Cfg α δ) (g : Gen α) (o : Obj α) (h : (pull c g o).1 = .stop) :
    (pull c g o).2.1 = .finished := by
  cases g with
  | fresh => exact go_stop c _ _ o h
  | inFile j hid off tr held => exact go_stop c _ _ o h
  | atEnd => rfl
  | finished => rfl

/-- resuming an iterator that is suspended inside a file whose handle has been closed (evicted, or
    `close()`): ValueError, the iterator is dead, nothing is opened or changed -/
theorem pull_closed (c : Cfg α δ) (j hid off : Nat) (tr : List α) (o : Obj α)
    (h : findHid o.tbl hid = none) :
    pull c (.inFile j hid off tr none) o = (.closedFile, .finished, o) := by
  simp only [pull, Cfg.fuel]
  unfold go
  simp [readG, read, h, unhide]

end Torf.HandlesIter
