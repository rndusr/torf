/-
  Torf.Lemmas.PipelineHF — invariant of the pipeline with hasher faults (`Model/PipelineHF.lean`).

  C03's conservation invariant (`InvA`: the pieces in flight are a permutation of the pieces
  pushed) does not survive a hasher that dies with a piece in its hands.  What C01 needs is weaker
  and loss-tolerant: no piece index occurs twice among the pieces in flight and the lost ones, and
  all of them have been pushed (`InvL`).  It is preserved by every base step (any configuration:
  callback, read fault, refused starts; hashers and janitor only permute the pieces in flight) and
  by the fault step.  The steps of the wrapped system are a step of the base system, main leaving
  by a dead hasher's exception, or a hasher's death (`StepX`); the facts about reachable states
  are proved by cases on that relation.  Without hasher faults the base component of every run is
  the run of the base system under the same labels (`runX_base_of_noHashFault`).
-/
import Torf.Model.PipelineHF
import Torf.Lemmas.PipelineCons
import Torf.Lemmas.PipelineC04Result
namespace Torf.PipelineHF
open Torf.Pipeline

theorem callsSha1_eq (cfg : Cfg) (k : Nat) : callsSha1 cfg k = isHashed cfg k := rfl

/-- every piece index in flight is below this bound -/
def pushedBound (cfg : Cfg) : RPc → Nat
  | .notStarted | .refused | .begin_ => 0
  | .putting k => k
  | .closing | .done => cfg.items.length

structure InvL (cfg : Cfg) (s : State) (lost : List Nat) : Prop where
  cnt : ∀ k, (inFlight s ++ lost).count k ≤ 1
  lt : ∀ k, 0 < (inFlight s ++ lost).count k → k < pushedBound cfg s.rpc
  put : ∀ k, s.rpc = .putting k → k < cfg.items.length
  coll : s.collected = s.seen.filter (isHashed cfg)
  rfresh : s.main = .startReaderChk ∨ s.main = .startReader → s.rpc = .notStarted
  ret : ∀ c, s.main = .finished (.returned c) → c = s.collected

theorem InvL.init (cfg : Cfg) : InvL cfg (Pipeline.init cfg) [] := by
  have h : inFlight (Pipeline.init cfg) = [] := by
    rw [inFlight_def]; simp [Pipeline.init, hk]
  refine ⟨by simp [h], by simp [h], by simp [Pipeline.init], by simp [Pipeline.init],
    by simp [Pipeline.init], by simp [Pipeline.init]⟩

theorem InvL.nodup {cfg : Cfg} {s : State} {lost : List Nat} (h : InvL cfg s lost) :
    (inFlight s ++ lost).Nodup :=
  List.nodup_iff_count.2 h.cnt

theorem InvL.mem_lt {cfg : Cfg} {s : State} {lost : List Nat} (h : InvL cfg s lost) {k : Nat}
    (hk : k ∈ inFlight s ++ lost) : k < pushedBound cfg s.rpc :=
  h.lt k (List.count_pos_iff.2 hk)

/-- What the invariant reads.  Of the pieces in flight and the lost ones only how often each index
    occurs, and a count may only fall (`hc`); the reader's bound may only rise (`hb`); the other four
    clauses are supplied for `s'`. -/
theorem InvL.congr {cfg : Cfg} {s s' : State} {lost lost' : List Nat} (h : InvL cfg s lost)
    (hc : ∀ k, (inFlight s' ++ lost').count k ≤ (inFlight s ++ lost).count k)
    (hb : pushedBound cfg s.rpc ≤ pushedBound cfg s'.rpc)
    (hput : ∀ k, s'.rpc = .putting k → k < cfg.items.length)
    (hcoll : s'.collected = s'.seen.filter (isHashed cfg))
    (hrf : s'.main = .startReaderChk ∨ s'.main = .startReader → s'.rpc = .notStarted)
    (hret : ∀ c, s'.main = .finished (.returned c) → c = s'.collected) : InvL cfg s' lost' := by
  refine ⟨fun k => Nat.le_trans (hc k) (h.cnt k), fun k hk => ?_, hput, hcoll, hrf, hret⟩
  have := h.lt k (Nat.lt_of_lt_of_le hk (hc k))
  omega

theorem InvL.frame {cfg : Cfg} {s s' : State} {lost lost' : List Nat} (h : InvL cfg s lost)
    (hc : ∀ k, (inFlight s' ++ lost').count k ≤ (inFlight s ++ lost).count k)
    (hr : s'.rpc = s.rpc) (hm : s'.main = s.main) (hs : s'.seen = s.seen)
    (hcl : s'.collected = s.collected) : InvL cfg s' lost' :=
  h.congr hc (by rw [hr]; exact Nat.le_refl _) (by rw [hr]; exact h.put) (by rw [hcl, hs]; exact h.coll)
    (by rw [hm, hr]; exact h.rfresh) (by rw [hm, hcl]; exact h.ret)

theorem count_held_set_le (l : List HPc) (i : Nat) (q : HPc) (k : Nat) (hq : hk q = none) :
    ((l.set i q).filterMap hk).count k ≤ (l.filterMap hk).count k := by
  cases hl : l[i]? with
  | none =>
    have : l.length ≤ i := by simpa using hl
    rw [List.set_eq_of_length_le this]
    exact Nat.le_refl _
  | some y =>
    have := (filterMap_set_perm hk l i q y hl).count_eq k
    rw [hq] at this
    simp only [List.count_append, Option.toList_none, List.count_nil, Nat.add_zero] at this
    omega

theorem InvL.not_seen {cfg : Cfg} {s : State} {lost : List Nat} {k : Nat} {rest : List (Option Nat)}
    (h : InvL cfg s lost) (hq : s.hq = some k :: rest) : k ∉ s.seen :=
  not_seen_of_nodup (List.nodup_append.1 h.nodup).1 hq

/-- main puts no piece in flight: it moves pieces from the hash queue to `seen`, and a hasher it
    starts holds nothing afterwards -/
theorem count_mainStep_le {cfg : Cfg} {s s' : State} (h : MainStepG cfg s s') (k : Nat) :
    (inFlight s').count k ≤ (inFlight s).count k := by
  have hset : ∀ {i : Nat} {q : HPc} {m : MPc}, hk q = none →
      (inFlight { s with hs := s.hs.set i q, main := m }).count k ≤ (inFlight s).count k :=
    fun {i q _} hq => by
      have := count_held_set_le s.hs i q k hq
      simp only [inFlight_def, List.count_append]
      omega
  cases h with
  | ok h' =>
    cases h' with
    | startHasherNext | startHasherLast => exact hset rfl
    | collectClosed rest hm hq | collectRaise k' rest hm hq | collectPass k' rest hm hq
    | collectCancel k' rest hm hq | collectCbRaise k' rest hm hq =>
      exact Nat.le_of_eq (List.Perm.count_eq (.of_eq (by simp [inFlight_def, hq])) k)
    | _ => exact Nat.le_refl _
  | refVital | refHasherNext | refHasherLast => exact hset rfl
  | _ => exact Nat.le_refl _

theorem InvL.main {cfg : Cfg} {s s' : State} {lost : List Nat} (h : InvL cfg s lost)
    (hs : stepMain cfg s = some s') : InvL cfg s' lost := by
  have hst := MainStepG.of_not_seen h.not_seen hs
  have hc : ∀ k, (inFlight s' ++ lost).count k ≤ (inFlight s ++ lost).count k := fun k => by
    rw [List.count_append, List.count_append]
    exact Nat.add_le_add_right (count_mainStep_le hst k) _
  -- main writes the reader's program counter only to start it
  have hr := (hst.frame h.rfresh).2.2.1
  refine h.congr hc ?_ ?_ (hst.coll h.coll) (hst.rfresh h.rfresh) hst.ret
  · rcases hr with hr | ⟨hr, -⟩ <;> rw [hr]
    · exact Nat.le_refl _
    · exact Nat.zero_le _
  · rcases hr with hr | ⟨-, hr | hr⟩ <;> rw [hr]
    · exact h.put
    · exact nofun
    · exact nofun

theorem InvL.readerNext {cfg : Cfg} {t t' : State} {lost : List Nat} {k : Nat}
    (hn : ReaderNext cfg t k t') (hnd : (inFlight t ++ lost).Nodup)
    (hlt : ∀ j ∈ inFlight t ++ lost, j < k) (hk : k ≤ cfg.items.length)
    (hcoll : t.collected = t.seen.filter (isHashed cfg))
    (hrf : t'.main = .startReaderChk ∨ t'.main = .startReader → t'.rpc = .notStarted)
    (hret : ∀ c, t.main = .finished (.returned c) → c = t.collected) :
    InvL cfg t' lost := by
  have hcnt := List.nodup_iff_count.1 hnd
  have hlt' : ∀ j, 0 < (inFlight t ++ lost).count j → j < k := fun j hj => hlt j (List.count_pos_iff.1 hj)
  cases hn with
  | fault | eof | stopped =>
    exact ⟨hcnt, fun j hj => Nat.lt_of_lt_of_le (hlt' j hj) hk, nofun, hcoll, hrf, hret⟩
  | next _ h2 => exact ⟨hcnt, hlt', fun k' hk' => by cases hk'; exact h2, hcoll, hrf, hret⟩

theorem InvL.reader {cfg : Cfg} {s s' : State} {lost : List Nat} (h : InvL cfg s lost)
    (hs : stepReader cfg s = some s') : InvL cfg s' lost := by
  have hst := ReaderStep.of_step hs
  have hrf := hst.rfresh h.rfresh
  cases hst with
  | begin hr t hn =>
    refine InvL.readerNext hn h.nodup (fun j hj => ?_) (Nat.zero_le _) h.coll hrf h.ret
    simpa [hr, pushedBound] using h.mem_lt hj
  | put k hr hc t hn =>
    -- piece `k` is new: everything pushed so far is below `k`
    have hold : ∀ j ∈ inFlight s ++ lost, j < k := fun j hj => by
      simpa [hr, pushedBound] using h.mem_lt hj
    have hi : inFlight { s with pq := s.pq ++ [some k] } ++ lost = inFlight s ++ k :: lost := by
      simp [inFlight_def]
    refine InvL.readerNext hn ?_ (fun j hj => ?_) (h.put k hr) h.coll hrf h.ret
    · rw [hi]
      exact List.perm_middle.nodup_iff.2
        (List.nodup_cons.2 ⟨fun hk => Nat.lt_irrefl _ (hold k hk), h.nodup⟩)
    · rcases List.mem_cons.1 (List.perm_middle.mem_iff.1 (hi ▸ hj)) with rfl | hj
      · exact Nat.lt_succ_self _
      · exact Nat.lt_succ_of_lt (hold j hj)
  | close hr hc =>
    have hi : inFlight { s with pq := s.pq ++ [none], rpc := .done } = inFlight s := by
      simp [inFlight_def]
    exact h.congr (fun j => by rw [hi]; exact Nat.le_refl _) (by simp [hr, pushedBound]) nofun h.coll
      hrf h.ret

theorem InvL.hasher {cfg : Cfg} {s s' : State} {lost : List Nat} {i : Nat} {b : Bool}
    (h : InvL cfg s lost) (hs : stepHasher cfg s i b = some s') : InvL cfg s' lost := by
  have hst := HasherStep.of_step hs
  obtain ⟨hm, hr, -, -, hsn, hc⟩ := hst.frame
  refine h.frame (fun k => ?_) hr hm hsn hc
  rw [List.count_append, List.count_append, hst.inFlight_perm.count_eq]
  exact Nat.le_refl _

theorem InvL.die {cfg : Cfg} {s : State} {rest : List (Option Nat)} {lostL : List Nat} {i k : Nat}
    (h : InvL cfg s lostL) (hpq : s.pq = some k :: rest) :
    InvL cfg (setHasher { s with pq := rest } i .done) (lostL ++ [k]) := by
  refine h.frame (fun j => ?_) rfl rfl rfl rfl
  have := count_held_set_le s.hs i .done j rfl
  simp only [inFlight_def, setHasher, hpq, List.filterMap_cons, id, List.count_cons,
    List.count_append, List.count_nil, beq_iff_eq]
  omega

theorem InvL.janitor {cfg : Cfg} {s s' : State} {lost : List Nat} {b : Bool} (h : InvL cfg s lost)
    (hs : stepJanitor cfg s b = some s') : InvL cfg s' lost := by
  have hst := JanitorStep.of_step hs
  obtain ⟨hm, hr, -, -, hsn, hc⟩ := hst.frame
  exact h.frame (fun k => by rw [hst.inFlight_eq]; exact Nat.le_refl _) hr hm hsn hc

theorem InvL.step {cfg : Cfg} {s s' : State} {lost : List Nat} {l : Label} (h : InvL cfg s lost)
    (hs : Pipeline.step cfg s l = some s') : InvL cfg s' lost := by
  cases LStep.of_step hs with
  | main h' => exact h.main h'
  | reader h' => exact h.reader h'
  | hasher _ _ h' => exact h.hasher h'
  | janitor _ h' => exact h.janitor h'

/-- One step of the system with hasher faults: a step of the base system (which may count a `sha1`
    call), main leaving by the exception of a dead hasher whose `join()` completes, or a hasher
    dying with the piece it has just taken. -/
inductive StepX (c : CfgX) (x : StateX) : StateX → Prop
  | base {l : Label} {b : State} (t : List Nat) (hb : Pipeline.step c.base x.base l = some b) :
      StepX c x { x with base := b, taken := t }
  | reraise (h : Nat) (hj : joining x.base.main = some h) (hd : h ∈ x.dead) :
      StepX c x { x with reraised := some h }
  | die (i k : Nat) (rest : List (Option Nat)) (hi : x.base.hs[i]? = some .getting)
      (hpq : x.base.pq = some k :: rest) (hf : c.hashFault i (x.taken.getD i 0) = true) :
      StepX c x { x with base := setHasher { x.base with pq := rest } i .done,
                         taken := x.taken.set i (x.taken.getD i 0 + 1), dead := x.dead ++ [i],
                         lost := x.lost ++ [k] }

theorem StepX.of_step {c : CfgX} {x x' : StateX} {l : Label} (hs : stepX c x l = some x') :
    StepX c x x' := by
  have lift : ∀ {l' : Label} {t : List Nat}, (Pipeline.step c.base x.base l').map
      (fun b => { x with base := b, taken := t }) = some x' → StepX c x x' := fun h => by
    obtain ⟨b, hb, rfl⟩ := Option.map_eq_some_iff.1 h
    exact .base _ hb
  unfold stepX at hs
  split at hs
  · split at hs
    · cases hs
    · unfold stepMainX at hs
      split at hs
      · cases hs
      · split at hs
        · cases hs
        · rename_i b hb
          split at hs
          · rename_i h hj
            split at hs <;> cases hs
            · rename_i hc
              simp only [Bool.and_eq_true, List.contains_eq_mem, decide_eq_true_eq] at hc
              exact .reraise h hj hc.2
            · exact .base (l := ⟨.main, false⟩) x.taken hb
          · cases hs; exact .base (l := ⟨.main, false⟩) x.taken hb
  · rename_i i _
    unfold stepHasherX at hs
    split at hs
    · rename_i k rest hi hpq _
      split at hs
      · simp only at hs
        split at hs
        · cases hs; exact .die i k rest hi hpq ‹_›
        · exact lift (l' := ⟨.hasher i, false⟩) hs
      · exact lift (l' := ⟨.hasher i, false⟩) hs
    · exact lift (l' := ⟨.hasher i, l.timeout⟩) hs
  · exact lift hs

theorem InvL.stepX {c : CfgX} {x x' : StateX} (h : InvL c.base x.base x.lost) (hs : StepX c x x') :
    InvL c.base x'.base x'.lost := by
  cases hs with
  | base t hb => exact h.step hb
  | reraise => exact h
  | die i k rest hi hpq => exact h.die hpq

theorem ReachableX.induction {c : CfgX} {P : StateX → Prop} (h0 : P (initX c))
    (hstep : ∀ x x', P x → StepX c x x' → P x') {x : StateX} (h : ReachableX c x) : P x := by
  obtain ⟨ls, hls⟩ := h
  generalize initX c = x₀ at h0 hls
  induction ls generalizing x₀ with
  | nil => cases hls; exact h0
  | cons l ls ih =>
    simp only [runX] at hls
    cases hst : stepX c x₀ l with
    | none => simp [hst] at hls
    | some x₁ => exact ih x₁ (hstep _ _ h0 (.of_step hst)) (by simpa only [hst] using hls)

theorem InvL.of_reachableX {c : CfgX} {x : StateX} (h : ReachableX c x) :
    InvL c.base x.base x.lost :=
  h.induction (P := fun x => InvL c.base x.base x.lost) (InvL.init c.base) fun _ _ hp hs => hp.stepX hs

theorem InvL.collected_sound {cfg : Cfg} {s : State} {lost : List Nat} (h : InvL cfg s lost) :
    s.collected.Nodup ∧ (∀ k ∈ s.collected, k < cfg.items.length) ∧
      s.collected.length + lost.length ≤ cfg.items.length := by
  have hb : pushedBound cfg s.rpc ≤ cfg.items.length := by
    cases hr : s.rpc <;> simp only [pushedBound] <;> try omega
    rename_i k; exact Nat.le_of_lt (h.put k hr)
  have hsub : (s.seen ++ lost).Sublist (inFlight s ++ lost) := by
    simp only [inFlight_def, List.append_assoc, List.append_sublist_append_left]
    exact List.sublist_append_of_sublist_right
      (List.sublist_append_of_sublist_right (List.sublist_append_right ..))
  -- no lost piece is among the pieces seen, so the two lists together hold at most all pieces
  have hnd : (s.seen ++ lost).Nodup := h.nodup.sublist hsub
  have hlt : ∀ k ∈ s.seen ++ lost, k < cfg.items.length := fun k hk =>
    Nat.lt_of_lt_of_le (h.mem_lt (hsub.subset hk)) hb
  have hlen : (s.seen ++ lost).length ≤ (List.range cfg.items.length).length :=
    length_le_of_nodup_subset hnd (fun k hk => List.mem_range.2 (hlt k hk))
  simp only [List.length_append, List.length_range] at hlen
  have hcl : s.collected.length ≤ s.seen.length := by
    rw [h.coll]; exact List.length_filter_le _ _
  refine ⟨?_, ?_, by omega⟩
  · rw [h.coll]
    exact ((List.nodup_append.1 hnd).1).filter _
  · intro k hk
    rw [h.coll] at hk
    exact hlt k (List.mem_append_left _ (List.mem_filter.1 hk).1)

theorem ReachableX.returned_sound {c : CfgX} {x : StateX} {cl : List Nat} {n : Nat}
    (h : ReachableX c x) (hn : c.base.items.length = n)
    (hres : resultX? x = some (.base (.returned cl))) :
    cl.Nodup ∧ (∀ k ∈ cl, k < n) ∧ cl.length + x.lost.length ≤ n := by
  have hinv := InvL.of_reachableX h
  have hcl : cl = x.base.collected := by
    unfold resultX? at hres
    cases hr : x.reraised with
    | some h => simp [hr] at hres
    | none =>
      simp only [hr, Option.map_eq_some_iff] at hres
      obtain ⟨r, hr1, hr2⟩ := hres
      cases hr2
      exact hinv.ret cl (terminal_of_result hr1)
  exact hn ▸ hcl ▸ hinv.collected_sound

theorem StepX.noFault {c : CfgX} (hnf : ∀ i j, c.hashFault i j = false) {x x' : StateX}
    (hs : StepX c x x') (h : x.dead = [] ∧ x.lost = [] ∧ x.reraised = none) :
    x'.dead = [] ∧ x'.lost = [] ∧ x'.reraised = none := by
  cases hs with
  | base => exact h
  | reraise k hj hd => rw [h.1] at hd; cases hd
  | die i k rest hi hpq hf => rw [hnf] at hf; cases hf

theorem stepX_base_of_noHashFault {c : CfgX} (hnf : ∀ i j, c.hashFault i j = false) {x : StateX}
    (hd : x.dead = []) (hr : x.reraised = none) (l : Label) :
    (stepX c x l).map (·.base) = Pipeline.step c.base x.base l := by
  have proj : ∀ (t : List Nat) (o : Option State),
      (o.map fun b => ({ x with base := b, taken := t } : StateX)).map (·.base) = o :=
    fun _ o => by cases o <;> rfl
  rcases l with ⟨t, to⟩
  cases t with
  | main =>
    simp only [stepX, Pipeline.step, stepMainX, hr, Option.isSome_none, Bool.false_eq_true,
      ↓reduceIte, hd, List.contains_nil, Bool.and_false]
    split
    · rfl
    · cases stepMain c.base x.base with
      | none => rfl
      | some b => simp only; split <;> rfl
  | hasher i =>
    simp only [stepX, Pipeline.step, stepHasherX]
    split
    · simp only [hnf, Bool.false_eq_true, ↓reduceIte]
      split <;> exact proj _ _
    · exact proj _ _
  | reader => exact proj _ _
  | janitor => exact proj _ _

theorem runX_base_of_noHashFault {c : CfgX} (hnf : ∀ i j, c.hashFault i j = false) :
    ∀ (ls : List Label) (x : StateX), x.dead = [] ∧ x.lost = [] ∧ x.reraised = none →
      (runX c x ls).map (·.base) = Pipeline.run c.base x.base ls ∧
        ∀ x', runX c x ls = some x' → x'.dead = [] ∧ x'.lost = [] ∧ x'.reraised = none := by
  intro ls
  induction ls with
  | nil => intro x h; simpa [runX, Pipeline.run] using h
  | cons l ls ih =>
    intro x h
    have h1 := stepX_base_of_noHashFault hnf h.1 h.2.2 l
    simp only [runX, Pipeline.run]
    cases hs : stepX c x l with
    | none => rw [hs] at h1; simp [← h1]
    | some x₁ =>
      rw [hs] at h1
      simp only [← h1, Option.map_some]
      exact ih x₁ ((StepX.of_step hs).noFault hnf h)

end Torf.PipelineHF
