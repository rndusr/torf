/-
  The sequential reader of the handle-table model (C19) computes `chunks`: its state is a function
  of the files, the piece length and the consumer's budget (`iterRun_fst`) — in particular it does
  not depend on the handle table the iteration starts from (`iterRun_indep`, `run_out_indep`).
-/
import Torf.Lemmas.Handles
import Torf.Lemmas.Fold
namespace Torf.Handles
open Torf

/-! ### the loops as folds over explicit chunk lists -/

/-- outer loop body, guarded by the consumer's budget -/
def item (L : Nat) (x : List α) (p : IterP α) : IterP α :=
  if p.live then outerItem L x p else p

def feedB (L : Nat) (cs : List (List α)) (p : IterP α) : IterP α :=
  cs.foldl (fun p x => item L x p) p

/-- table-free version of `fileStep` -/
def fstep (L : Nat) (p : IterP α) (F : List α) : IterP α :=
  if p.live then feedB L (chunks L (p.carry ++ F)) { p with carry := [] } else p

/-- the final `if trailing_bytes: yield trailing_bytes` -/
def fin (p : IterP α) : IterP α := if p.live && !p.carry.isEmpty then emit p.carry p else p

theorem feedB_cons (L : Nat) (x : List α) (cs : List (List α)) (p : IterP α) :
    feedB L (x :: cs) p = feedB L cs (item L x p) := rfl

theorem feedB_nil (L : Nat) (p : IterP α) : feedB L [] p = p := rfl

theorem item_dead (L : Nat) (x : List α) (p : IterP α) (h : p.live = false) : item L x p = p := by
  simp [item, h]

theorem item_live (L : Nat) (x : List α) (p : IterP α) (h : p.live = true) :
    item L x p = outerItem L x p := by
  simp [item, h]

theorem feedB_dead (L : Nat) (cs : List (List α)) (p : IterP α) (h : p.live = false) :
    feedB L cs p = p :=
  foldl_absorb _ p (fun x => item_dead L x p h) cs

theorem eta_self (p : IterP α) : IterP.mk p.out p.left p.carry p.bad p.starved = p := by cases p; rfl

theorem readLoop_feedB (files : List (List α)) (L j : Nat) (fuel : Nat) (p : IterP α)
    (t : Table) (rest : List α) (h : Unread files t j rest) (hf : rest.length < fuel) :
    (readLoop files L j fuel p t).1 = feedB L (chunks L rest) p := by
  induction fuel generalizing p t rest with
  | zero => omega
  | succ fuel ih =>
    unfold readLoop
    by_cases hl : p.live = true
    · obtain ⟨t', hr, h'⟩ := read_unread h L
      rw [hr]
      simp only [hl, Bool.not_true, Bool.false_eq_true, if_false, Bool.or_false]
      -- what is left of `{ p with bad := p.bad || false }` is `p` with its fields spelled out
      rw [eta_self, chunks_read]
      split
      · rfl
      · rename_i hne
        have hpos := List.length_pos_iff.mpr (mt List.isEmpty_iff.mpr hne)
        rw [List.length_take] at hpos
        rw [feedB_cons, item_live L _ p hl]
        exact ih _ _ _ h' (by rw [List.length_drop]; omega)
    · have hl' : p.live = false := Bool.eq_false_iff.2 hl
      simp only [hl', Bool.not_false, if_true]
      rw [feedB_dead _ _ _ hl']

/-- `h`: `pre` is no full piece — shorter than `L`, and empty when `L = 0` -/
theorem prependLoop_short (L n : Nat) (pre : List α) (p : IterP α) (hl : p.live = true)
    (h : pre.length ≤ L - 1) : prependLoop L (n + 1) pre p = (p, pre) := by
  unfold prependLoop
  by_cases hne : pre = []
  · subst hne; simp [hl]
  · have he : pre.isEmpty = false := List.isEmpty_eq_false_iff.2 hne
    have hpos := List.length_pos_iff.mpr hne
    have ht : pre.take L = pre := List.take_of_length_le (by omega)
    have hn : ¬ pre.length = L := by omega
    simp only [hl, he, ht, hn, Bool.not_true, Bool.or_false, Bool.false_eq_true, if_false]

theorem live_carry_nil (p : IterP α) : ({ p with carry := [] } : IterP α).live = p.live := rfl

theorem fromHandle_fstep (files : List (List α)) (L j : Nat) (p : IterP α) (t : Table)
    (hl : p.live = true) (hc : p.carry.length ≤ L - 1) (h : Unread files t j (files.getD j [])) :
    (fromHandle files L j p t).1 = fstep L p (files.getD j []) := by
  unfold fromHandle fstep
  rw [prependLoop_short L _ _ _ (by rw [live_carry_nil]; exact hl) hc]
  unfold afterPrepend
  simp only [hl, live_carry_nil, Bool.not_true, Bool.false_eq_true, if_false, if_true]
  by_cases hp : p.carry = []
  · simp only [hp, List.isEmpty_nil, if_true, List.nil_append]
    exact readLoop_feedB files L j _ _ t _ h (Nat.lt_succ_self _)
  · have he : p.carry.isEmpty = false := List.isEmpty_eq_false_iff.2 hp
    have hpos := List.length_pos_iff.mpr hp
    simp only [he, Bool.false_eq_true, if_false]
    -- the fill read completes the carried bytes to the first chunk of `carry ++ file`
    obtain ⟨t', hr, h'⟩ := read_unread h (L - p.carry.length)
    rw [hr]
    simp only [Bool.not_true, Bool.or_false]
    rw [readLoop_feedB files L j _ _ _ _ h' (by rw [List.length_drop]; omega),
      chunks_fill L _ _ hp (by omega), feedB_cons, item_live L _ _ (by rw [live_carry_nil]; exact hl)]

theorem carry_item (L : Nat) (x : List α) (p : IterP α) (hc : p.carry.length ≤ L - 1)
    (hx : x.length ≤ L) : (item L x p).carry.length ≤ L - 1 := by
  unfold item outerItem
  split
  · split
    · exact hc
    · show x.length ≤ L - 1
      omega
  · exact hc

theorem carry_fstep (L : Nat) (p : IterP α) (F : List α) (hc : p.carry.length ≤ L - 1) :
    (fstep L p F).carry.length ≤ L - 1 := by
  unfold fstep
  split
  · exact List.foldlRecOn (motive := fun p : IterP α => p.carry.length ≤ L - 1) _ _ (Nat.zero_le _)
      fun p hc x hx => carry_item L x p hc (length_of_mem_chunks L _ x hx).2
  · exact hc

theorem fileStep_fstep (files : List (List α)) (cap L j : Nat) (p : IterP α) (t : Table)
    (hc : p.carry.length ≤ L - 1) :
    (fileStep true files cap L (p, t) j).1 = fstep L p (files.getD j []) := by
  unfold fileStep
  by_cases hl : p.live = true
  · simp only [hl, Bool.not_true, Bool.false_eq_true, if_false, if_true]
    exact fromHandle_fstep files L j p _ hl hc (unread_open_seek files cap t j 0)
  · have hl' : p.live = false := Bool.eq_false_iff.2 hl
    simp [hl', fstep]

theorem foldl_fileStep_fstep (files : List (List α)) (cap L : Nat) (js : List Nat)
    (p : IterP α) (t : Table) (hc : p.carry.length ≤ L - 1) :
    (js.foldl (fileStep true files cap L) (p, t)).1 =
      (js.map (fun j => files.getD j [])).foldl (fstep L) p := by
  rw [List.foldl_map]
  exact (List.foldl_rel (r := fun (a : IterP α × Table) (b : IterP α) => a.1 = b ∧ b.carry.length ≤ L - 1)
    ⟨rfl, hc⟩ fun j _ a b h => by
      cases h.1
      exact ⟨fileStep_fstep files cap L j a.1 a.2 h.2, carry_fstep L a.1 _ h.2⟩).1

theorem iterRun_eq (fix : Bool) (files : List (List α)) (cap L : Nat) (k : Option Nat) (t : Table) :
    iterRun fix files cap L k t =
      (fin ((List.range files.length).foldl (fileStep fix files cap L) (iterInit k, t)).1,
        ((List.range files.length).foldl (fileStep fix files cap L) (iterInit k, t)).2) := by
  unfold iterRun fin
  simp only
  split <;> rfl

theorem iterRun_fst (files : List (List α)) (cap L : Nat) (k : Option Nat) (t : Table) :
    (iterRun true files cap L k t).1 = fin (files.foldl (fstep L) (iterInit k)) := by
  rw [iterRun_eq, foldl_fileStep_fstep files cap L _ _ _ (Nat.zero_le _), map_range_getD]

theorem iterRun_indep (files : List (List α)) (cap L : Nat) (k : Option Nat) (t t' : Table) :
    (iterRun true files cap L k t).1 = (iterRun true files cap L k t').1 := by
  rw [iterRun_fst, iterRun_fst]

/-! ### unbounded consumer (`left = none`): the pure model of C01 -/

/-- C01's fold state (trailing bytes, pieces yielded) as the state of an unbounded consumer: the
    other fields stay what they are in `p` -/
def ofStream (p : IterP α) (st : List α × List (List α)) : IterP α :=
  { p with out := st.2, carry := st.1 }

theorem feedB_ofStream (L : Nat) (cs : List (List α)) (p : IterP α) (hp : p.left = none)
    (st : List α × List (List α)) :
    feedB L cs (ofStream p st) = ofStream p
      (cs.foldl (fun st x => if x.length = L then (st.1, st.2 ++ [x]) else (x, st.2)) st) :=
  List.foldl_hom (ofStream p) fun st x => by
    rw [item_live L x _ (by simp [IterP.live, ofStream, hp])]
    unfold outerItem
    split
    · simp only [emit, ofStream, hp, Option.map_none]
    · rfl

theorem fstep_ofStream (L : Nat) (hL : 0 < L) (p : IterP α) (hp : p.left = none)
    (st : List α × List (List α)) (F : List α) :
    fstep L (ofStream p st) F = ofStream p (Stream.fileStep L st F) := by
  unfold fstep
  rw [if_pos (by simp [IterP.live, ofStream, hp])]
  unfold Stream.fileStep Stream.consume
  rw [Stream.iterFromHandle_eq_chunks L hL]
  exact feedB_ofStream L _ p hp ([], st.2)

theorem iterRun_none (files : List (List α)) (cap L : Nat) (hL : 0 < L) (t : Table) :
    iterOut (iterRun true files cap L none t).1 = (.pieces (chunks L files.flatten) : Out α δ) := by
  rw [iterRun_fst, show iterInit none = ofStream (iterInit none) ([], []) from rfl,
    List.foldl_hom (ofStream _) fun st F => fstep_ofStream L hL _ rfl st F]
  have hc := Stream.iterPieces_eq_chunks L hL files
  simp only [Stream.iterPieces] at hc
  generalize files.foldl (Stream.fileStep L) ([], []) = st at hc ⊢
  rw [← hc]
  unfold fin ofStream
  cases st.1.isEmpty <;> rfl

theorem run_iterFull_spec [BEq δ] (c : Cfg α δ) (hfix : c.fix = true) (hL : 0 < c.L) (t : Table) :
    (run c .iterFull t).out = .pieces (chunks c.L c.files.flatten) := by
  simp only [run, hfix]
  exact iterRun_none c.files c.cap c.L hL t

/-! ### a consumer that stops after `k` items sees the first `k` items of the unbounded run -/

/-- `q`: state of the unbounded run, `p`: state of the run abandoned after `k` items -/
structure Sim (k : Nat) (q p : IterP α) : Prop where
  qleft : q.left = none
  bad : p.bad = q.bad
  starved : p.starved = q.starved
  out : p.out = q.out.take k
  left : p.left = some (k - q.out.length)
  carry : q.out.length < k → p.carry = q.carry

theorem Sim.live_iff {k : Nat} {q p : IterP α} (h : Sim k q p) :
    p.live = true ↔ q.out.length < k := by
  simp only [IterP.live, h.left, bne_iff_ne, ne_eq, Option.some.injEq]
  omega

theorem Sim.qlive {k : Nat} {q p : IterP α} (h : Sim k q p) : q.live = true := by
  simp [IterP.live, h.qleft]

theorem Sim.iterOut {k : Nat} {q p : IterP α} (h : Sim k q p) {ps : List (List α)}
    (hq : iterOut q = (.pieces ps : Out α δ)) : iterOut p = (.pieces (ps.take k) : Out α δ) := by
  unfold Handles.iterOut at hq ⊢
  rw [h.bad, h.starved, h.out]
  split at hq
  · cases hq
  · split at hq
    · cases hq
    · cases hq
      rw [if_neg ‹_›, if_neg ‹_›]

theorem sim_emit {k : Nat} {q p : IterP α} (x : List α) (h : Sim k q p) :
    Sim k (emit x q) (if p.live then emit x p else p) := by
  have hq : (emit x q).left = none := by simp [emit, h.qleft]
  by_cases hlt : q.out.length < k
  · rw [if_pos (h.live_iff.2 hlt)]
    refine ⟨hq, h.bad, h.starved, ?_, ?_, fun _ => h.carry hlt⟩
    · show p.out ++ [x] = (q.out ++ [x]).take k
      rw [h.out, List.take_append, List.take_of_length_le (l := [x]) (by rw [List.length_singleton]; omega)]
    · show p.left.map (· - 1) = some (k - (q.out ++ [x]).length)
      rw [h.left, List.length_append, List.length_singleton]
      exact congrArg some (Nat.sub_sub ..)
  · rw [if_neg (mt h.live_iff.1 hlt)]
    refine ⟨hq, h.bad, h.starved, ?_, ?_, fun h' => ?_⟩
    · show p.out = (q.out ++ [x]).take k
      rw [List.take_append_of_le_length (by omega)]
      exact h.out
    · show p.left = some (k - (q.out ++ [x]).length)
      rw [h.left, List.length_append]
      exact congrArg some (by rw [List.length_singleton]; omega)
    · have : (emit x q).out.length = q.out.length + 1 := by simp [emit]
      omega

theorem sim_carry {k : Nat} {q p : IterP α} (c : List α) (h : Sim k q p) :
    Sim k { q with carry := c } (if p.live then { p with carry := c } else p) := by
  by_cases hlt : q.out.length < k
  · rw [if_pos (h.live_iff.2 hlt)]
    exact ⟨h.qleft, h.bad, h.starved, h.out, h.left, fun _ => rfl⟩
  · rw [if_neg (mt h.live_iff.1 hlt)]
    exact ⟨h.qleft, h.bad, h.starved, h.out, h.left, fun h' => absurd h' hlt⟩

theorem sim_item {k : Nat} {q p : IterP α} (L : Nat) (x : List α) (h : Sim k q p) :
    Sim k (item L x q) (item L x p) := by
  rw [item_live L x q h.qlive]
  unfold item outerItem
  by_cases hx : x.length = L
  · simp only [hx, if_true]
    exact sim_emit x h
  · simp only [hx, if_false]
    exact sim_carry x h

theorem sim_feedB {k : Nat} (L : Nat) (cs : List (List α)) {q p : IterP α} (h : Sim k q p) :
    Sim k (feedB L cs q) (feedB L cs p) :=
  List.foldl_rel h fun x _ _ _ h => sim_item L x h

theorem sim_fstep {k : Nat} (L : Nat) (F : List α) {q p : IterP α} (h : Sim k q p) :
    Sim k (fstep L q F) (fstep L p F) := by
  -- the step with `q`'s carry: a live `p` carries the same, a dead one ignores the items
  have h0 := sim_feedB L (chunks L (q.carry ++ F)) (sim_carry [] h)
  unfold fstep
  rw [if_pos h.qlive]
  cases hl : p.live
  · rw [hl, if_neg Bool.false_ne_true, feedB_dead L _ p hl] at h0
    rwa [if_neg Bool.false_ne_true]
  · rw [hl, if_pos rfl] at h0
    rwa [if_pos rfl, h.carry (h.live_iff.1 hl)]

theorem sim_fin {k : Nat} {q p : IterP α} (h : Sim k q p) : Sim k (fin q) (fin p) := by
  -- a live `p` carries what `q` carries
  have hp : fin p = if q.carry.isEmpty then p else if p.live then emit q.carry p else p := by
    unfold fin
    cases hl : p.live
    · cases q.carry.isEmpty <;> rfl
    · rw [h.carry (h.live_iff.1 hl)]
      cases q.carry.isEmpty <;> rfl
  rw [hp]
  unfold fin
  rw [h.qlive]
  cases q.carry.isEmpty
  · exact sim_emit q.carry h
  · exact h

theorem sim_iterRun (files : List (List α)) (cap L : Nat) (k : Nat) (t : Table) :
    Sim k (iterRun true files cap L none t).1 (iterRun true files cap L (some k) t).1 := by
  rw [iterRun_fst, iterRun_fst]
  exact sim_fin (List.foldl_rel ⟨rfl, rfl, rfl, by simp [iterInit], rfl, fun _ => rfl⟩
    fun F _ _ _ h => sim_fstep L F h)

theorem run_iterAbandon_spec [BEq δ] (c : Cfg α δ) (hfix : c.fix = true) (hL : 0 < c.L) (k : Nat)
    (t : Table) :
    (run c (.iterAbandon k) t).out = .pieces ((chunks c.L c.files.flatten).take k) := by
  simp only [run, hfix]
  exact (sim_iterRun c.files c.cap c.L k t).iterOut (iterRun_none c.files c.cap c.L hL t)

theorem run_out_indep [BEq δ] (c : Cfg α δ) (hfix : c.fix = true) (op : Op) (t t' : Table) :
    (run c op t).out = (run c op t').out := by
  have hg := fun i => getPiece_indep c i t t'
  cases op with
  | iterFull => simp only [run, hfix]; rw [iterRun_indep c.files c.cap c.L none t t']
  | iterAbandon k => simp only [run, hfix]; rw [iterRun_indep c.files c.cap c.L (some k) t t']
  | getPiece i => rw [run_getPiece, run_getPiece, hg]
  | getPieceHash i => rw [run_getPieceHash, run_getPieceHash, hg]
  | verifyPiece i =>
    cases hst : pyIndex c.stored i with
    | none => simp only [run, hst]
    | some st => rw [run_verifyPiece c i t hst, run_verifyPiece c i t' hst, hg]
  | close => rfl
  | ctxExit => rfl

theorem runAll_out [BEq δ] (c : Cfg α δ) (hfix : c.fix = true) (ops : List Op) (t : Table) :
    (runAll c ops t).map (·.1) = ops.map fun op => (run c op []).out := by
  induction ops generalizing t with
  | nil => rfl
  | cons op ops ih =>
    simp only [runAll, List.map_cons]
    rw [ih, run_out_indep c hfix op t []]

theorem runAllS_out [BEq δ] (c : Cfg α δ) (hfix : c.fix = true) (ss : List (Step δ)) (t : Table) :
    (runAllS c ss t).map (·.1) = freshAllS c ss := by
  induction ss generalizing c t with
  | nil => rfl
  | cons s ss ih =>
    cases s with
    | op o =>
      simp only [runAllS, freshAllS, List.map_cons]
      rw [ih c hfix, run_out_indep c hfix o t []]
    | setStored hs =>
      simp only [runAllS, freshAllS, List.map_cons]
      rw [ih { c with stored := hs } hfix]

end Torf.Handles
