/-
  `Validate.isHex` (the character class of `_md5sum_regex`) over code points.
-/
import Torf.Model.Validate
namespace Torf.Validate

theorem isHex_toNat (c : Char) : isHex c =
    ((48 ≤ c.toNat && c.toNat ≤ 57) || (97 ≤ c.toNat && c.toNat ≤ 102) || (65 ≤ c.toNat && c.toNat ≤ 70)) := by
  have le (a b : Char) : (a ≤ b) = (a.toNat ≤ b.toNat) := propext (Char.le_def.trans UInt32.le_iff_toNat_le)
  simp only [isHex, le]
  rfl

end Torf.Validate
