/-
  Facts about loops over lists that the models share.  About `List.foldl` (two folds whose steps
  keep a relation, and a fold whose steps keep a predicate, are core's `List.foldl_rel` and
  `List.foldlRecOn`): a state the step function does not leave is the result, a projection every
  step only extends is only extended by the fold, and steps that agree on the members give the
  same fold.  Then the eviction loop of the handle tables, the items of a list at their first occurrence (the
  re-adding loop of `MonitoredList`), and reading a list index by index.
-/
namespace Torf

theorem foldl_absorb {σ β : Type} (f : σ → β → σ) (s : σ) (h : ∀ b, f s b = s) (l : List β) :
    l.foldl f s = s := by
  induction l with
  | nil => rfl
  | cons b l ih => rw [List.foldl_cons, h, ih]

theorem foldl_prefix {σ β γ : Type} (f : σ → β → σ) (out : σ → List γ)
    (h : ∀ s b, out s <+: out (f s b)) (l : List β) (s : σ) : out s <+: out (l.foldl f s) := by
  induction l generalizing s with
  | nil => exact List.prefix_refl _
  | cons b l ih => exact (h s b).trans (ih _)

theorem foldl_congr_mem {β γ : Type} {f g : β → γ → β} {l : List γ} {b : β}
    (h : ∀ b x, x ∈ l → f b x = g b x) : l.foldl f b = l.foldl g b :=
  List.foldl_rel (r := Eq) rfl fun x hx b _ hb => hb ▸ h b x hx

/-- The eviction loop `while len(self._open_files) > self.max_open_files: delete the first entry`
    keeps the last `cap` entries.  Each handle-table model has its own `evict` over its own entry
    type; any function with the loop's two equations is meant. -/
theorem evict_eq_drop {β : Type} {ev : List β → List β} {cap : Nat} (hnil : ev [] = [])
    (hcons : ∀ e t, ev (e :: t) = if cap < (e :: t).length then ev t else e :: t) (t : List β) :
    ev t = t.drop (t.length - cap) := by
  induction t with
  | nil => rw [hnil, List.drop_nil]
  | cons e t ih =>
    rw [hcons]
    split
    · rename_i h
      rw [ih, List.length_cons, Nat.succ_sub (Nat.le_of_lt_succ h), List.drop_succ_cons]
    · rename_i h
      rw [Nat.sub_eq_zero_of_le (Nat.le_of_not_lt h), List.drop_zero]

/-! `MonitoredList` clears itself and adds the items again, each unless it is there already: the items at their
    first occurrence.  Each model has its own loop and its own specification function; any `kf` with the two
    equations of "keep the first occurrence" and any `lp` with the loop's two equations are meant. -/
section firstOcc
variable {α : Type} [DecidableEq α] {kf : List α → List α} (hnil : kf [] = [])
  (hcons : ∀ x xs, kf (x :: xs) = x :: (kf xs).filter fun y => decide (y ≠ x))
include hnil hcons

theorem firstOcc_mem (l : List α) (y : α) : y ∈ kf l ↔ y ∈ l := by
  induction l with
  | nil => rw [hnil]
  | cons x xs ih =>
    rw [hcons, List.mem_cons, List.mem_cons, List.mem_filter, ih, decide_eq_true_eq]
    by_cases h : y = x <;> simp [h]

theorem firstOcc_nodup (l : List α) : (kf l).Nodup := by
  induction l with
  | nil => rw [hnil]; exact List.nodup_nil
  | cons x xs ih =>
    rw [hcons, List.nodup_cons]
    exact ⟨by simp [List.mem_filter], ih.filter _⟩

theorem firstOcc_of_nodup (l : List α) (h : l.Nodup) : kf l = l := by
  induction l with
  | nil => exact hnil
  | cons x xs ih =>
    rw [List.nodup_cons] at h
    rw [hcons, ih h.2, List.filter_eq_self.2 fun y hy => by simpa using fun e : y = x => h.1 (e ▸ hy)]

-- a `BEq` of its own beside `DecidableEq`: `x ∈ acc` is decided through whatever `BEq` the caller's element type has
-- (`List Char` in C14: `List.instBEq`, which is not the one `DecidableEq` gives)
theorem firstOcc_loop [BEq α] [LawfulBEq α] {lp : List α → List α → List α} (lnil : ∀ acc, lp acc [] = acc)
    (lcons : ∀ acc x xs, lp acc (x :: xs) = lp (if x ∈ acc then acc else acc ++ [x]) xs)
    (l acc : List α) : lp acc l = acc ++ (kf l).filter fun y => decide (y ∉ acc) := by
  induction l generalizing acc with
  | nil => rw [lnil, hnil, List.filter_nil, List.append_nil]
  | cons x xs ih =>
    rw [lcons, ih, hcons, List.filter_cons, List.filter_filter]
    -- `x` is kept iff it is not in `acc`; the later items are filtered for `acc` and `x` either way
    by_cases hx : x ∈ acc
    · rw [if_pos hx, if_neg (by simpa using hx)]
      refine congrArg _ (List.filter_congr fun y _ => ?_)
      by_cases hy : y ∈ acc <;> simp [hy]
      exact fun e => hy (e ▸ hx)
    · rw [if_neg hx, if_pos (by simpa using hx), List.append_assoc, List.singleton_append]
      refine congrArg _ (congrArg _ (List.filter_congr fun y _ => ?_))
      by_cases h1 : y ∈ acc <;> by_cases h2 : y = x <;> simp [h1, h2]

end firstOcc

theorem map_range_getD {β : Type _} (l : List β) (d : β) :
    (List.range l.length).map (fun j => l.getD j d) = l := by
  apply List.ext_getElem
  · simp
  · intro i h1 h2
    simp [List.getElem?_eq_getElem h2]

theorem filterMap_range_getElem? {β : Type _} (l : List β) :
    (List.range l.length).filterMap (l[·]?) = l := by
  induction l with
  | nil => rfl
  | cons a l ih =>
    -- index 0 reads the head; the other indexes are those of the tail, shifted by one
    rw [List.length_cons, List.range_succ_eq_map, List.filterMap_cons, List.filterMap_map]
    simpa [Function.comp_def] using ih

theorem filterMap_range_bind {β γ : Type _} (l : List β) (g : β → Option γ) :
    (List.range l.length).filterMap (fun k => l[k]?.bind g) = l.filterMap g := by
  rw [← List.filterMap_filterMap, filterMap_range_getElem?]

end Torf
