/-
  Torf.Lemmas.PipelineCtl — control invariant of the pipeline: how main's program counter
  determines which threads have been started (reader first, then the hashers in order, the
  janitor last), and that main has seen the reader finish before it joins the hashers.
  `InvR1` holds when only non-vital hashers (number ≥ 1) can be refused (`NonVital`:
  `HasherPool.__init__` swallows those refusals and carries on); `InvB1` adds "no hasher is
  refused" and holds when no thread start is refused.
-/
import Torf.Lemmas.PipelineCons
namespace Torf.Pipeline

/-- main has not started the reader yet -/
def preReader : MPc → Bool
  | .startReaderChk | .startReader => true
  | _ => false

theorem preReader_iff {m : MPc} : preReader m = true ↔ m = .startReaderChk ∨ m = .startReader := by
  cases m <;> simp [preReader]

/-- main has not started the janitor yet -/
def preJan : MPc → Bool
  | .startReaderChk | .startReader | .startHasherChk _ | .startHasher _
  | .startJanitorChk | .startJanitor => true
  | _ => false

/-- `reader.join()` has returned -/
def postReaderJoin : MPc → Bool
  | .joinHasherChk .. | .joinHasher .. | .joinJanitorChk _ | .joinJanitor _ | .finished _ => true
  | _ => false

/-- number of hashers main has started -/
def startedCnt (cfg : Cfg) : MPc → Nat
  | .startReaderChk | .startReader => 0
  | .startHasherChk i | .startHasher i => i
  | _ => cfg.N

@[simp] theorem preReader_joinTarget (s : State) (idx : Nat) (e : Option Exc) :
    preReader (joinTarget s idx e) = false := by unfold joinTarget; split <;> rfl
@[simp] theorem preJan_joinTarget (s : State) (idx : Nat) (e : Option Exc) :
    preJan (joinTarget s idx e) = false := by unfold joinTarget; split <;> rfl
@[simp] theorem postReaderJoin_joinTarget (s : State) (idx : Nat) (e : Option Exc) :
    postReaderJoin (joinTarget s idx e) = true := by unfold joinTarget; split <;> rfl
@[simp] theorem startedCnt_joinTarget (cfg : Cfg) (s : State) (idx : Nat) (e : Option Exc) :
    startedCnt cfg (joinTarget s idx e) = cfg.N := by unfold joinTarget; split <;> rfl

/-- the only starts the OS refuses are those of hashers other than the vital one -/
def NonVital (cfg : Cfg) : Prop := ∀ t ∈ cfg.refuse, ∃ i : Nat, 1 ≤ i ∧ t = Tid.hasher i

/-- Under `NonVital` the only refusal main meets is that of a hasher other than the vital one, after
    which it goes on to the next start. -/
theorem MainStepG.nonVital {cfg : Cfg} {s s' : State} (hnv : NonVital cfg) (hs : MainStepG cfg s s') :
    MainStep cfg s s' ∨ ∃ i m, s.main = .startHasher i ∧ i ≠ 0 ∧
      ((i + 1 < cfg.N ∧ m = .startHasherChk (i + 1)) ∨ (¬ i + 1 < cfg.N ∧ m = .startJanitorChk)) ∧
      s' = { s with hs := s.hs.set i .refused, main := m } := by
  cases hs with
  | ok h' => exact .inl h'
  | refReader hm hr | refJanitor hm hr => obtain ⟨i, _, hi⟩ := hnv _ hr; cases hi
  | refVital hm hr => obtain ⟨i, h1, hi⟩ := hnv _ hr; cases hi; cases h1
  | refHasherNext i hm h0 hr hi => exact .inr ⟨i, _, hm, h0, .inl ⟨hi, rfl⟩, rfl⟩
  | refHasherLast i hm h0 hr hi => exact .inr ⟨i, _, hm, h0, .inr ⟨hi, rfl⟩, rfl⟩

structure InvR1 (cfg : Cfg) (s : State) : Prop where
  len : s.hs.length = cfg.N
  trk : s.tracked.length ≤ cfg.N
  nrefR : s.rpc ≠ RPc.refused
  nrefJ : s.jan ≠ JPc.refused
  nrefH : s.hs[0]? ≠ some HPc.refused
  rstart : preReader s.main = true ↔ s.rpc = .notStarted
  hstart : ∀ j : Nat, j < startedCnt cfg s.main → s.hs[j]? ≠ some HPc.notStarted
  jstart : preJan s.main = true ↔ s.jan = .notStarted
  trk0 : s.jan = .notStarted → s.tracked = List.range cfg.N
  rjoined : postReaderJoin s.main = true → s.rpc = .done

structure InvB1 (cfg : Cfg) (s : State) : Prop where
  len : s.hs.length = cfg.N
  trk : s.tracked.length ≤ cfg.N
  nrefR : s.rpc ≠ RPc.refused
  nrefJ : s.jan ≠ JPc.refused
  nrefH : ∀ i : Nat, s.hs[i]? ≠ some HPc.refused
  rstart : preReader s.main = true ↔ s.rpc = .notStarted
  hstart : ∀ j : Nat, j < startedCnt cfg s.main → s.hs[j]? ≠ some HPc.notStarted
  jstart : preJan s.main = true ↔ s.jan = .notStarted
  trk0 : s.jan = .notStarted → s.tracked = List.range cfg.N
  rjoined : postReaderJoin s.main = true → s.rpc = .done

theorem InvB1.iff {cfg : Cfg} {s : State} :
    InvB1 cfg s ↔ InvR1 cfg s ∧ ∀ i : Nat, s.hs[i]? ≠ some HPc.refused :=
  ⟨fun ⟨a, b, c, d, e, f, g, h, i, j⟩ => ⟨⟨a, b, c, d, e 0, f, g, h, i, j⟩, e⟩,
   fun ⟨⟨a, b, c, d, _, f, g, h, i, j⟩, e⟩ => ⟨a, b, c, d, e, f, g, h, i, j⟩⟩

theorem InvR1.init (cfg : Cfg) : InvR1 cfg (init cfg) := by
  constructor
  case nrefH => exact fun h => nomatch init_hs h
  all_goals simp [Pipeline.init, preReader, preJan, postReaderJoin, startedCnt]

/-- What the invariant reads of main's program counter: `preReader`, `startedCnt`, `preJan`,
    `postReaderJoin`.  A step that changes none of them and leaves the threads alone preserves it. -/
theorem InvR1.congr {cfg : Cfg} {s s' : State} (h : InvR1 cfg s) (hh : s'.hs = s.hs)
    (ht : s'.tracked = s.tracked) (hr : s'.rpc = s.rpc) (hj : s'.jan = s.jan)
    (m1 : preReader s'.main = preReader s.main) (m2 : startedCnt cfg s'.main = startedCnt cfg s.main)
    (m3 : preJan s'.main = preJan s.main)
    (m4 : postReaderJoin s'.main = true → s.rpc = .done) : InvR1 cfg s' := by
  obtain ⟨len, trk, nrefR, nrefJ, nrefH, rstart, hstart, jstart, trk0, -⟩ := h
  constructor <;> simp only [hh, ht, hr, hj, m1, m2, m3] <;> assumption

theorem InvR1.reader {cfg : Cfg} {s s' : State} (h : InvR1 cfg s)
    (hs : ReaderStep cfg s s') : InvR1 cfg s' := by
  obtain ⟨⟨was, ns, nr⟩, hh, ht, hj⟩ := hs.ctl
  have hm := hs.frame.1
  -- the reader runs: main has started it and has not yet seen it finish
  have pre : preReader s.main = false := by
    cases hp : preReader s.main
    · rfl
    · rw [h.rstart.1 hp] at was; cases was
  have post : postReaderJoin s.main = false := by
    cases hp : postReaderJoin s.main
    · rfl
    · rw [h.rjoined hp] at was; cases was
  exact { len := hh ▸ h.len, trk := ht ▸ h.trk, nrefR := nr, nrefJ := hj ▸ h.nrefJ
          nrefH := hh ▸ h.nrefH, rstart := by simp [hm, pre, ns]
          hstart := hm ▸ hh ▸ h.hstart, jstart := hm ▸ hj ▸ h.jstart
          trk0 := hj ▸ ht ▸ h.trk0, rjoined := by simp [hm, post] }

theorem InvR1.hasher {cfg : Cfg} {s s' : State} {i : Nat} (h : InvR1 cfg s)
    (hs : HasherStep cfg s i s') : InvR1 cfg s' := by
  obtain ⟨⟨p, q, hi, ⟨was, ns, nr⟩, hh⟩, ht, hj⟩ := hs.ctl
  obtain ⟨hm, hr, -⟩ := hs.frame
  -- the hasher was running, so neither `refused` nor `notStarted`
  have hp : ∀ r : HPc, r.running = false → s.hs[i]? ≠ some r := fun r hr' e => by
    rw [hi] at e; cases e; rw [hr'] at was; cases was
  exact { len := by rw [hh, List.length_set]; exact h.len
          trk := ht ▸ h.trk, nrefR := hr ▸ h.nrefR, nrefJ := hj ▸ h.nrefJ
          nrefH := fun h0 => h.nrefH ((hh ▸ getElem?_set_other (hp _ rfl) nr 0).1 h0)
          rstart := hm ▸ hr ▸ h.rstart
          hstart := fun j hj' h0 =>
            h.hstart j (hm ▸ hj') ((hh ▸ getElem?_set_other (hp _ rfl) ns j).1 h0)
          jstart := hm ▸ hj ▸ h.jstart, trk0 := hj ▸ ht ▸ h.trk0
          rjoined := hm ▸ hr ▸ h.rjoined }

theorem InvR1.janitor {cfg : Cfg} {s s' : State} (h : InvR1 cfg s)
    (hs : JanitorStep s s') : InvR1 cfg s' := by
  obtain ⟨⟨was, ns, nr⟩, ht, hh⟩ := hs.ctl
  obtain ⟨hm, hr, -⟩ := hs.frame
  have pre : preJan s.main = false := by
    cases hp : preJan s.main
    · rfl
    · rw [h.jstart.1 hp] at was; cases was
  exact { len := hh ▸ h.len, trk := Nat.le_trans ht h.trk, nrefR := hr ▸ h.nrefR, nrefJ := nr
          nrefH := hh ▸ h.nrefH, rstart := hm ▸ hr ▸ h.rstart, hstart := hm ▸ hh ▸ h.hstart
          jstart := by simp [hm, pre, ns], trk0 := fun h0 => absurd h0 ns
          rjoined := hm ▸ hr ▸ h.rjoined }

/-- main starts hasher `i` (or the OS refuses a non-vital one) and moves on to the next start -/
theorem InvR1.startHasher {cfg : Cfg} {s : State} {i : Nat} {q : HPc} {m : MPc} (h : InvR1 cfg s)
    (hm : s.main = .startHasher i) (hq : q ≠ .notStarted) (hq0 : q = .refused → i ≠ 0)
    (hm' : (i + 1 < cfg.N ∧ m = .startHasherChk (i + 1)) ∨ (¬ i + 1 < cfg.N ∧ m = .startJanitorChk)) :
    InvR1 cfg { s with hs := s.hs.set i q, main := m } := by
  obtain ⟨len, trk, nrefR, nrefJ, nrefH, rstart, hstart, jstart, trk0, rjoined⟩ := h
  simp only [hm, preReader, preJan, postReaderJoin, startedCnt] at rstart hstart jstart rjoined
  have hcnt : ∀ j, j < startedCnt cfg m → j < i ∨ (j = i ∧ i < s.hs.length) := fun j hj => by
    rcases hm' with ⟨h1, rfl⟩ | ⟨h1, rfl⟩ <;> simp only [startedCnt] at hj <;> omega
  have hpre : preReader m = false ∧ preJan m = true ∧ postReaderJoin m = false := by
    rcases hm' with ⟨_, rfl⟩ | ⟨_, rfl⟩ <;> exact ⟨rfl, rfl, rfl⟩
  refine ⟨by simpa using len, trk, nrefR, nrefJ, fun h0 => nrefH (getElem?_set_zero hq0 h0),
    by simpa [hpre.1] using rstart, ?_, by simpa [hpre.2.1] using jstart, trk0, by simp [hpre.2.2]⟩
  intro j hj h0
  rw [List.getElem?_set] at h0
  rcases hcnt j hj with hlt | ⟨rfl, hlt⟩
  · rw [if_neg (by omega)] at h0; exact hstart j hlt h0
  · simp [hlt] at h0; exact hq h0

theorem InvR1.mainStep {cfg : Cfg} {s s' : State} (h : InvR1 cfg s)
    (hs : MainStep cfg s s') : InvR1 cfg s' := by
  have hnr : preReader s.main = false → s.rpc ≠ .notStarted := fun hp hr => by
    simp [h.rstart.2 hr] at hp
  cases hs with
  | startReader hm =>
    obtain ⟨len, trk, nrefR, nrefJ, nrefH, rstart, hstart, jstart, trk0, rjoined⟩ := h
    simp only [hm, preJan] at jstart
    exact ⟨len, trk, nofun, nrefJ, nrefH, by simp [preReader], by simp [startedCnt],
      by simpa [preJan] using jstart, trk0, by simp [postReaderJoin]⟩
  | startHasherNext i hm hi => exact h.startHasher hm nofun nofun (.inl ⟨hi, rfl⟩)
  | startHasherLast i hm hi => exact h.startHasher hm nofun nofun (.inr ⟨hi, rfl⟩)
  | startJanitor hm =>
    obtain ⟨len, trk, nrefR, nrefJ, nrefH, rstart, hstart, jstart, trk0, rjoined⟩ := h
    simp only [hm, preReader, startedCnt] at rstart hstart
    exact ⟨len, trk, nrefR, nofun, nrefH, by simpa [preReader] using rstart,
      by simpa [startedCnt] using hstart, by simp [preJan], nofun, by simp [postReaderJoin]⟩
  | joinReaderSkip e hm hr | joinReaderDone e hm hr =>
    have hd := RPc.done_of hr (hnr (by simp [hm, preReader])) h.nrefR
    obtain ⟨len, trk, nrefR, nrefJ, nrefH, rstart, hstart, jstart, trk0, rjoined⟩ := h
    simp only [hm, preReader, preJan, startedCnt] at rstart hstart jstart
    exact ⟨len, trk, nrefR, nrefJ, nrefH, by simpa using rstart, by simpa using hstart,
      by simpa using jstart, trk0, fun _ => hd⟩
  | joinHasherSkip hh idx e hm hr | joinHasherDone hh idx e hm hr =>
    exact h.congr rfl rfl rfl rfl (by rw [hm, preReader_joinTarget]; rfl)
      (by rw [hm, startedCnt_joinTarget]; rfl) (by rw [hm, preJan_joinTarget]; rfl)
      (fun _ => h.rjoined (by rw [hm]; rfl))
  | _ =>
    -- main moves between two program points with the same four readings
    have hm := ‹s.main = _›
    exact h.congr rfl rfl rfl rfl (by rw [hm] <;> rfl) (by rw [hm] <;> rfl) (by rw [hm] <;> rfl)
      (fun hp => h.rjoined (by simp only [hm] at hp ⊢; exact hp))

theorem InvR1.main {cfg : Cfg} {s s' : State} (hnv : NonVital cfg) (h : InvR1 cfg s)
    (hs : MainStepG cfg s s') : InvR1 cfg s' := by
  rcases hs.nonVital hnv with h' | ⟨i, m, hm, h0, hm', rfl⟩
  · exact h.mainStep h'
  · exact h.startHasher hm nofun (fun _ => h0) hm'

theorem InvR1.step {cfg : Cfg} {s s' : State} (hnv : NonVital cfg) (h : InvR1 cfg s)
    (hs : StepG cfg s s') : InvR1 cfg s' := by
  cases hs with
  | main h' => exact h.main hnv h'
  | reader h' => exact h.reader h'
  | hasher i h' => exact h.hasher h'
  | janitor h' => exact h.janitor h'

theorem InvB1.init (cfg : Cfg) : InvB1 cfg (init cfg) :=
  InvB1.iff.2 ⟨.init cfg, fun _ h => nomatch init_hs h⟩

theorem InvB1.main {cfg : Cfg} {s s' : State} (h : InvB1 cfg s)
    (hs : MainStep cfg s s') : InvB1 cfg s' := by
  obtain ⟨hR, hn⟩ := InvB1.iff.1 h
  refine InvB1.iff.2 ⟨hR.mainStep hs, ?_⟩
  cases hs with
  | startHasherNext i hm hi | startHasherLast i hm hi =>
    intro j hj
    exact hn j ((getElem?_set_other (q := .begin_) (hn i) nofun j).1 hj)
  | _ => exact hn

theorem InvB1.reader {cfg : Cfg} {s s' : State} (h : InvB1 cfg s)
    (hs : ReaderStep cfg s s') : InvB1 cfg s' :=
  have ⟨hR, hn⟩ := InvB1.iff.1 h
  InvB1.iff.2 ⟨hR.reader hs, hs.ctl.2.1 ▸ hn⟩

theorem InvB1.hasher {cfg : Cfg} {s s' : State} {i : Nat} (h : InvB1 cfg s)
    (hs : HasherStep cfg s i s') : InvB1 cfg s' := by
  obtain ⟨hR, hn⟩ := InvB1.iff.1 h
  refine InvB1.iff.2 ⟨hR.hasher hs, ?_⟩
  obtain ⟨⟨p, q, hi, ⟨_, _, nr⟩, hh⟩, -⟩ := hs.ctl
  intro j hj
  exact hn j ((hh ▸ getElem?_set_other (hn i) nr j).1 hj)

theorem InvB1.janitor {cfg : Cfg} {s s' : State} (h : InvB1 cfg s)
    (hs : JanitorStep s s') : InvB1 cfg s' :=
  have ⟨hR, hn⟩ := InvB1.iff.1 h
  InvB1.iff.2 ⟨hR.janitor hs, hs.ctl.2.2 ▸ hn⟩

theorem InvB1.step {cfg : Cfg} {s s' : State} (h : InvB1 cfg s) (hs : Step cfg s s') :
    InvB1 cfg s' := by
  cases hs with
  | main h' => exact h.main h'
  | reader h' => exact h.reader h'
  | hasher i h' => exact h.hasher h'
  | janitor h' => exact h.janitor h'

end Torf.Pipeline
