/-
  Torf.Lemmas.CreateHistory — helper lemmas for the history theorems of C15
  (`C15_history_independent` …): `Torrent.path = …` raises nothing on a listing with real names,
  what one operation can do to the object (`Step`, `step_rel`), and three
  invariants along every sequence of `path` assignments and callback firings: what `info` holds is
  what reading `_path` with the current settings gives, `_path` is a `pathlib` path, and
  `info['name']` is the name stored with the files.
-/
import Torf.Lemmas.Create
import Torf.Model.CreateHistory
namespace Torf.Create
open Torf Torf.Paths

theorem pathSetter_ok (o : Oracles) (st : Settings) (env : Env)
    (h : ∀ f ∈ env.order, f.rel.all isClean = true) : ∃ c, pathSetter o st env = .ok c := by
  obtain ⟨L, hL, hp⟩ := pathSetter_listing o st env
  have hc : ∀ f ∈ L, f.rel.all isClean = true := fun f hf => h f (hL.mem_iff.mp hf)
  rw [hp, setFiles_listing o st env.cwd env.pathExists _ L hc]
  exact store_ok env.cwd _ _ fun f hf => hc f (List.mem_filter.mp hf).1

/-- `os.walk` yields directory entries: no `""`, `"."`, `".."` -/
def World.Clean (w : World) : Prop :=
  ∀ B order, w.listing B = some order → ∀ f ∈ order, f.rel.all isClean = true

/-- whether reading a path succeeds does not depend on the settings -/
theorem scan_ok_iff (o : Oracles) (st : Settings) (w : World) (hw : w.Clean) (B : PPath) :
    (∃ c, scan o st w B = .ok c) ↔ ∃ order, w.listing B = some order := by
  unfold scan
  cases hl : w.listing B with
  | none => exact ⟨fun ⟨_, h⟩ => (nomatch h), fun ⟨_, h⟩ => (nomatch h)⟩
  | some order =>
    obtain ⟨c, hc⟩ := pathSetter_ok o st ⟨w.cwd, B, order, w.pathExists⟩ (hw B order hl)
    exact ⟨fun _ => ⟨order, rfl⟩, fun _ => ⟨c, by simp only [hc]⟩⟩

theorem pathlibNorm_idem (p : PPath) : pathlibNorm (pathlibNorm p) = pathlibNorm p := by
  unfold pathlibNorm
  simp only [List.filter_filter, Bool.and_self]

theorem pathAfter_eq_some {w : World} {B B' : PPath} (h : pathAfter w B = some B') : B' = B := by
  unfold pathAfter at h
  split at h
  · exact (Option.some.inj h).symm
  · cases h

theorem step_fire_some {o : Oracles} {w : World} {s : HSt} {B : PPath} (st' : Settings)
    (h : s.path = some B) : step o w s (.fire st') = setPath o w { s with st := st' } B := by
  simp only [step, h]

theorem step_fire_none {o : Oracles} {w : World} {s : HSt} (st' : Settings)
    (h : s.path = none) : step o w s (.fire st') = refilter o w { s with st := st' } := by
  simp only [step, h]

theorem run_induction {P : HSt → Prop} {o : Oracles} {w : World}
    (hstep : ∀ s op, P s → P (step o w s op).1) (s : HSt) (ops : List HOp) (h : P s) :
    P (run o w s ops) :=
  List.foldlRecOn ops _ h fun s hs op _ => hstep s op hs

/-- `keep` covers an exception and a re-filtering that finds nothing to do; of the two conditions of
    `store` the first is what `HNorm` reads, the second what `HInv` reads. -/
inductive Step (o : Oracles) (w : World) (s : HSt) : HSt → Prop
  | clear : Step o w s { s with path := none, reattached := false }
  | keep (st' : Settings) :
      (st' = s.st ∨ ∀ B, s.path = some B → ∃ e, scan o st' w B = .error e) →
      Step o w s { s with st := st' }
  | store (st' : Settings) (c : Created) (p : Option PPath) (r : Bool) :
      (∀ B, p = some B → pathlibNorm B = B ∨ s.path = some B) →
      (r = false → ∀ B, p = some B → scan o st' w B = .ok c) →
      Step o w s ⟨st', p, c, nameAfter s.infoName c, r⟩

theorem step_rel (o : Oracles) (w : World) (s : HSt) (op : HOp) : Step o w s (step o w s op).1 := by
  have set : ∀ st' B, (pathlibNorm B = B ∧ st' = s.st ∨ s.path = some B) →
      Step o w s (setPath o w { s with st := st' } B).1 := fun st' B hB => by
    unfold setPath
    cases hsc : scan o st' w B with
    | error e => exact .keep st' (hB.imp And.right fun hp B' hB' => ⟨e, by cases hp.symm.trans hB'; exact hsc⟩)
    | ok c =>
      exact .store st' c _ false (fun B' hB' => by cases pathAfter_eq_some hB'; exact hB.imp_left And.left)
        fun _ B' hB' => by cases pathAfter_eq_some hB'; exact hsc
  match op with
  | .path none => exact .clear
  | .path (some sp) => exact set s.st _ (.inl ⟨pathlibNorm_idem sp, rfl⟩)
  | .fire st' =>
    cases hp : s.path with
    | some B => rw [step_fire_some st' hp]; exact set st' B (.inr hp)
    | none =>
      rw [step_fire_none st' hp]
      unfold refilter
      dsimp only
      split
      · exact .store st' .empty none false nofun nofun
      · split
        · exact .keep st' (.inr fun B hB => nomatch hp.symm.trans hB)
        · exact .store st' _ _ _ (fun B hB => by cases pathAfter_eq_some hB; exact .inl (pathlibNorm_idem _))
            fun hr B hB => nomatch (congrArg Option.isSome hB).symm.trans hr

/-- as long as `_path` was set by reading a path, `info` holds what reading that path with the
    current settings gives -/
def HInv (o : Oracles) (w : World) (s : HSt) : Prop :=
  s.reattached = false → ∀ B, s.path = some B → scan o s.st w B = .ok s.created

theorem HInv_init (o : Oracles) (w : World) : HInv o w HSt.init := by
  intro _ B hB; cases hB

theorem HInv_step {o : Oracles} {w : World} (hw : w.Clean) {s s' : HSt} (hs : Step o w s s')
    (h : HInv o w s) : HInv o w s' := by
  cases hs with
  | clear => intro _ B hB; cases hB
  | keep st' hk =>
    intro hre B hB
    rcases hk with rfl | hk
    · exact h hre B hB
    · -- reading `B` worked with the old settings, so it cannot fail with the new ones
      obtain ⟨e, he⟩ := hk B hB
      obtain ⟨c', hc'⟩ := (scan_ok_iff o st' w hw B).mpr
        ((scan_ok_iff o s.st w hw B).mp ⟨_, h hre B hB⟩)
      exact nomatch hc'.symm.trans he
  | store st' c p r _ hsc => exact hsc

theorem HInv_run (o : Oracles) (w : World) (hw : w.Clean) (s : HSt) (ops : List HOp)
    (h : HInv o w s) : HInv o w (run o w s ops) :=
  run_induction (fun s op => HInv_step hw (step_rel o w s op)) s ops h

def HNorm (s : HSt) : Prop := ∀ B, s.path = some B → pathlibNorm B = B

theorem HNorm_step {o : Oracles} {w : World} {s s' : HSt} (hs : Step o w s s') (h : HNorm s) :
    HNorm s' := by
  cases hs with
  | clear => intro B hB; cases hB
  | keep => exact h
  | store _ _ _ _ hn _ => exact fun B hB => (hn B hB).elim id (h B)

theorem HNorm_run (o : Oracles) (w : World) (s : HSt) (ops : List HOp) (h : HNorm s) :
    HNorm (run o w s ops) :=
  run_induction (fun s op => HNorm_step (step_rel o w s op)) s ops h

def nameOf : Created → Option String
  | .empty => none
  | .single n _ => some n
  | .multi n _ => some n

def HName (s : HSt) : Prop := ∀ n, nameOf s.created = some n → s.infoName = some n

theorem HName_step {o : Oracles} {w : World} {s s' : HSt} (hs : Step o w s s') (h : HName s) :
    HName s' := by
  cases hs with
  | clear => exact h
  | keep => exact h
  | store _ c _ _ _ _ =>
    -- `_set_files` writes the name together with the files
    intro n hn
    cases c <;> first | exact hn | cases hn

theorem HName_run (o : Oracles) (w : World) (s : HSt) (ops : List HOp) (h : HName s) :
    HName (run o w s ops) :=
  run_induction (fun s op => HName_step (step_rel o w s op)) s ops h

theorem step_fire_init (o : Oracles) (w : World) (s : HSt) (st' : Settings)
    (hp : s.path = none) (hc : s.created = .empty) :
    (step o w s (.fire st')).1 = { s with st := st', reattached := false } := by
  rw [step_fire_none st' hp]
  unfold refilter
  simp [hc, hp, filesOfCreated]

theorem fresh_eq (o : Oracles) (w : World) (st : Settings) (sp : PPath) :
    fresh o w st sp = (setPath o w { HSt.init with st := st } (pathlibNorm sp)).1 := by
  unfold fresh run
  simp only [List.foldl_cons, List.foldl_nil]
  rw [step_fire_init o w HSt.init _ rfl rfl, step_fire_init o w _ _ rfl rfl,
    step_fire_init o w _ _ rfl rfl, step_fire_init o w _ _ rfl rfl]
  rfl

theorem fresh_created (o : Oracles) (w : World) (st : Settings) (sp : PPath) (c : Created)
    (h : scan o st w (pathlibNorm sp) = .ok c) :
    (fresh o w st sp).created = c ∧ (fresh o w st sp).infoName = nameOf c := by
  rw [fresh_eq]
  unfold setPath
  have h' : scan o ({ HSt.init with st := st } : HSt).st w (pathlibNorm sp) = .ok c := h
  rw [h']
  refine ⟨rfl, ?_⟩
  cases c <;> rfl

end Torf.Create
