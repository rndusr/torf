/-
  Torf.Lemmas.PipelineMeasure — a progress measure for the pipeline: a natural number computed
  from the core state that every progress step strictly decreases.  Hence every execution, under
  any schedule, contains at most `progressBound cfg = 14·N + 4·#items + 27` progress steps; the
  only steps that can repeat forever are the idle ones (the vital hasher's idle timeout, janitor
  polling rounds that prune nothing, the janitor's busy wait).
-/
import Torf.Lemmas.PipelineProg
namespace Torf.Pipeline

/-- main's rank: its program points in execution order, counted down -/
def mainRank (N : Nat) : MPc → Nat
  | .startReaderChk => 4 * N + 13
  | .startReader => 4 * N + 12
  | .startHasherChk i => 2 * N + 9 + 2 * (N - i) + 2
  | .startHasher i => 2 * N + 9 + 2 * (N - i) + 1
  | .startJanitorChk => 2 * N + 9
  | .startJanitor => 2 * N + 8
  | .collect => 2 * N + 7
  | .joinReaderChk _ => 2 * N + 6
  | .joinReader _ => 2 * N + 5
  | .joinHasherChk _ idx _ => 2 + 2 * (N - idx) + 2
  | .joinHasher _ idx _ => 2 + 2 * (N - idx) + 1
  | .joinJanitorChk _ => 2
  | .joinJanitor _ => 1
  | .finished _ => 0

/-- the reader's rank; `n` = number of items -/
def rRank (n : Nat) : RPc → Nat
  | .notStarted => 4 * n + 7
  | .begin_ => 4 * n + 6
  | .putting k => 4 * (n - k) + 5
  | .closing => 4
  | .done => 0
  | .refused => 0

/-- a hasher's rank; a held piece weighs 2 -/
def hRank : HPc → Nat
  | .notStarted => 9
  | .begin_ => 8
  | .getting => 7
  | .holding _ => 9
  | .requeue => 5
  | .setEv => 1
  | .done => 0
  | .refused => 0

/-- the janitor's rank; constant on the positions inside a polling round -/
def jRank : JPc → Nat
  | .notStarted => 7
  | .begin_ => 6
  | .waiting => 5
  | .prune _ => 5
  | .spin _ => 4
  | .closing => 2
  | .done => 0
  | .refused => 0

/-- An entry of the piece queue weighs 3: taking it (the hasher's rank goes from 7 to 9), delivering
    it (back to 7, and one entry more in the hash queue) and collecting it each lower the sum by 1. -/
def mu (cfg : Cfg) (s : State) : Nat :=
  mainRank cfg.N s.main + rRank cfg.items.length s.rpc + (s.hs.map hRank).sum + jRank s.jan +
    s.tracked.length + 3 * s.pq.length + s.hq.length

/-- `mu (init cfg)` -/
def progressBound (cfg : Cfg) : Nat := 14 * cfg.N + 4 * cfg.items.length + 27

theorem jRank_coreJan (j : JPc) : jRank (coreJan j) = jRank j := by
  cases j <;> rfl

theorem mu_core (cfg : Cfg) (s : State) : mu cfg (core s) = mu cfg s := by
  simp [mu, core, jRank_coreJan]

/-- the measure is a function of the core state, so a step that lowers it is a progress step -/
theorem isProgress_of_mu_lt {cfg : Cfg} {s s' : State} (h : mu cfg s' < mu cfg s) :
    isProgress s s' = true :=
  isProgress_of_ne (mu cfg) (mu_core cfg) (Nat.ne_of_gt h)

theorem mu_init (cfg : Cfg) : mu cfg (init cfg) = progressBound cfg := by
  simp only [mu, Pipeline.init, mainRank, rRank, jRank, List.map_replicate, List.sum_replicate_nat, hRank,
    List.length_range,
    List.length_nil, progressBound]
  omega

theorem sum_map_set {α : Type} (f : α → Nat) :
    ∀ (l : List α) (i : Nat) (p q : α), l[i]? = some p →
      ((l.set i q).map f).sum + f p = (l.map f).sum + f q
  | [], i, p, q, h => by simp at h
  | a :: l, 0, p, q, h => by
    simp only [List.getElem?_cons_zero, Option.some.injEq] at h
    subst h
    simp only [List.set_cons_zero, List.map_cons, List.sum_cons]
    omega
  | a :: l, i + 1, p, q, h => by
    simp only [List.getElem?_cons_succ] at h
    have := sum_map_set f l i p q h
    simp only [List.set_cons_succ, List.map_cons, List.sum_cons]
    omega

def progressSteps (cfg : Cfg) : State → List Label → Nat
  | _, [] => 0
  | s, l :: ls =>
    match step cfg s l with
    | none => 0
    | some s' => (if isProgress s s' then 1 else 0) + progressSteps cfg s' ls

theorem mu_set_hs {cfg : Cfg} {s : State} {i : Nat} {p q : HPc} {pq' hq' : List (Option Nat)}
    {f : Bool} (hi : s.hs[i]? = some p)
    (h : hRank q + 3 * pq'.length + hq'.length < hRank p + 3 * s.pq.length + s.hq.length) :
    mu cfg { s with pq := pq', hq := hq', fin := f, hs := s.hs.set i q } < mu cfg s := by
  have := sum_map_set hRank s.hs i p q hi
  simp only [mu]; omega

theorem mu_hasher {cfg : Cfg} {s s' : State} {i : Nat} (hs : HasherStep cfg s i s') :
    mu cfg s' < mu cfg s ∨ s' = s := by
  cases hs with
  | idle hi hpq h0 => exact .inr rfl
  | begin hi | quit hi | setEv hi => exact .inl (mu_set_hs hi (by simp only [hRank]; omega))
  | take k rest hi hpq | takeClosed rest hi hpq =>
    exact .inl (mu_set_hs hi (by simp only [hRank, hpq, List.length_cons]; omega))
  | deliver k hi | requeue hi hc =>
    exact .inl (mu_set_hs hi
      (by simp only [hRank, List.length_append, List.length_singleton]; omega))

/-- `4 (n - k) + 5` is the rank of `putting k`, the highest the reader can have after it has read
    piece `k` -/
theorem mu_readerNext {cfg : Cfg} {t t' : State} {k : Nat} (hn : ReaderNext cfg t k t') :
    mu cfg t' + rRank cfg.items.length t.rpc ≤ mu cfg t + 4 * (cfg.items.length - k) + 5 := by
  cases hn <;> (simp only [mu, rRank]; omega)

theorem mu_reader {cfg : Cfg} {s s' : State} (hA : InvA cfg s) (hs : ReaderStep cfg s s') :
    mu cfg s' < mu cfg s := by
  cases hs with
  | begin hr t hn =>
    have := mu_readerNext hn
    simp only [hr, rRank] at this; omega
  | put k hr hc t hn =>
    -- the piece costs 3 in the queue, the reader's rank drops by 4
    have hk := (hA.putting k hr).2
    have := mu_readerNext hn
    simp only [mu, hr, rRank, List.length_append, List.length_singleton] at this ⊢; omega
  | close hr hc =>
    simp only [mu, hr, rRank, List.length_append, List.length_singleton]; omega

theorem mu_set_jan {cfg : Cfg} {s : State} {j : JPc} (h : jRank j < jRank s.jan) :
    mu cfg { s with jan := j } < mu cfg s := by
  simp only [mu]; omega

theorem core_set_jan {s : State} {j : JPc} (h : coreJan j = coreJan s.jan) :
    core { s with jan := j } = core s := by
  simp only [core, h]

theorem jRank_spinPc_le (l : List Nat) : jRank (spinPc l) ≤ 4 := by
  cases l <;> simp [spinPc, jRank]

theorem mu_janitor {cfg : Cfg} {s s' : State} (hs : JanitorStep s s') :
    mu cfg s' < mu cfg s ∨ core s' = core s := by
  cases hs with
  | begin hj => exact .inl (mu_set_jan (by rw [hj]; decide))
  | wake hj hf =>
    exact .inl (mu_set_jan (by rw [hj]; exact Nat.lt_succ_of_le (jRank_spinPc_le _)))
  | timeout hj hf => exact .inr (core_set_jan (by rw [hj, coreJan_prunePc]; rfl))
  | pruneKeep h rest hj hr => exact .inr (core_set_jan (by rw [hj, coreJan_prunePc]; rfl))
  | pruneDrop h rest hj hr =>
    by_cases hm : h ∈ s.tracked
    · -- the pool tracks one hasher less
      left
      have hl := List.length_erase_of_mem hm
      have hpos : 0 < s.tracked.length := List.length_pos_of_mem hm
      have : jRank (prunePc rest) = jRank s.jan := by rw [hj]; cases rest <;> rfl
      simp only [mu, this, hl]; omega
    · right
      rw [List.erase_of_not_mem hm]
      exact core_set_jan (by rw [hj, coreJan_prunePc]; rfl)
  | spinRestart h rest hj hr =>
    rcases spinPc_cases s.tracked with ⟨_, h'⟩ | ⟨_, h'⟩ <;> rw [h']
    · exact .inl (mu_set_jan (by rw [hj]; simp [jRank]))
    · exact .inr (core_set_jan (by rw [hj]; rfl))
  | spinNext h rest hj hr =>
    rcases spinPc_cases rest with ⟨_, h'⟩ | ⟨_, h'⟩ <;> rw [h']
    · exact .inl (mu_set_jan (by rw [hj]; simp [jRank]))
    · exact .inr (core_set_jan (by rw [hj]; rfl))
  | close hj =>
    left; simp only [mu, hj, jRank, List.length_append, List.length_singleton]; omega

theorem mu_set_main {cfg : Cfg} {s : State} {m : MPc}
    (h : mainRank cfg.N m < mainRank cfg.N s.main) : mu cfg { s with main := m } < mu cfg s := by
  simp only [mu]; omega

theorem mainRank_joinTarget_le (N : Nat) (s : State) (idx : Nat) (e : Option Exc) :
    mainRank N (joinTarget s idx e) ≤ 2 + 2 * (N - idx) + 2 := by
  unfold joinTarget; split <;> simp only [mainRank] <;> omega

/-- the next tracked hasher, if there is one, has a position below `N` -/
theorem mainRank_joinTarget_succ {N : Nat} {s : State} (ht : s.tracked.length ≤ N) (idx : Nat)
    (e : Option Exc) : mainRank N (joinTarget s (idx + 1) e) < 2 + 2 * (N - idx) + 1 := by
  unfold joinTarget
  split
  · rename_i hsome
    have := (List.getElem?_eq_some_iff.1 hsome).1
    simp only [mainRank]; omega
  · simp only [mainRank]; omega

theorem mu_main {cfg : Cfg} {s s' : State} (h : Inv cfg s) (hs : MainStep cfg s s') :
    mu cfg s' < mu cfg s := by
  -- a hasher that is started was `notStarted`: its rank drops from 9 to 8
  have hstart : ∀ i, s.main = .startHasher i →
      ((s.hs.set i .begin_).map hRank).sum ≤ (s.hs.map hRank).sum := by
    intro i hm
    cases hi : s.hs[i]? with
    | none => rw [List.set_eq_of_length_le (by simpa using hi)]; exact Nat.le_refl _
    | some p =>
      have hp := h.a.unstarted hm hi
      subst hp
      have := sum_map_set hRank s.hs i _ .begin_ hi
      simp only [hRank] at this
      omega
  cases hs with
  | startReaderChk hm | startHasherChk i hm | startJanitorChk hm | joinReaderChkRun e hm
  | joinHasherChkRun hh idx e hm | joinJanitorChkRun e hm | joinJanitorSkip e hm
  | joinJanitorDone e hm =>
    exact mu_set_main (by rw [hm]; simp only [mainRank]; omega)
  | joinReaderSkip e hm | joinReaderDone e hm =>
    refine mu_set_main (Nat.lt_of_le_of_lt (mainRank_joinTarget_le ..) ?_)
    rw [hm]; simp only [mainRank]; omega
  | joinHasherSkip hh idx e hm | joinHasherDone hh idx e hm =>
    refine mu_set_main (Nat.lt_of_lt_of_le (mainRank_joinTarget_succ h.b1.trk idx e) ?_)
    rw [hm]; simp only [mainRank]; omega
  | startReader hm =>
    have hr := h.b1.rstart.1 (by simp [hm, preReader])
    simp only [mu, hm, hr, mainRank, rRank]; omega
  | startHasherNext i hm hi | startHasherLast i hm hi =>
    have := hstart i hm
    simp only [mu, hm, mainRank]; omega
  | startJanitor hm =>
    have hj := h.b1.jstart.1 (by simp [hm, preJan])
    simp only [mu, hm, hj, mainRank, jRank]; omega
  | collectClosed rest hm hq | collectRaise k rest hm hq | collectPass k rest hm hq
  | collectCancel k rest hm hq | collectCbRaise k rest hm hq =>
    -- an entry leaves the hash queue
    have hl := congrArg List.length hq
    simp only [List.length_cons] at hl
    simp only [mu, hm, mainRank]; omega

/-- A step lowers the measure or keeps the core state; main, the reader and the hashers then change
    nothing at all (their only idle step is the hasher's timeout). -/
theorem mu_step {cfg : Cfg} {s s' : State} {l : Label} (hrf : cfg.refuse = []) (h : Inv cfg s)
    (hs : step cfg s l = some s') :
    mu cfg s' < mu cfg s ∨ (core s' = core s ∧ (l.tid ≠ .janitor → s' = s)) := by
  cases LStep.of_step hs with
  | main h' => exact .inl (mu_main h (.of_step hrf h.a h'))
  | reader h' => exact .inl (mu_reader h.a (.of_step h'))
  | hasher i b h' => exact (mu_hasher (.of_step h')).imp_right fun e => ⟨congrArg core e, fun _ => e⟩
  | janitor b h' => exact (mu_janitor (.of_step h')).imp_right fun e => ⟨e, fun hn => absurd rfl hn⟩

theorem mu_progress {cfg : Cfg} {s s' : State} {l : Label} (hrf : cfg.refuse = []) (h : Inv cfg s)
    (hs : step cfg s l = some s') :
    mu cfg s' + (if isProgress s s' then 1 else 0) ≤ mu cfg s := by
  by_cases hp : core s = core s'
  · have : isProgress s s' = false := by simp [isProgress, hp]
    rw [this, ← mu_core cfg s', ← hp, mu_core]
    simp
  · rcases mu_step hrf h hs with hlt | ⟨heq, -⟩
    · split <;> omega
    · exact absurd heq.symm hp

theorem progressSteps_le {cfg : Cfg} (hrf : cfg.refuse = []) :
    ∀ (ls : List Label) (s₀ s : State), Inv cfg s₀ → run cfg s₀ ls = some s →
      progressSteps cfg s₀ ls + mu cfg s ≤ mu cfg s₀ := by
  intro ls
  induction ls with
  | nil =>
    intro s₀ s _ hr
    simp only [run, Option.some.injEq] at hr
    subst hr
    simp [progressSteps]
  | cons l ls ih =>
    intro s₀ s h hr
    simp only [run] at hr
    cases hst : step cfg s₀ l with
    | none => simp [hst] at hr
    | some s₁ =>
      simp only [hst] at hr
      have h1 := mu_progress hrf h hst
      have h2 := ih s₁ s (h.step hrf hst) hr
      simp only [progressSteps, hst]
      omega

end Torf.Pipeline
