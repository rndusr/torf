/-
  Torf.Lemmas.PipelineCore — the steps of main, the reader and the hashers do not depend on the
  janitor's position inside its polling round: they commute with `core`.  Each thread has at most
  one enabled label in a state, so its step is determined (`step_unique`).
-/
import Torf.Lemmas.PipelineMeasure
namespace Torf.Pipeline

@[simp] theorem coreJan_running (j : JPc) : (coreJan j).running = j.running := by cases j <;> rfl

@[simp] theorem core_core (s : State) : core (core s) = core s := by simp [core]

@[simp] theorem core_main' (s : State) : (core s).main = s.main := rfl
@[simp] theorem core_rpc' (s : State) : (core s).rpc = s.rpc := rfl
@[simp] theorem core_stop' (s : State) : (core s).stop = s.stop := rfl
@[simp] theorem core_rexc' (s : State) : (core s).rexc = s.rexc := rfl
@[simp] theorem core_pq' (s : State) : (core s).pq = s.pq := rfl
@[simp] theorem core_hs' (s : State) : (core s).hs = s.hs := rfl
@[simp] theorem core_fin' (s : State) : (core s).fin = s.fin := rfl
@[simp] theorem core_hq' (s : State) : (core s).hq = s.hq := rfl
@[simp] theorem core_tracked' (s : State) : (core s).tracked = s.tracked := rfl
@[simp] theorem core_seen' (s : State) : (core s).seen = s.seen := rfl
@[simp] theorem core_collected' (s : State) : (core s).collected = s.collected := rfl
@[simp] theorem core_jan' (s : State) : (core s).jan = coreJan s.jan := rfl
@[simp] theorem hasherRunning_core (s : State) (h : Nat) : hasherRunning (core s) h = hasherRunning s h := rfl

theorem core_with_main (s : State) (m : MPc) :
    core { core s with main := m } = core { s with main := m } := by simp [core]

/-! ### steps of main, the reader and the hashers commute with `core`

Main reads of the janitor only whether it is running (`coreJan_running`) and writes its program
counter only when it starts it (to `begin_`/`refused`, which `coreJan` leaves alone); the reader
and the hashers do not look at it at all.  In each proof both sides make the same case
distinctions, and in every case the two states are the same record. -/

theorem stepMain_core (cfg : Cfg) (s : State) : stepMain cfg (core s) = (stepMain cfg s).map core := by
  rcases s with ⟨main, rpc, stop, rexc, pq, hs, fin, hq, jan, tracked, seen, collected⟩
  cases main <;>
    simp only [stepMain, core, coreJan_running, afterReaderJoin, enterJoinHasher, finishWith,
      hasherRunning, setHasher]
  case startReader =>
    by_cases h : cfg.refuse.contains .reader = true <;> simp only [h, ↓reduceIte] <;> rfl
  case startHasher i =>
    by_cases h : cfg.refuse.contains (.hasher i) = true <;> cases i <;>
      simp only [h, Nat.add_one_ne_zero, ↓reduceIte] <;> rfl
  case startJanitor =>
    by_cases h : cfg.refuse.contains .janitor = true <;> simp only [h, ↓reduceIte] <;> rfl
  case collect =>
    rcases hq with _ | ⟨_ | k, rest⟩ <;> simp only
    · rfl
    · rfl
    · by_cases h1 : seen.contains k = true <;>
      by_cases h2 : (cfg.items.getD k .nodata == .data || cfg.items.getD k .nodata == .mismatch) = true <;>
      by_cases h3 : isRaising cfg (cfg.items.getD k .nodata) = true <;>
      simp only [h1, h2, h3, Bool.false_eq_true, ↓reduceIte] <;> first | rfl | (split <;> rfl)
  case joinReaderChk | joinReader =>
    by_cases h : rpc.running = true <;> simp only [h, Bool.false_eq_true, ↓reduceIte] <;>
      (try split) <;> rfl
  case joinHasherChk h idx e | joinHasher h idx e =>
    by_cases h : (hs.getD h .notStarted).running = true <;>
      simp only [h, Bool.false_eq_true, ↓reduceIte] <;> (try split) <;> rfl
  case joinJanitorChk | joinJanitor =>
    by_cases h : jan.running = true <;> simp only [h, ↓reduceIte] <;> rfl
  all_goals rfl

theorem readerNext_core (cfg : Cfg) (t : State) (k : Nat) :
    readerNext cfg (core t) k = core (readerNext cfg t k) := by
  simp only [readerNext, apply_ite core]
  rfl

theorem stepReader_core (cfg : Cfg) (s : State) :
    stepReader cfg (core s) = (stepReader cfg s).map core := by
  unfold stepReader
  simp only [core_rpc', core_pq']
  by_cases hc : s.pq.length < cfg.cap <;> simp only [hc, ↓reduceIte] <;> split <;>
    first
    | rfl
    | exact congrArg some (readerNext_core cfg s 0)
    | exact congrArg some (readerNext_core cfg { s with pq := _ } _)

theorem stepHasher_core (cfg : Cfg) (s : State) (i : Nat) (b : Bool) :
    stepHasher cfg (core s) i b = (stepHasher cfg s i b).map core := by
  unfold stepHasher
  simp only [core_hs', core_pq']
  split
  case h_3 =>
    by_cases h0 : i = 0 <;> rcases s.pq with _ | ⟨_ | k, rest⟩ <;> cases b <;>
      simp only [h0, Bool.false_eq_true, ↓reduceIte] <;> rfl
  case h_5 =>
    by_cases hc : s.pq.length < cfg.cap <;> cases b <;>
      simp only [hc, Bool.false_eq_true, ↓reduceIte] <;> rfl
  all_goals first | rfl | (cases b <;> rfl)

theorem core_step (cfg : Cfg) (s : State) (l : Label) (hl : l.tid ≠ .janitor) :
    step cfg (core s) l = (step cfg s l).map core := by
  unfold step
  split
  · split
    · rfl
    · exact stepMain_core cfg s
  · split
    · rfl
    · exact stepReader_core cfg s
  · exact stepHasher_core cfg s _ _
  · rename_i h; exact absurd h hl

theorem step_of_core_eq {cfg : Cfg} {s t s' : State} {l : Label} (hl : l.tid ≠ .janitor)
    (hc : core s = core t) (hs : step cfg s l = some s') :
    ∃ t', step cfg t l = some t' ∧ core t' = core s' :=
  Option.map_eq_some_iff.1 (by rw [← core_step cfg t l hl, ← hc, core_step cfg s l hl, hs]; rfl)

theorem stepHasher_timeout {cfg : Cfg} {s s' : State} {i : Nat}
    (h : stepHasher cfg s i true = some s') : s.hs[i]? = some .getting ∧ s.pq = [] := by
  unfold stepHasher at h
  split at h
  case h_3 hi => cases hq : s.pq <;> simp_all
  all_goals simp at h

theorem stepHasher_blocked {cfg : Cfg} {s : State} {i : Nat} (hi : s.hs[i]? = some .getting)
    (hq : s.pq = []) : stepHasher cfg s i false = none := by
  simp [stepHasher, hi, hq]

theorem stepJanitor_timeout {cfg : Cfg} {s s' : State} (h : stepJanitor cfg s true = some s') :
    s.jan = .waiting ∧ s.fin = false := by
  unfold stepJanitor at h
  split at h
  case h_2 hj => cases hf : s.fin <;> simp_all
  all_goals simp at h

/-- In a state a thread has at most one enabled label — the timeout alternative of a `get`/`wait`
    is enabled exactly when the blocking alternative is not —, so its step from that state is
    determined. -/
theorem step_unique {cfg : Cfg} {s s₁ s₂ : State} {l₁ l₂ : Label} (ht : l₁.tid = l₂.tid)
    (h1 : step cfg s l₁ = some s₁) (h2 : step cfg s l₂ = some s₂) : s₁ = s₂ := by
  obtain ⟨t, b⟩ := l₁
  obtain ⟨t', b'⟩ := l₂
  cases ht
  suffices hx : ∀ s₁ s₂, step cfg s ⟨t, true⟩ = some s₁ → step cfg s ⟨t, false⟩ = some s₂ → False by
    cases b <;> cases b' <;>
      first
      | exact Option.some.inj (h1.symm.trans h2)
      | exact (hx _ _ h1 h2).elim
      | exact (hx _ _ h2 h1).elim
  intro s₁ s₂ h1 h2
  cases LStep.of_step h1 with
  | hasher i _ h1 =>
    obtain ⟨hi, hq⟩ := stepHasher_timeout h1
    rw [show step cfg s ⟨.hasher i, false⟩ = stepHasher cfg s i false from rfl,
      stepHasher_blocked hi hq] at h2
    cases h2
  | janitor _ h1 =>
    obtain ⟨hj, hf⟩ := stepJanitor_timeout h1
    simp [step, stepJanitor, hj, hf] at h2

end Torf.Pipeline
