/-
  `validate`, the two branches: `checkSingle`; the content-path loop of the multi-file branch and `checkMulti`.
-/
import Torf.Lemmas.ValidateFile
namespace Torf.Validate
open Torf Torf.Export

variable (urlOk : Bytes → Bool) (fs : FsOracle)

def SingleWorld (fs : FsOracle) (info : Items) : Prop :=
  fs.hasPath = true → ∀ l len, PyVal.lookupStr "length" info = some l → numVal? l = some len →
    fs.root = .file len.toNat ∧ 0 ≤ len

theorem checkSingle_checks {X : Prop} {items info : Items} (cf : CommonFacts urlOk items info) (plen : Nat)
    (hfil : PyVal.lookupStr "files" info = none) :
    Checks X (SizeFacts info plen ∧ SingleWorld fs info)
      (checkSingle fs (.dict items) (.dict info) plen) := by
  obtain ⟨pv, hpv, _, _⟩ := cf.pieceLength
  unfold checkSingle
  rw [assertType_info cf.hinfo, assertType_info cf.hinfo]
  refine (assertFinal_dict_checks _).bind fun h1 => (assertFinal_dict_checks _).bind fun _ => ?_
  obtain ⟨l, hl, hlp⟩ := h1.2 rfl
  obtain ⟨len, hnum, hlen0⟩ := numVal_of_fileLength hlp.1 (hlp.2 _ rfl)
  simp only [getE_dict hpv, getE_dict hl, ok_bind, hnum]
  refine Checks.ite (fun _ => Checks.metainfo) fun hc => ?_
  have sf : SizeFacts info plen := ⟨len, pv, .single hfil hl hnum hlen0, hpv, Decidable.not_not.mp hc⟩
  refine Checks.ite (fun _ => ?_) fun hp => Checks.done ⟨sf, fun h => absurd h hp⟩
  refine (Checks.of_cases (checkRootFile_cases fs len)).imp fun hr => ⟨sf, fun _ l' len' hl' hn' => ?_⟩
  cases hl.symm.trans hl'
  cases hnum.symm.trans hn'
  exact hr

theorem checkFileOnDisk_checks {x : PyVal} (i : Nat) (hx : EntryFacts x) :
    Checks (entryJoinable x = true) (fs.fileStat i = .file (fileLen x).toNat ∧ entryJoinable x = true)
      (checkFileOnDisk fs i x) := by
  obtain ⟨en, l, len, p, rfl, hl, hnum, _, hp, _, comps, hcomps, _⟩ := hx
  have hj : entryJoinable (.dict en) = joinable comps := by simp only [entryJoinable, hp, hcomps]
  unfold checkFileOnDisk
  simp only [getE_dict hp, iterE_eq hcomps, ok_bind, hj]
  refine Checks.ite (fun hnj => ⟨nofun, fun hX => absurd hX (by simpa using hnj)⟩) fun hjo => ?_
  rcases statSize_cases (fs.fileStat i) with ⟨n, hn, hs⟩ | ⟨_, hs⟩
  · simp only [hs, ok_bind, getE_dict hl, hnum]
    refine Checks.guard.imp fun hne => ⟨?_, by simpa using hjo⟩
    rw [hn, fileLen_dict hl hnum, ← Decidable.not_not.mp hne, Int.toNat_natCast]
  · rw [hs]; exact Checks.metainfo

def MultiWorld (fs : FsOracle) (info : Items) : Prop :=
  fs.hasPath = true → ∀ fl files, PyVal.lookupStr "files" info = some fl → pyIter fl = some files →
    fs.root.isDir = true ∧
      ∀ j x, files[j]? = some x → fs.fileStat j = .file (fileLen x).toNat ∧ entryJoinable x = true

/-- outside the class of finding D07f, seen from `info`: `files` is not a mapping and, when a content path is set,
    every `path` is one that `os.path.join` accepts -/
def FilesOk (fs : FsOracle) (info : Items) : Prop :=
  ∀ fl, PyVal.lookupStr "files" info = some fl → fl.isDict = false ∧
    (fs.hasPath = true → ∀ files, pyIter fl = some files → ∀ x ∈ files, entryJoinable x = true)

theorem lookupNat_some_key {n : Nat} {l : Items} {v : PyVal} (h : lookupNat n l = some v) :
    ∃ k ∈ l.map (·.1), keyEqNat n k = true :=
  let ⟨k, hk, hm⟩ := mem_of_firstWith (lookupNat_eq_firstWith n l ▸ h)
  ⟨k, List.mem_map_of_mem (f := (·.1)) hm, hk⟩

theorem key_of_getItem_i {n : Nat} {l : Items} {v : PyVal} (h : getItem (.dict l) (.i n) = .val v) :
    ∃ k ∈ l.map (·.1), keyEqNat n k = true := by
  simp only [Validate.getItem, lookupKey] at h
  split at h
  · exact lookupNat_some_key ‹_›
  · cases h

/-- a mapping as `files` never validates: with no key the piece count is wrong; else `files[0]` must exist, so some key
    equals `0`, but every key the loop sees must be subscriptable with `'path'`, i.e. a mapping itself -/
theorem checkMulti_dict_fails {items info kvs : Items} (cf : CommonFacts urlOk items info) {plen : Nat}
    (hplen : plen / 20 ≠ 0) (hfl : PyVal.lookupStr "files" info = some (.dict kvs)) :
    checkMulti fs (.dict items) (.dict info) plen ≠ .ok () := by
  intro h
  obtain ⟨pv, hpv, _⟩ := cf.pieceLength
  unfold checkMulti at h
  obtain ⟨_, _, h⟩ := bind_ok h
  simp only [getE_dict hfl, iterE_eq (v := .dict kvs) rfl, ok_bind] at h
  obtain ⟨_, h2, h⟩ := bind_ok h
  have hweak := fun j k hj => checkFile_ok_weak cf.hinfo hfl (forEnum_ok h2 j k hj)
  cases kvs with
  | nil =>
    simp only [List.map_nil, sumLengths, pure, Except.pure, ok_bind, getE_dict hpv,
      expPieces_zero] at h
    rw [if_pos (by omega)] at h
    cases h
  | cons kv t =>
    obtain ⟨⟨f', hf'⟩, _⟩ := hweak 0 kv.1 rfl
    obtain ⟨k, hk, hk0⟩ := key_of_getItem_i hf'
    obtain ⟨j, hj⟩ := List.getElem?_of_mem hk
    obtain ⟨_, p, hp⟩ := hweak j k hj
    cases k <;> simp [Validate.getItem, keyEqNat] at hp hk0

variable {urlOk}

theorem checkMulti_checks {items info : Items} (cf : CommonFacts urlOk items info) {plen : Nat}
    (hplen : plen / 20 ≠ 0) (hlen : PyVal.lookupStr "length" info = none) :
    Checks (FilesOk fs info)
      (SizeFacts info plen ∧ MultiWorld fs info)
      (checkMulti fs (.dict items) (.dict info) plen) := by
  by_cases hdict : ∃ fl, PyVal.lookupStr "files" info = some fl ∧ fl.isDict = true
  · obtain ⟨fl, hfl, hd⟩ := hdict
    obtain ⟨kvs, rfl⟩ := isDict_iff.mp hd
    exact ⟨fun h => absurd h (checkMulti_dict_fails urlOk fs cf hplen hfl), fun hX => nomatch (hX _ hfl).1⟩
  obtain ⟨pv, hpv, _, _⟩ := cf.pieceLength
  unfold checkMulti
  rw [assertType_info cf.hinfo]
  refine (assertFinal_dict_checks _).bind fun h1 => ?_
  obtain ⟨fl, hfl, hflp⟩ := h1.2 rfl
  have hnd : fl.isDict = false := Bool.eq_false_iff.mpr fun hd => hdict ⟨fl, hfl, hd⟩
  have hfli : fl.isIterable = true := hflp.1
  obtain ⟨files, hfiles⟩ := pyIter_of_isIterable hfli
  simp only [getE_dict hfl, iterE_eq hfiles, ok_bind]
  refine (Checks.forEnum fun j x hx => checkFile_checks cf.hinfo hfl (getItem_of_iter hnd hfiles hx)).bind fun h2 => ?_
  have hfacts : ∀ x ∈ files, EntryFacts x := fun x hx => let ⟨j, hj⟩ := List.getElem?_of_mem hx; h2 j x hj
  simp only [sumLengths_ok files 0 hfacts, Int.zero_add, getE_dict hpv, ok_bind]
  refine Checks.ite (fun _ => Checks.metainfo) fun hc => ?_
  have mf : SizeFacts info plen :=
    ⟨_, pv, .multi hlen hfl (.of_mem hfli hnd hfiles hfacts) hfiles, hpv, Decidable.not_not.mp hc⟩
  refine Checks.ite (fun hp => Checks.ite (fun _ => Checks.metainfo) fun hdir => ?_) fun hp =>
    Checks.done ⟨mf, fun h => absurd h hp⟩
  · refine Checks.imp (Checks.forEnum (R := fun j x => fs.fileStat j = .file (fileLen x).toNat ∧
        entryJoinable x = true) fun j x hx => ?_) fun h => ⟨mf, fun _ fl' files' hfl' hfiles' => ?_⟩
    · exact (checkFileOnDisk_checks fs j (hfacts x (List.mem_of_getElem? hx))).mono fun hX =>
        (hX fl hfl).2 hp files hfiles x (List.mem_of_getElem? hx)
    · cases hfl.symm.trans hfl'
      cases hfiles.symm.trans hfiles'
      exact ⟨by simpa using hdir, h⟩

end Torf.Validate
