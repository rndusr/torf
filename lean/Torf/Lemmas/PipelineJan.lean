/-
  Torf.Lemmas.PipelineJan — the janitor and the hash queue (clauses (iv), (v) of the invariant
  sketched in DESIGN.md, Appendix A): every running hasher is tracked by the pool; the janitor
  only closes the hash queue after the finalize event and after it has seen every tracked hasher
  dead, so when the sentinel is in the hash queue no hasher runs any more and nothing is pushed
  behind it; main only returns after the janitor.
-/
import Torf.Lemmas.PipelineSent
namespace Torf.Pipeline

theorem hasherRunning_false {s : State} {h : Nat} (hr : hasherRunning s h = false) :
    ∀ p, s.hs[h]? = some p → p.running = false := by
  intro p hp
  simpa [hasherRunning, List.getD_eq_getElem?_getD, hp] using hr

theorem hasherRunning_true {s : State} {h : Nat} (hr : hasherRunning s h = true) :
    ∃ p, s.hs[h]? = some p ∧ p.running = true := by
  unfold hasherRunning at hr
  rw [List.getD_eq_getElem?_getD] at hr
  cases hp : s.hs[h]? with
  | none => simp [hp, HPc.running] at hr
  | some p => exact ⟨p, rfl, by simpa [hp] using hr⟩

structure InvB3 (cfg : Cfg) (s : State) : Prop where
  j2 : ∀ (i : Nat) (p : HPc), s.hs[i]? = some p → p.running = true → i ∈ s.tracked
  jp : ∀ snap, s.jan = JPc.prune snap → snap ≠ [] ∧ snap.length ≤ cfg.N
  js1 : ∀ rest, s.jan = JPc.spin rest → rest ≠ [] ∧ rest.length ≤ cfg.N ∧ s.fin = true
  js2 : ∀ rest, s.jan = JPc.spin rest →
    ∀ (h : Nat) (p : HPc), h ∈ s.tracked → s.hs[h]? = some p → p.running = true → h ∈ rest
  jc1 : s.jan = JPc.closing ∨ s.jan = JPc.done → s.fin = true
  jc2 : s.jan = JPc.closing ∨ s.jan = JPc.done →
    ∀ (h : Nat) (p : HPc), s.hs[h]? = some p → p.running = false
  m5 : ∀ r, s.main = MPc.finished r → s.jan = JPc.done
  h1 : s.jan = JPc.done → s.main = MPc.collect → none ∈ s.hq
  h2 : s.jan ≠ JPc.done → none ∉ s.hq
  h3 : none ∉ s.hq.dropLast

theorem InvB3.done_of_closed {cfg : Cfg} {s : State} (h : InvB3 cfg s) (hq : none ∈ s.hq) :
    s.jan = .done :=
  Classical.byContradiction fun hn => h.h2 hn hq

theorem InvB3.init (cfg : Cfg) : InvB3 cfg (init cfg) where
  j2 _ _ hi hp := by rw [init_hs hi] at hp; cases hp
  jp := nofun
  js1 := nofun
  js2 := nofun
  jc1 h := h.elim nofun nofun
  jc2 h := h.elim nofun nofun
  m5 := nofun
  h1 := nofun
  h2 _ := List.not_mem_nil
  h3 := List.not_mem_nil

/-- What the invariant reads.  Of the hasher table only which hashers run, and running hashers may
    stop (`hrun`: no hasher starts to run); the event may become set; of main's program counter only
    whether it is `finished` or `collect`. -/
theorem InvB3.congr {cfg : Cfg} {s s' : State} (h : InvB3 cfg s)
    (hrun : ∀ (i : Nat) (p' : HPc), s'.hs[i]? = some p' → p'.running = true →
      ∃ p, s.hs[i]? = some p ∧ p.running = true)
    (ht : s'.tracked = s.tracked) (hj : s'.jan = s.jan) (hf : s.fin = true → s'.fin = true)
    (hq : s'.hq = s.hq) (m5 : ∀ r, s'.main = .finished r → s.jan = .done)
    (h1 : s.jan = .done → s'.main = .collect → none ∈ s.hq) : InvB3 cfg s' where
  j2 i p' hi hp := by obtain ⟨p, hi, hp⟩ := hrun i p' hi hp; exact ht ▸ h.j2 i p hi hp
  jp := hj ▸ h.jp
  js1 rest hr := by obtain ⟨a, b, c⟩ := h.js1 rest (hj ▸ hr); exact ⟨a, b, hf c⟩
  js2 rest hr k p' hk hi hp := by
    obtain ⟨p, hi, hp⟩ := hrun k p' hi hp; exact h.js2 rest (hj ▸ hr) k p (ht ▸ hk) hi hp
  jc1 hc := hf (h.jc1 (hj ▸ hc))
  jc2 hc k p' hi := by
    cases hp : p'.running
    · rfl
    · obtain ⟨p, hi, hp⟩ := hrun k p' hi hp; rw [h.jc2 (hj ▸ hc) k p hi] at hp; cases hp
  m5 := hj ▸ m5
  h1 := hj ▸ hq ▸ h1
  h2 := hj ▸ hq ▸ h.h2
  h3 := hq ▸ h.h3

/-- a step that leaves alone what the invariant reads, except main's program counter -/
theorem InvB3.set_main {cfg : Cfg} {s s' : State} (h : InvB3 cfg s) (hh : s'.hs = s.hs)
    (ht : s'.tracked = s.tracked) (hj : s'.jan = s.jan) (hf : s'.fin = s.fin) (hq : s'.hq = s.hq)
    (m5 : ∀ r, s'.main = .finished r → s.jan = .done)
    (h1 : s.jan = .done → s'.main = .collect → none ∈ s.hq) : InvB3 cfg s' :=
  h.congr (fun _ p hi hp => ⟨p, hh ▸ hi, hp⟩) ht hj (fun hf' => hf ▸ hf') hq m5 h1

theorem InvB3.set_hs {cfg : Cfg} {s s' : State} {i : Nat} {p q : HPc} (h : InvB3 cfg s)
    (hi : s.hs[i]? = some p) (hp : p.running = true) (hh : s'.hs = s.hs.set i q)
    (ht : s'.tracked = s.tracked) (hj : s'.jan = s.jan) (hf : s.fin = true → s'.fin = true)
    (hq : s'.hq = s.hq) (hm : s'.main = s.main) : InvB3 cfg s' := by
  refine h.congr ?_ ht hj hf hq (hm ▸ h.m5) (hm ▸ h.h1)
  intro j p' hj' hp'
  rw [hh, List.getElem?_set] at hj'
  split at hj'
  · exact ⟨p, ‹i = j› ▸ hi, hp⟩
  · exact ⟨p', hj', hp'⟩

theorem InvB3.reader {cfg : Cfg} {s s' : State} (h : InvB3 cfg s)
    (hs : ReaderStep cfg s s') : InvB3 cfg s' := by
  cases hs with
  | begin hr t hn => cases hn <;> exact h.set_main rfl rfl rfl rfl rfl h.m5 h.h1
  | put k hr hc t hn => cases hn <;> exact h.set_main rfl rfl rfl rfl rfl h.m5 h.h1
  | close hr hc => exact h.set_main rfl rfl rfl rfl rfl h.m5 h.h1

theorem InvB3.hasher {cfg : Cfg} {s s' : State} {i : Nat} (h : InvB3 cfg s)
    (hs : HasherStep cfg s i s') : InvB3 cfg s' := by
  cases hs with
  | idle => exact h
  | deliver k hi =>
    -- a hasher still runs, so the janitor has not closed the hash queue
    have hnd : s.jan ≠ .done := fun hd => by simpa [HPc.running] using h.jc2 (.inr hd) i _ hi
    have hn := h.h2 hnd
    have h' : InvB3 cfg { s with hq := s.hq ++ [some k] } :=
      { h with h1 := fun hd => absurd hd hnd, h2 := fun _ => by simpa using hn, h3 := q_push _ hn }
    exact h'.set_hs hi rfl rfl rfl rfl id rfl rfl
  | _ => exact h.set_hs ‹_› rfl rfl rfl rfl (by simp) rfl rfl

/-- The janitor moves on.  It was not `done`, so the hash queue is still open and
    main has not returned; what has to be shown is what the clauses say about its new program point. -/
theorem InvB3.set_jan {cfg : Cfg} {s : State} {j' : JPc} (h : InvB3 cfg s) (hnd : s.jan ≠ .done)
    (hp : ∀ snap, j' = .prune snap → snap ≠ [] ∧ snap.length ≤ cfg.N)
    (hs : ∀ rest, j' = .spin rest → (rest ≠ [] ∧ rest.length ≤ cfg.N ∧ s.fin = true) ∧
      ∀ (k : Nat) (p : HPc), k ∈ s.tracked → s.hs[k]? = some p → p.running = true → k ∈ rest)
    (hc : j' = .closing → s.fin = true ∧ ∀ (k : Nat) (p : HPc), s.hs[k]? = some p → p.running = false)
    (hd : j' ≠ .done) : InvB3 cfg { s with jan := j' } where
  j2 := h.j2
  jp := hp
  js1 rest hr := (hs rest hr).1
  js2 rest hr := (hs rest hr).2
  jc1 hj := (hc (hj.resolve_right hd)).1
  jc2 hj := (hc (hj.resolve_right hd)).2
  m5 r hr := absurd (h.m5 r hr) hnd
  h1 hj := absurd hj hd
  h2 _ := h.h2 hnd
  h3 := h.h3

theorem InvB3.set_prune {cfg : Cfg} {s : State} (h : InvB3 cfg s) (hnd : s.jan ≠ .done) (l : List Nat) (hl : l.length ≤ cfg.N) :
    InvB3 cfg { s with jan := prunePc l } := by
  rcases prunePc_cases l with ⟨-, he⟩ | ⟨hne, he⟩ <;> rw [he]
  · exact h.set_jan hnd nofun nofun nofun nofun
  · exact h.set_jan hnd (fun _ e => by cases e; exact ⟨hne, hl⟩) nofun nofun nofun

theorem InvB3.set_spin {cfg : Cfg} {s : State} (h : InvB3 cfg s) (hnd : s.jan ≠ .done) (l : List Nat) (hl : l.length ≤ cfg.N) (hf : s.fin = true)
    (hcov : ∀ (k : Nat) (p : HPc), k ∈ s.tracked → s.hs[k]? = some p → p.running = true → k ∈ l) :
    InvB3 cfg { s with jan := spinPc l } := by
  rcases spinPc_cases l with ⟨rfl, he⟩ | ⟨hne, he⟩ <;> rw [he]
  · refine h.set_jan hnd nofun nofun (fun _ => ⟨hf, fun k p hk => ?_⟩) nofun
    cases hp : p.running
    · rfl
    · cases hcov k p (h.j2 k p hk hp) hk hp
  · exact h.set_jan hnd nofun (fun _ e => by cases e; exact ⟨⟨hne, hl, hf⟩, hcov⟩) nofun nofun

theorem InvB3.janitor_of_trk {cfg : Cfg} {s s' : State} (htrk : s.tracked.length ≤ cfg.N)
    (h : InvB3 cfg s) (hs : JanitorStep s s') : InvB3 cfg s' := by
  cases hs with
  | begin hj => exact h.set_jan (by simp [hj]) nofun nofun nofun nofun
  | wake hj hf => exact h.set_spin (by simp [hj]) _ htrk hf fun _ _ hk _ _ => hk
  | timeout hj hf => exact h.set_prune (by simp [hj]) _ htrk
  | pruneKeep k rest hj hr =>
    exact h.set_prune (by simp [hj]) _ (Nat.le_of_succ_le (h.jp _ hj).2)
  | pruneDrop k rest hj hr =>
    -- a hasher that does not run needs no tracking
    have hr' := hasherRunning_false hr
    have ne : ∀ (i : Nat) (p : HPc), s.hs[i]? = some p → p.running = true → i ≠ k :=
      fun i p hi hp e => by rw [e] at hi; rw [hr' p hi] at hp; cases hp
    have h' : InvB3 cfg { s with tracked := s.tracked.erase k } :=
      { h with j2 := fun i p hi hp => (List.mem_erase_of_ne (ne i p hi hp)).2 (h.j2 i p hi hp)
               js2 := fun rest hr i p hi => h.js2 rest hr i p (List.mem_of_mem_erase hi) }
    exact h'.set_prune (by simp [hj]) _ (Nat.le_of_succ_le (h.jp _ hj).2)
  | spinRestart k rest hj hr =>
    exact h.set_spin (by simp [hj]) _ htrk (h.js1 _ hj).2.2 fun _ _ hk _ _ => hk
  | spinNext k rest hj hr =>
    have hr' := hasherRunning_false hr
    refine h.set_spin (by simp [hj]) _ (Nat.le_of_succ_le (h.js1 _ hj).2.1)
      (h.js1 _ hj).2.2 fun i p hi hp hrun => ?_
    rcases List.mem_cons.1 (h.js2 _ hj i p hi hp hrun) with e | hm
    · rw [e] at hp; rw [hr' p hp] at hrun; cases hrun
    · exact hm
  | close hj =>
    have hn := h.h2 (by simp [hj])
    exact { h with jp := nofun, js1 := nofun, js2 := nofun
                   jc1 := fun _ => h.jc1 (.inl hj), jc2 := fun _ => h.jc2 (.inl hj)
                   m5 := fun _ _ => rfl, h1 := fun _ _ => by simp
                   h2 := fun hd => absurd rfl hd, h3 := q_push _ hn }

theorem InvB3.janitor {cfg : Cfg} {s s' : State} (hB : InvB1 cfg s) (h : InvB3 cfg s)
    (hs : JanitorStep s s') : InvB3 cfg s' :=
  h.janitor_of_trk hB.trk hs

/-- main starts hasher `i`, or the OS refuses to: the janitor has not been started, so the pool
    still tracks every hasher -/
theorem InvB3.startHasher {cfg : Cfg} {s : State} {i : Nat} {q : HPc} {m : MPc} (h : InvB3 cfg s)
    (hB : InvR1 cfg s) (hm : s.main = .startHasher i) (hm' : ∀ r, m ≠ .finished r)
    (hc : m ≠ .collect) : InvB3 cfg { s with hs := s.hs.set i q, main := m } := by
  have hjn : s.jan = .notStarted := hB.jstart.1 (by rw [hm]; rfl)
  have htr := hB.trk0 hjn
  obtain ⟨j2, jp, js1, js2, jc1, jc2, m5, h1, h2, h3⟩ := h
  simp only [hjn] at jp js1 js2 jc1 jc2 h1 h2
  refine ⟨?_, by simp [hjn], by simp [hjn], by simp [hjn], by simp [hjn], by simp [hjn],
    fun r hr => absurd hr (hm' r), fun _ hm => absurd hm hc, by simpa [hjn] using h2, h3⟩
  intro j p hj hp
  obtain ⟨hlt, -⟩ := List.getElem?_eq_some_iff.1 hj
  rw [htr, List.mem_range, ← hB.len]
  simpa using hlt

theorem InvB3.mainStep {cfg : Cfg} {s s' : State} (hB : InvR1 cfg s) (h : InvB3 cfg s)
    (hs : MainStep cfg s s') : InvB3 cfg s' := by
  -- main is past the janitor's start: the janitor is `done` as soon as it does not run
  have jdone : preJan s.main = false → s.jan.running = false → s.jan = .done := fun hp hr =>
    JPc.done_of hr (fun hn => by simp [hB.jstart.2 hn] at hp) hB.nrefJ
  cases hs with
  | startHasherNext i hm hi => exact h.startHasher hB hm nofun nofun
  | startHasherLast i hm hi => exact h.startHasher hB hm nofun nofun
  | startJanitor hm =>
    have hjn : s.jan = .notStarted := hB.jstart.1 (by rw [hm]; rfl)
    obtain ⟨j2, jp, js1, js2, jc1, jc2, m5, h1, h2, h3⟩ := h
    exact ⟨j2, nofun, nofun, nofun, by simp, by simp, nofun, nofun,
      fun _ => h2 (by simp [hjn]), h3⟩
  | collectClosed rest hm hq =>
    have hd := h.done_of_closed (by simp [hq])
    exact { h with m5 := nofun, h1 := fun _ => nofun, h2 := fun hn => absurd hd hn
                   h3 := q_pop hq h.h3 }
  | collectRaise k rest hm hq | collectCbRaise k rest hm hq =>
    exact { h with m5 := nofun, h1 := fun _ => nofun
                   h2 := fun hn hr => h.h2 hn (by simp [hq, hr]), h3 := q_pop hq h.h3 }
  | collectPass k rest hm hq | collectCancel k rest hm hq =>
    exact { h with m5 := fun r hr => by simp [hm] at hr
                   h1 := fun hd _ => by simpa [hq] using h.h1 hd hm
                   h2 := fun hn hr => h.h2 hn (by simp [hq, hr]), h3 := q_pop hq h.h3 }
  | joinJanitorSkip e hm hr | joinJanitorDone e hm hr =>
    exact h.set_main rfl rfl rfl rfl rfl (fun _ _ => jdone (by rw [hm]; rfl) hr) (fun _ => nofun)
  | joinReaderSkip e hm hr | joinReaderDone e hm hr | joinHasherSkip hh idx e hm hr
  | joinHasherDone hh idx e hm hr =>
    exact h.set_main rfl rfl rfl rfl rfl (by simp) (by simp)
  | _ => exact h.set_main rfl rfl rfl rfl rfl nofun (fun _ => nofun)

theorem InvB3.main {cfg : Cfg} {s s' : State} (hB : InvB1 cfg s) (h : InvB3 cfg s)
    (hs : MainStep cfg s s') : InvB3 cfg s' :=
  h.mainStep (InvB1.iff.1 hB).1 hs

/-- main returns after the janitor, and the janitor ends after the hashers: if main has also seen
    the reader end, no thread runs when it has returned -/
theorem InvB3.threads_done {cfg : Cfg} {s : State} (h : InvB3 cfg s)
    (hr : postReaderJoin s.main = true → s.rpc = .done) (ht : terminal s = true) :
    allThreadsDone s = true := by
  obtain ⟨r, hm⟩ := result_of_terminal ht
  have hj := h.m5 r hm
  exact allThreadsDone_of (by rw [hr (by rw [hm]; rfl)]; rfl) (by rw [hj]; rfl) (h.jc2 (.inr hj))

theorem InvB3.step {cfg : Cfg} {s s' : State} (hB : InvB1 cfg s) (h : InvB3 cfg s)
    (hs : Step cfg s s') : InvB3 cfg s' := by
  cases hs with
  | main h' => exact h.main hB h'
  | reader h' => exact h.reader h'
  | hasher i h' => exact h.hasher h'
  | janitor h' => exact h.janitor hB h'

end Torf.Pipeline
