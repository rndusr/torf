/-
  What `Torrent.write()` leaves behind, for every answer of the operating system (C06's use of
  C17's effect model): a normal return means the file holds exactly the dumped bytes; every other
  outcome is WriteError, or dump's MetainfoError with the target untouched.
-/
import Torf.Lemmas.Write
import Torf.Lemmas.Dump
import Torf.Model.WriteInfo
namespace Torf.WriteInfo
open Torf Torf.ReadStream Torf.Write Torf.Export

theorem producer_ok {env : ReadStream.Env} {md : List (PyVal × PyVal)} {validate : Bool} {c : Export.Bytes}
    (h : producer env md validate = .ok c) : dump env md validate = .ok c := by
  unfold producer at h
  split at h
  · rename_i bs hbs; rw [hbs]; exact congrArg _ (Except.ok.inj h)
  · exact absurd h (by simp)

theorem producer_err {env : ReadStream.Env} {md : List (PyVal × PyVal)} {validate : Bool} {e : ErrKind}
    (h : producer env md validate = .error e) :
    e = .metainfo ∧ dump env md validate = .error .metainfo := by
  unfold producer at h
  split at h
  · exact absurd h (by simp)
  · rename_i e' he'
    have := dump_err he'
    subst this
    exact ⟨(Except.error.inj h).symm, he'⟩

theorem writeFile_cases (env : ReadStream.Env) (md : List (PyVal × PyVal)) (validate ov : Bool) (t t' : Target)
    (r : Except ErrKind Unit) (log : List Eff) (h : writeFile env md validate ov t = (r, t', log)) :
    (r = .error .write) ∨
    (r = .error .metainfo ∧ t' = t ∧ dump env md validate = .error .metainfo) ∨
    (r = .ok () ∧ ∃ c, dump env md validate = .ok c ∧ t'.node = t.node.store c ∧
      t.env.accepts c.length = c.length ∧ t.env.closeErr = false ∧ t.openFails = false) := by
  unfold writeFile at h
  cases write_run h with
  | refused => exact .inl rfl
  | dumpFailed _ he =>
    obtain ⟨rfl, hd⟩ := producer_err he
    exact .inr (.inl ⟨rfl, rfl, hd⟩)
  | openFailed => exact .inl rfl
  | @stored c _ _ hc hop hr =>
    cases hf : t.env.failsAfterOpen c.length <;> rw [hf] at hr <;> cases hr
    · obtain ⟨hall, hclose⟩ := failsAfterOpen_false.mp hf
      exact .inr (.inr ⟨rfl, c, producer_ok hc, by rw [take_accepts hf], hall, hclose, hop⟩)
    · exact .inl rfl

end Torf.WriteInfo
