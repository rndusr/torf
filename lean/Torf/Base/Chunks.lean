/-
  Torf.Base.Chunks — the specification-level notion of "pieces of a stream":
  `chunks L xs` cuts `xs` into consecutive blocks of length `L` (the last may be shorter).
  Everything here is generic in the element ("byte") type.
-/
namespace Torf

/-- Cut a list into consecutive chunks of length `L` (the last one may be shorter).
    `L = 0` yields no chunk at all (the real code never runs with piece length 0). -/
def chunks (L : Nat) (xs : List α) : List (List α) :=
  if h : L = 0 ∨ xs = [] then [] else
    xs.take L :: chunks L (xs.drop L)
termination_by xs.length
decreasing_by
  simp only [List.length_drop]
  have : xs.length ≠ 0 := by
    intro h0; exact h (Or.inr (List.eq_nil_of_length_eq_zero h0))
  omega

/-- number of pieces of a stream of `T` bytes: `ceil (T / L)` -/
def nPieces (L T : Nat) : Nat := (T + L - 1) / L

@[simp] theorem chunks_nil (L : Nat) : chunks L ([] : List α) = [] := by
  unfold chunks; simp

theorem chunks_zero (xs : List α) : chunks 0 xs = [] := by
  unfold chunks; simp

/-- `chunks` as the readers compute it: `piece = read(L)`, stop at the first empty read.  That test is the
    recursion's own (`L = 0 ∨ xs = []`), so the piece length 0 (outside the model's scope, inside the statements about every `L`)
    needs no case of its own. -/
theorem chunks_read (L : Nat) (xs : List α) :
    chunks L xs = if (xs.take L).isEmpty then [] else xs.take L :: chunks L (xs.drop L) := by
  rw [chunks]
  simp only [List.isEmpty_iff, List.take_eq_nil_iff]
  split <;> rfl

theorem chunks_cons_of_ne (L : Nat) (hL : 0 < L) (xs : List α) (hne : xs ≠ []) :
    chunks L xs = xs.take L :: chunks L (xs.drop L) := by
  rw [chunks.eq_def, dif_neg (not_or.mpr ⟨Nat.ne_of_gt hL, hne⟩)]

/-- the final `if trailing_bytes: yield trailing_bytes` of the readers -/
theorem chunks_short (L : Nat) (xs : List α) (h : xs.length ≤ L) (hL : 0 < L) :
    chunks L xs = if xs.isEmpty then [] else [xs] := by
  by_cases hne : xs = []
  · subst hne; exact chunks_nil L
  · rw [chunks_cons_of_ne L hL xs hne, List.take_of_length_le h, List.drop_eq_nil_of_le h, chunks_nil,
      if_neg (by simpa using hne)]

theorem chunks_append_of_dvd (L : Nat) (hL : 0 < L) (xs ys : List α) (n : Nat)
    (h : xs.length = n * L) : chunks L (xs ++ ys) = chunks L xs ++ chunks L ys := by
  induction n generalizing xs with
  | zero =>
    have : xs = [] := List.eq_nil_of_length_eq_zero (by simpa using h)
    subst this; simp
  | succ n ih =>
    have hlen : L ≤ xs.length := by rw [h]; exact Nat.le_mul_of_pos_left L (Nat.succ_pos n)
    have hne : xs ≠ [] := by intro h0; subst h0; simp at hlen; omega
    have hne2 : xs ++ ys ≠ [] := by simp [hne]
    rw [chunks_cons_of_ne L hL _ hne2, chunks_cons_of_ne L hL _ hne, List.take_append_of_le_length hlen,
      List.drop_append_of_le_length hlen, ih (xs.drop L) (by simp [h, Nat.succ_mul])]
    simp

/-- the cut at the last piece boundary of `d`: whole pieces before it, less than a piece behind it, and the
    chunks of any stream that begins with `d` are those pieces followed by the chunks of the rest.  Both the
    prepend loop and the consumer of `iter_pieces` cut there. -/
theorem chunks_cut (L : Nat) (hL : 0 < L) (d ys : List α) :
    (d.drop (d.length / L * L)).length < L ∧
      chunks L (d ++ ys) =
        chunks L (d.take (d.length / L * L)) ++ chunks L (d.drop (d.length / L * L) ++ ys) := by
  have hlt := Nat.lt_div_mul_add (a := d.length) hL
  refine ⟨by rw [List.length_drop]; omega, ?_⟩
  conv => lhs; rw [← List.take_append_drop (d.length / L * L) d, List.append_assoc]
  exact chunks_append_of_dvd L hL _ _ (d.length / L) (List.length_take_of_le (Nat.div_mul_le_self _ _))

theorem chunks_fill (L : Nat) (c F : List α) (hne : c ≠ []) (hc : c.length ≤ L) :
    chunks L (c ++ F) = (c ++ F.take (L - c.length)) :: chunks L (F.drop (L - c.length)) := by
  have hpos := List.length_pos_iff.mpr hne
  rw [chunks_cons_of_ne L (by omega) _ (by simp [hne]), List.take_append, List.take_of_length_le hc,
    List.drop_append, List.drop_eq_nil_of_le hc, List.nil_append]

theorem chunks_append_full (L : Nat) (hL : 0 < L) (xs ys : List α) (h : xs.length = L) :
    chunks L (xs ++ ys) = xs :: chunks L ys := by
  have hne : xs ≠ [] := by intro h0; subst h0; simp at h; omega
  rw [chunks_fill L xs ys hne (Nat.le_of_eq h), h, Nat.sub_self, List.take_zero, List.append_nil,
    List.drop_zero]

theorem chunks_induction {α : Type u} (L : Nat) (hL : 0 < L) {P : List α → Prop} (nil : P [])
    (step : ∀ xs, xs ≠ [] → P (xs.drop L) → P xs) : ∀ xs, P xs := by
  intro xs
  induction xs using chunks.induct L with
  | case1 xs h => exact (h.resolve_left (Nat.ne_of_gt hL)) ▸ nil
  | case2 xs h ih => exact step xs (fun e => h (Or.inr e)) ih

theorem flatten_chunks (L : Nat) (hL : 0 < L) (xs : List α) : (chunks L xs).flatten = xs := by
  induction xs using chunks_induction L hL with
  | nil => simp
  | step xs hne ih => rw [chunks_cons_of_ne L hL xs hne, List.flatten_cons, ih, List.take_append_drop]

theorem length_of_mem_chunks (L : Nat) (xs c : List α) (hc : c ∈ chunks L xs) :
    0 < c.length ∧ c.length ≤ L := by
  rcases Nat.eq_zero_or_pos L with rfl | hL
  · rw [chunks_zero] at hc; cases hc
  induction xs using chunks_induction L hL with
  | nil => simp at hc
  | step xs hne ih =>
    rw [chunks_cons_of_ne L hL xs hne] at hc
    have hpos : xs.length ≠ 0 := fun h0 => hne (List.eq_nil_of_length_eq_zero h0)
    cases hc with
    | head => simp only [List.length_take]; omega
    | tail _ hc' => exact ih hc'

theorem getElem?_chunks (L : Nat) (hL : 0 < L) (xs : List α) (i : Nat) :
    (chunks L xs)[i]? =
      if i * L < xs.length then some ((xs.drop (i * L)).take L) else none := by
  induction xs using chunks_induction L hL generalizing i with
  | nil => simp
  | step xs hne ih =>
    rw [chunks_cons_of_ne L hL xs hne]
    cases i with
    | zero => simp [List.length_pos_iff.mpr hne]
    | succ i =>
      rw [List.getElem?_cons_succ, ih, List.length_drop, List.drop_drop, Nat.succ_mul, Nat.add_comm (i * L) L]
      congr 1
      exact propext (by omega)

theorem lt_nPieces_iff (L T i : Nat) (hL : 0 < L) : i < nPieces L T ↔ i * L < T := by
  unfold nPieces
  have : i < (T + L - 1) / L ↔ i + 1 ≤ (T + L - 1) / L := by omega
  rw [this, Nat.le_div_iff_mul_le hL, Nat.succ_mul]
  omega

theorem length_chunks (L : Nat) (hL : 0 < L) (xs : List α) :
    (chunks L xs).length = nPieces L xs.length := by
  -- both numbers have the same predecessors: the `i` whose chunk exists
  have h : ∀ i, i < (chunks L xs).length ↔ i < nPieces L xs.length := by
    intro i
    rw [lt_nPieces_iff L _ i hL, ← Nat.not_le, ← List.getElem?_eq_none_iff, getElem?_chunks L hL]
    split <;> simp [*]
  have h1 := h (chunks L xs).length
  have h2 := h (nPieces L xs.length)
  omega

theorem nPieces_mul (L : Nat) (hL : 0 < L) (c : Nat) : nPieces L (c * L) = c := by
  unfold nPieces
  apply Nat.div_eq_of_lt_le
  · omega
  · rw [Nat.succ_mul]; omega

theorem chunks_take (L : Nat) (hL : 0 < L) (q : Nat) (xs : List α) :
    (chunks L xs).take q = chunks L (xs.take (q * L)) := by
  rcases Nat.le_total (q * L) xs.length with h | h
  · have hl : (xs.take (q * L)).length = q * L := List.length_take_of_le h
    conv => lhs; rw [← List.take_append_drop (q * L) xs, chunks_append_of_dvd L hL _ _ q hl]
    exact List.take_left' (by rw [length_chunks L hL, hl, nPieces_mul L hL])
  · -- there is no chunk `q`
    rw [List.take_of_length_le h, List.take_of_length_le]
    exact List.getElem?_eq_none_iff.mp (by rw [getElem?_chunks L hL, if_neg (Nat.not_lt.mpr h)])

theorem chunks_drop (L : Nat) (hL : 0 < L) (q : Nat) (xs : List α) :
    (chunks L xs).drop q = chunks L (xs.drop (q * L)) := by
  induction q generalizing xs with
  | zero => simp
  | succ q ih =>
    by_cases hne : xs = []
    · subst hne; simp
    · rw [chunks_cons_of_ne L hL xs hne, List.drop_succ_cons, ih, List.drop_drop]
      congr 2; rw [Nat.succ_mul]; omega

theorem chunks_map (L : Nat) (hL : 0 < L) (f : α → β) (xs : List α) :
    chunks L (xs.map f) = (chunks L xs).map (List.map f) := by
  apply List.ext_getElem?
  intro i
  rw [List.getElem?_map, getElem?_chunks L hL, getElem?_chunks L hL]
  simp only [List.length_map]
  split
  · simp [List.map_drop, List.map_take]
  · simp

end Torf
