import Lean.Meta.Tactic.Simp.RegisterCommand

/-- How a test of a translated function (`decide`, `&&`, `||`, `!` over comparisons of integers) is read as a
    proposition.  The bridge theorems name the whole set wherever they compare a generated step with a step of the
    model, whether the present spelling of the source needs every member or not: an equivalent rewrite of the source
    may need any of them. -/
register_simp_attr py_test
