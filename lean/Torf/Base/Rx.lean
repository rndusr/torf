/-
  A small, executable semantics for the fragment of Python's `re` that torf's validation patterns
  are written in:

      ^? <one character set per literal position>* ( X{a,b} | Y{c,d} | … ) ( $ | \Z )?

  used through `.match()` (anchored at the start whether or not `^` is written) or `.fullmatch()`.
  The translator (`harness/translate.py`, kernel kind `regex`) parses the pattern text found in the
  source with Python's own `re._parser`, refuses everything outside this fragment, and emits a
  `Shape`; the *character sets* are not derived from the flags by a rule: the translator asks the
  `re` engine, for each set, which of all 1 112 064 code points it matches under the flags in force
  (so `IGNORECASE` without `ASCII` shows up as U+0130, U+0131, U+017F, U+212A in a set of letters).
  What is modelled here is therefore only how positions are put together: concatenation, ordered
  alternation with backtracking into the next alternative when the end anchor fails, greedy bounded
  repetition of one set, and the two end anchors.
-/
namespace Torf.Rx

abbrev Str := List Char

/-- inclusive code point ranges -/
abbrev CSet := List (Nat × Nat)

def inSet (rs : CSet) (c : Char) : Bool :=
  rs.any fun r => decide (r.1 ≤ c.toNat) && decide (c.toNat ≤ r.2)

inductive EndAnchor where
  | open        -- nothing after the group: the rest of the text is not looked at
  | dollar      -- `$`: at the end, or before one trailing newline
  | absolute    -- `\Z` (or `.fullmatch()`): at the end
  deriving DecidableEq, Repr, Inhabited

/-- `X{lo,hi}` (`hi = none`: no upper bound) -/
structure Alt where
  cls : CSet
  lo : Nat
  hi : Option Nat
  deriving Repr, Inhabited

structure Shape where
  pre : List CSet          -- literal positions, each as the set of characters it accepts under the flags
  alts : List Alt          -- group 1 (a single un-grouped `X{n}` is a one-element list)
  endA : EndAnchor
  deriving Repr, Inhabited

def endOk : EndAnchor → Str → Bool
  | .open, _ => true
  | .absolute, r => r.isEmpty
  | .dollar, r => r.isEmpty || r == ['\n']

/-- the literal positions -/
def matchPre : List CSet → Str → Option Str
  | [], cs => some cs
  | _ :: _, [] => none
  | p :: ps, c :: cs => if inSet p c then matchPre ps cs else none

/-- length of the longest prefix whose characters are all in the set -/
def runLen (rs : CSet) : Str → Nat
  | [] => 0
  | c :: cs => if inSet rs c then runLen rs cs + 1 else 0

/-- greedy repetition followed by the end anchor: lengths `lo + d`, `lo + d - 1`, …, `lo` are tried in
    this order; the first one after which the end anchor holds wins. Result: the text of the group. -/
def tryDown (e : EndAnchor) (cs : Str) (lo : Nat) : Nat → Option Str
  | 0 => if endOk e (cs.drop lo) then some (cs.take lo) else none
  | d + 1 => if endOk e (cs.drop (lo + d + 1)) then some (cs.take (lo + d + 1)) else tryDown e cs lo d

def matchAlt (e : EndAnchor) (a : Alt) (cs : Str) : Option Str :=
  let run := runLen a.cls cs
  let top := match a.hi with
    | some h => min h run
    | none => run
  if top < a.lo then none else tryDown e cs a.lo (top - a.lo)

/-- ordered alternation: the first alternative that matches *and* lets the end anchor hold -/
def matchAlts (e : EndAnchor) : List Alt → Str → Option Str
  | [], _ => none
  | a :: as, cs =>
    match matchAlt e a cs with
    | some g => some g
    | none => matchAlts e as cs

/-- `pattern.match(v)`: `none` = no match, `some g` = match with group 1 = `g` -/
def Shape.run (sh : Shape) (v : Str) : Option Str :=
  match matchPre sh.pre v with
  | some rest => matchAlts sh.endA sh.alts rest
  | none => none

theorem le_runLen_iff (rs : CSet) : ∀ (n : Nat) (cs : Str),
    n ≤ runLen rs cs ↔ n ≤ cs.length ∧ (cs.take n).all (inSet rs) = true
  | 0, cs => by simp
  | n + 1, [] => by simp [runLen]
  | n + 1, c :: cs => by
    simp only [runLen, List.take_succ_cons, List.all_cons, List.length_cons, Bool.and_eq_true]
    by_cases h : inSet rs c = true
    · simp [h, le_runLen_iff rs n cs]
    · simp [h]

/-- `X{n}`: there is one length to try, so nothing to backtrack into -/
theorem matchAlt_exact (e : EndAnchor) (rs : CSet) (n : Nat) (cs : Str) :
    matchAlt e ⟨rs, n, some n⟩ cs =
      if (n ≤ cs.length ∧ (cs.take n).all (inSet rs) = true) ∧ endOk e (cs.drop n) = true
      then some (cs.take n) else none := by
  unfold matchAlt
  simp only [← le_runLen_iff]
  by_cases h : n ≤ runLen rs cs
  · rw [Nat.min_eq_left h, if_neg (Nat.lt_irrefl n), Nat.sub_self]
    simp only [tryDown, h, true_and]
  · rw [if_pos (by omega), if_neg (fun x => h x.1)]

/-- `[0-9a-fA-F]` as the translator enumerates it (ranges in code point order), read in the order in which the
    models write that class: digits, lower case, upper case -/
theorem inSet_hex (c : Char) : inSet [(48, 57), (65, 70), (97, 102)] c =
    ((48 ≤ c.toNat && c.toNat ≤ 57) || (97 ≤ c.toNat && c.toNat ≤ 102) || (65 ≤ c.toNat && c.toNat ≤ 70)) := by
  simp only [inSet, List.any_cons, List.any_nil, Bool.or_false]
  rw [Bool.or_assoc, Bool.or_comm (decide (97 ≤ c.toNat) && _)]

end Torf.Rx
