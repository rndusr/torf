/-
  Vocabulary of the *loop kernels* (`harness/translate.py`, kernel kind `loop`): whole Python
  functions with one `for file in self._torrent.files:` loop are translated statement by
  statement into a structurally recursive Lean function over the list of file sizes.

  * how a translated function ends: `Out.ret v` for `return …`, `Out.raised "Exc"` for
    `raise Exc(…)` and for a failed `assert` (`"AssertionError"`); a call of another translated
    function is `Out.bind` (an exception of the callee ends the caller);
  * a `File` object is the index of the file in `Torrent.files` (`Nat`), a list of files a
    `List Nat`; an index `≥ sizes.length` stands for a `File` that is not in the torrent
    (`files.index(file)` raises `ValueError`);
  * `sliceTo xs k` is Python's `xs[:k]` (negative `k` counts from the end).

  Lists of integers, pairs:
  * a Python list of integers is a `List Int`; `pyRange a b` is `list(range(a, b))`, `getIdx xs i`
    is `xs[i]` (`none` = IndexError; negative `i` counts from the end), `xs.remove(x)` is
    `List.erase` behind a membership test (ValueError), `x in xs` is `List.contains`;
  * a `set` of integers that is only ever `add`ed to and finally handed to `sorted(…)` is the
    list of the added values in insertion order; `sortedSet` is `sorted(set(…))`: the strictly
    ascending list with the same members (`sortedSet_pairwise`, `mem_sortedSet`);
  * `for a, b in <pairs>`: the list of pairs is the list of its second components (`sizes`), a
    first component is the index of its pair.
  Methods of an object whose state is one list of integers (`MonitoredList`):
  * `pyInsert xs i v` is `xs.insert(i, v)` (a negative `i` counts from the end; what is still out
    of range is clamped to the front / the end), `setIdx xs i v` is `xs[i] = v` (`none` =
    IndexError; negative `i` counts from the end), `xs.clear()` is `[]`;
  * an optional integer (`return item` / `return None`) is an `Option Int`.
-/
import Torf.Base.LoopAttr
namespace Torf.Loop

inductive Out (α : Type) where
  | ret (v : α)
  | raised (exc : String)
  deriving Repr, DecidableEq

/-- `x = self.other_method(…)` followed by the rest of the function -/
def Out.bind {α β : Type} : Out α → (α → Out β) → Out β
  | .ret v, k => k v
  | .raised e, _ => .raised e

@[simp] theorem Out.bind_ret {α β : Type} (v : α) (k : α → Out β) : (Out.ret v).bind k = k v := rfl
@[simp] theorem Out.bind_raised {α β : Type} (e : String) (k : α → Out β) :
    (Out.raised e : Out α).bind k = .raised e := rfl

/-- Python's `xs[:k]` -/
def sliceTo (xs : List Int) (k : Int) : List Int :=
  if k ≥ 0 then xs.take k.toNat else xs.take (xs.length - (-k).toNat)

/-- an optional value (`none`: the Python expression raises `exc`) followed by the rest -/
def Out.ofOption {α : Type} (o : Option α) (exc : String) : Out α :=
  match o with
  | some v => .ret v
  | none => .raised exc

@[simp] theorem Out.ofOption_some {α : Type} (v : α) (e : String) : Out.ofOption (some v) e = .ret v := rfl
@[simp] theorem Out.ofOption_none {α : Type} (e : String) : (Out.ofOption none e : Out α) = .raised e := rfl

/-- Python's `xs[i]`; `none` is IndexError -/
def getIdx {α : Type} (xs : List α) (i : Int) : Option α :=
  if i ≥ 0 then xs[i.toNat]?
  else if (-i).toNat ≤ xs.length then xs[xs.length - (-i).toNat]? else none

/-- `list(range(a, b))` -/
def pyRange (a b : Int) : List Int := (List.range (b - a).toNat).map (fun (k : Nat) => a + (k : Int))

/-- insertion into a strictly ascending list (nothing happens if the value is there already) -/
def insertAsc (x : Int) : List Int → List Int
  | [] => [x]
  | y :: ys => if x < y then x :: y :: ys else if x = y then y :: ys else y :: insertAsc x ys

/-- `sorted(s)` for the set `s` whose `add`ed values are `xs` -/
def sortedSet (xs : List Int) : List Int := xs.foldr insertAsc []

theorem mem_insertAsc (x y : Int) (l : List Int) : y ∈ insertAsc x l ↔ y = x ∨ y ∈ l := by
  induction l with
  | nil => simp [insertAsc]
  | cons z zs ih =>
    unfold insertAsc
    split
    · simp
    · split
      · rename_i h; subst h; simp
      · simp only [List.mem_cons, ih]
        exact or_left_comm

theorem pairwise_insertAsc (x : Int) (l : List Int) (h : l.Pairwise (· < ·)) :
    (insertAsc x l).Pairwise (· < ·) := by
  induction l with
  | nil => simp [insertAsc]
  | cons z zs ih =>
    unfold insertAsc
    rw [List.pairwise_cons] at h
    split
    · rename_i hlt
      refine List.pairwise_cons.mpr ⟨?_, List.pairwise_cons.mpr h⟩
      intro a ha
      rcases List.mem_cons.mp ha with rfl | ha
      · exact hlt
      · exact Int.lt_trans hlt (h.1 a ha)
    · split
      · exact List.pairwise_cons.mpr h
      · rename_i h1 h2
        refine List.pairwise_cons.mpr ⟨?_, ih h.2⟩
        intro a ha
        rcases (mem_insertAsc x a zs).mp ha with rfl | ha
        · omega
        · exact h.1 a ha

theorem sortedSet_pairwise (xs : List Int) : (sortedSet xs).Pairwise (· < ·) := by
  induction xs with
  | nil => simp [sortedSet]
  | cons x xs ih => exact pairwise_insertAsc x _ ih

theorem mem_sortedSet (xs : List Int) (y : Int) : y ∈ sortedSet xs ↔ y ∈ xs := by
  induction xs with
  | nil => simp [sortedSet]
  | cons x xs ih =>
    show y ∈ insertAsc x (sortedSet xs) ↔ _
    rw [mem_insertAsc, ih]; simp

/-- Python's `xs.insert(i, v)`: `i < 0` counts from the end (`i + len`), then the position is
    clamped into `0 … len` (CPython `ins1`) -/
def pyInsert (xs : List Int) (i v : Int) : List Int :=
  let n : Int := xs.length
  let j : Int := if i < 0 then (if i + n < 0 then 0 else i + n) else (if i > n then n else i)
  xs.take j.toNat ++ v :: xs.drop j.toNat

/-- Python's `xs[i] = v`; `none` is IndexError (the same index rule as `getIdx`) -/
def setIdx (xs : List Int) (i v : Int) : Option (List Int) :=
  if i ≥ 0 then (if i.toNat < xs.length then some (xs.set i.toNat v) else none)
  else if (-i).toNat ≤ xs.length then some (xs.set (xs.length - (-i).toNat) v) else none

/- the values below are what CPython 3.12 prints for the same calls -/
example : pyInsert [10, 20, 30] 0 7 = [7, 10, 20, 30] := by decide +kernel
example : pyInsert [10, 20, 30] 1 7 = [10, 7, 20, 30] := by decide +kernel
example : pyInsert [10, 20, 30] 3 7 = [10, 20, 30, 7] := by decide +kernel
example : pyInsert [10, 20, 30] 4 7 = [10, 20, 30, 7] := by decide +kernel
example : pyInsert [10, 20, 30] 99 7 = [10, 20, 30, 7] := by decide +kernel
example : pyInsert [10, 20, 30] (-1) 7 = [10, 20, 7, 30] := by decide +kernel
example : pyInsert [10, 20, 30] (-2) 7 = [10, 7, 20, 30] := by decide +kernel
example : pyInsert [10, 20, 30] (-3) 7 = [7, 10, 20, 30] := by decide +kernel
example : pyInsert [10, 20, 30] (-4) 7 = [7, 10, 20, 30] := by decide +kernel
example : pyInsert [10, 20, 30] (-99) 7 = [7, 10, 20, 30] := by decide +kernel
example : pyInsert [] 0 7 = [7] := by decide +kernel
example : pyInsert [] 5 7 = [7] := by decide +kernel
example : pyInsert [] (-5) 7 = [7] := by decide +kernel
example : setIdx [10, 20, 30] 0 7 = some [7, 20, 30] := by decide +kernel
example : setIdx [10, 20, 30] 2 7 = some [10, 20, 7] := by decide +kernel
example : setIdx [10, 20, 30] 3 7 = none := by decide +kernel
example : setIdx [10, 20, 30] (-1) 7 = some [10, 20, 7] := by decide +kernel
example : setIdx [10, 20, 30] (-3) 7 = some [7, 20, 30] := by decide +kernel
example : setIdx [10, 20, 30] (-4) 7 = none := by decide +kernel
example : setIdx [] 0 7 = none := by decide +kernel
example : setIdx [] (-1) 7 = none := by decide +kernel

theorem setIdx_isSome (xs : List Int) (i v : Int) : (setIdx xs i v).isSome = (getIdx xs i).isSome := by
  unfold setIdx getIdx
  by_cases h : i ≥ 0
  · by_cases h2 : i.toNat < xs.length <;> simp [h, h2]
  · by_cases h2 : (-i).toNat ≤ xs.length
    · simp only [h, h2, if_true, if_false, Option.isSome_some]
      have : xs.length - (-i).toNat < xs.length := by omega
      simp [this]
    · simp [h, h2]

/-- `Bool.not_eq` for a test: stated with `= true` only, so that as a rewrite rule it leaves `(!b) = false` alone -/
theorem bnot_eq_true (b : Bool) : ((!b) = true) ↔ ¬ (b = true) := Bool.not_eq

attribute [py_test] Bool.or_eq_true Bool.and_eq_true bnot_eq_true decide_eq_true_eq Int.ofNat_eq_natCast
  Bool.true_eq_false Bool.false_eq_true not_true_eq_false not_false_eq_true

end Torf.Loop
