/-
  C06 — bridge theorem to the constant translated from `Torrent.magnet` (regenerated from the source
  on every run): the text the code puts in front of `self.infohash` to form the exact topic is the
  model's `urnBtih`, so `C06_magnet` (the topic is `urn:btih:` followed by the reported infohash) speaks
  about the prefix the source contains when the check runs.
-/
import Torf.Generated.Kernels
import Torf.Model.ReadStream
namespace Torf.C06
open Torf Torf.Bencode Torf.Codec Torf.Generated Torf.ReadStream

theorem C06_kernel_xt_prefix : magnetXtPrefix.map (fun s => s.toUTF8.toList) = [urnBtih] := by
  decide +kernel

/-- with that prefix: what `Torrent.magnet()` hands to `Magnet(xt=…)` is the prefix followed by the
    hash the `infohash` getter returns -/
theorem C06_kernel_magnet_xt (env : Env) (H : Bytes → Bytes) (md : List (PyVal × PyVal)) (h : Bytes)
    (hh : infohash env H md = .ok h) :
    magnetXtOf env H md = magnetXt ((magnetXtPrefix.map (fun s => s.toUTF8.toList)).flatten ++ h) := by
  rw [C06_kernel_xt_prefix]
  simp [magnetXtOf, hh]

end Torf.C06
