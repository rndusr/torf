/-
  C01 — the thread-count / schedule axis: composition of the pipeline theorems (C03) with the
  sequential chunking theorems (C01).  For every number of hasher threads, every queue capacity
  and EVERY schedule of the pipeline (a reachable terminal state of the transition system), a
  hashing run over undamaged content returns with all pieces collected, and what
  `Torrent.generate` stores for that arrival order is `map H (chunks L stream)`.
-/
import Torf.Properties.C01
import Torf.Properties.C03
import Torf.Lemmas.Fold
namespace Torf.C01
open Torf Torf.Stream Torf.Generate Torf.Pipeline Torf.C03

/- `arrivalOf tasks c` (the arrival order of the digests, as `(index, piece)` tasks, for the order
   `c` in which the collector received the piece indexes) is defined in `Model/Generate.lean`. -/

theorem arrivalOf_range (tasks : List (Nat × List α)) :
    arrivalOf tasks (List.range tasks.length) = tasks :=
  filterMap_range_getElem? tasks

/-- when `collect()` returns every piece index once, in whatever order, `Torrent.generate` stores
    the digests of the consecutive chunks -/
theorem run_stored_of_perm (H : List α → δ) (L : Nat) (hL : 0 < L) (files : List (List α))
    (hne : 0 < (files.map List.length).sum) {c : List Nat}
    (hperm : c.Perm (List.range (readerTasks L files).length)) :
    run H L files (arrivalOf (readerTasks L files) c) = .stored ((chunks L files.flatten).map H) := by
  apply C01_generate_spec H L hL files hne
  have h1 : (arrivalOf (readerTasks L files) c).Perm
      (arrivalOf (readerTasks L files) (List.range (readerTasks L files).length)) :=
    hperm.filterMap _
  rwa [arrivalOf_range] at h1

/-- **Schedule independence of hashing.**  `cfg` describes a run over undamaged content (every
    item is a data piece, as many as there are chunks), without faults and with a passive callback.
    In every reachable terminal state of the pipeline — whatever the number of hashers, the queue
    capacity, the interleaving and the timeouts — `collect()` has returned a permutation of all
    piece indexes, and the tail of `Torrent.generate` stores exactly the SHA-1 (`H`) of the
    consecutive chunks of the concatenated files, in stream order. -/
theorem C01_any_schedule (H : List α → δ) (L : Nat) (hL : 0 < L) (files : List (List α))
    (hne : 0 < (files.map List.length).sum)
    (cfg : Cfg) (hitems : cfg.items = List.replicate (readerTasks L files).length .data)
    (hwf : wf cfg = true) (hnf : noFaults cfg = true) (hcb : ∀ k d, cfg.cb k d = .pass)
    (s : State) (hreach : Reachable cfg s) (hterm : terminal s = true) :
    ∃ c, result? s = some (.returned c) ∧
      run H L files (arrivalOf (readerTasks L files) c) = .stored ((chunks L files.flatten).map H) := by
  -- every item is a data piece: none raises, all are hashed
  have hdata : ∀ k, k < (readerTasks L files).length → cfg.items.getD k .nodata = .data := by
    intro k hk
    simp [hitems, List.getD_eq_getElem?_getD, hk]
  have hlen : cfg.items.length = (readerTasks L files).length := by rw [hitems, List.length_replicate]
  rcases outcome_cases hwf hnf hcb hreach hterm with ⟨c, hr, _, hsort⟩ | ⟨k, _, hk⟩
  · refine ⟨c, hr, run_stored_of_perm H L hL files hne ?_⟩
    have hhashed : hashedItems cfg = List.range (readerTasks L files).length := by
      unfold hashedItems
      rw [hlen, List.filter_eq_self]
      intro k hk
      simp only [hdata k (List.mem_range.1 hk)]
      rfl
    exact hhashed ▸ hsort ▸ (List.mergeSort_perm c _).symm
  · simp only [badItems, hlen, List.mem_filter, List.mem_range] at hk
    rw [isRaising, hdata k hk.1] at hk
    simp at hk

end Torf.C01
