/-
  C02 — content verification is exact, for the whole call `Torrent.verify(path, callback,
  interval)` on a Torrent object with any history.  Property theorems only (helper lemmas live in
  Torf.Lemmas.VerifyCall).

  `verifyCall` (Model/VerifyCall.lean) is `verifyFs` with two more inputs made explicit: the
  `path` attribute of the Torrent object (`tpath`; `_get_content_path`'s chain method argument →
  class argument → `Torrent.path` → torrent-relative path, as `_MissingPieces` uses it) and the
  reporting interval with the clock values `time_monotonic()` returns at the gate.

  * `C02_path_independent`      the outcome (verdict, every call of the callback) does not depend
                                on `Torrent.path`: a torrent created from a path in this session,
                                re-read from a file, copied or with `path` re-assigned verifies any
                                directory exactly like the torrent read from bytes; the files that
                                are opened are those below the path given to `verify()`
  * `C02_interval_independent`  for every interval and every clock: the verdict (returned Boolean
                                / raised error) and the exceptions handed to the callback, in
                                order, are those of interval 0; only progress reports are dropped
  * `C02_interval_zero`         with an interval ≤ 0 and a clock that never runs backwards the
                                call is exactly `verifyFs`
  * `C02_call_iff`              the iff of C02 for the whole call: without a callback `verify`
                                returns `True` iff every listed path is a regular file of the
                                recorded size with the recorded digests — for every history of
                                the Torrent object, every interval and every clock
  * `C02_calls_are_C12`         the calls of the callback (pieces_done, piece index, "carries an
                                exception") are those of `Callbacks.calls` — the model of C12 —
                                for the results in piece order; so C12's theorems speak about them
  * `C02_final_report`          … e.g. the last call reports `pieces_done = pieces_total`,
                                whatever the interval and the clock (via `C12_final`)
  * `C02_call_reports`          with a callback the exceptions handed to it are exactly those of
                                `verifyFs` (to which `C02_fs_callback`, `C02_fs_documented`,
                                `C02_fs_read_fault` … apply) and the result is the same
-/
import Torf.Properties.C02Fs
import Torf.Properties.C12
import Torf.Lemmas.VerifyCall
namespace Torf.C02
open Torf Torf.Missing Torf.Verify Torf.VerifyFs Torf.VerifyCall

variable {α δ : Type} [Inhabited α] [DecidableEq δ]

/-- **`Torrent.path` does not matter.**  Whatever the `path` attribute of the Torrent object is
    (`none`: read from bytes, a file, `copy()`; `some p`: created from `p` in this session,
    `path` re-assigned), `verify(path)` opens the files below the path it is given and its outcome
    — result and every call of the callback — is the same. -/
theorem C02_path_independent (H : List α → δ) (L : Nat) (sizes : List Nat)
    (fd : List (FState α)) (stored : List δ) (hasCb single pathIsDir : Bool)
    (tpath tpath' : Option String) (interval : Int) (clock : List Int) (arg : String) (j : Nat) :
    verifyCall H L sizes fd stored hasCb single pathIsDir tpath interval clock =
      verifyCall H L sizes fd stored hasCb single pathIsDir tpath' interval clock ∧
    openedPath single arg tpath j = openedPath single arg tpath' j ∧
    (arg ≠ "" → openedPath single arg tpath j =
      if single then .contentPath arg else .joined arg j) := by
  refine ⟨?_, rfl, ?_⟩
  · unfold verifyCall
    rw [iterItemsP_eq, iterItemsP_eq]
  · intro h
    simp [openedPath, Geometry.contentPath, Geometry.returned, h]

/-- **The gate.**  The call in terms of `verifyFs`: same result, same exceptions, fewer progress
    reports. -/
theorem C02_call_gate (H : List α → δ) (L : Nat) (sizes : List Nat)
    (fd : List (FState α)) (stored : List δ) (hasCb single pathIsDir : Bool)
    (tpath : Option String) (interval : Int) (clock : List Int) :
    let r := verifyCall H L sizes fd stored hasCb single pathIsDir tpath interval clock
    let r0 := verifyFs H L sizes fd stored hasCb single pathIsDir
    r.1 = r0.1 ∧ excsOf r.2 = excsOf r0.2 ∧ r.2.Sublist r0.2 := by
  dsimp only
  rw [verifyCall_eq_gate, verifyFs_eq_gate]
  apply pathKindGate_rel (fun r r0 => r.1 = r0.1 ∧ excsOf r.2 = excsOf r0.2 ∧ r.2.Sublist r0.2)
    (fun _ => ⟨rfl, rfl, List.Sublist.refl _⟩)
  cases iterItemsFs L sizes fd with
  | none => exact ⟨rfl, rfl, List.Sublist.refl _⟩
  | some run =>
    exact finish_gateRel stored (gate_fold H L sizes stored hasCb interval (nPieces L sizes.sum)
      run.items.zipIdx (fun x => clock.getD x.2 0) {} {} ⟨rfl, rfl, rfl, List.Sublist.refl _⟩)
      run.fault

/-- **The interval does not matter.**  For every reporting interval and every clock (the values
    of `time_monotonic()` at the gate are arbitrary integers — it may stand still, jump or run
    backwards) and every history of the Torrent object: the verdict — the Boolean returned or the
    error raised — and the exceptions handed to the callback, in order, are the same as for any
    other interval and clock; the calls are a sub-sequence of those of interval 0 (only progress
    reports are dropped).  In particular a hash mismatch is always reported / raised. -/
theorem C02_interval_independent (H : List α → δ) (L : Nat) (sizes : List Nat)
    (fd : List (FState α)) (stored : List δ) (hasCb single pathIsDir : Bool)
    (tpath tpath' : Option String) (interval interval' : Int) (clock clock' : List Int) :
    let r := verifyCall H L sizes fd stored hasCb single pathIsDir tpath interval clock
    let r' := verifyCall H L sizes fd stored hasCb single pathIsDir tpath' interval' clock'
    r.1 = r'.1 ∧ excsOf r.2 = excsOf r'.2 ∧
    r.2.Sublist (verifyFs H L sizes fd stored hasCb single pathIsDir).2 := by
  intro r r'
  obtain ⟨a1, a2, a3⟩ :=
    C02_call_gate H L sizes fd stored hasCb single pathIsDir tpath interval clock
  obtain ⟨b1, b2, _⟩ :=
    C02_call_gate H L sizes fd stored hasCb single pathIsDir tpath' interval' clock'
  exact ⟨a1.trans b1.symm, a2.trans b2.symm, a3⟩

/-- **Interval 0.**  With a reporting interval ≤ 0 and a clock that never runs backwards (and
    starts at ≥ −1, as `time.monotonic()` does) every result is reported: the call is exactly
    `verifyFs`, the subject of the `C02_fs_*` theorems. -/
theorem C02_interval_zero (H : List α → δ) (L : Nat) (sizes : List Nat)
    (fd : List (FState α)) (stored : List δ) (hasCb single pathIsDir : Bool)
    (tpath : Option String) (interval : Int) (hi : interval ≤ 0) (clock : List Int)
    (h0 : ∀ i, -1 ≤ clock.getD i 0) (hmono : ∀ i j, i ≤ j → clock.getD i 0 ≤ clock.getD j 0) :
    verifyCall H L sizes fd stored hasCb single pathIsDir tpath interval clock =
      verifyFs H L sizes fd stored hasCb single pathIsDir := by
  rw [verifyCall_eq_gate, verifyFs_eq_gate]
  cases iterItemsFs L sizes fd with
  | none => rfl
  | some run =>
    simp only
    rw [gate_fold_zero H L sizes stored hasCb interval hi (nPieces L sizes.sum)
      (fun i => clock.getD i 0) hmono run.items 0 {} (fun j _ => h0 j)]
    rfl

/-- **Exactness of the whole call.**  Without a callback `verify` returns `True` if and only if
    every listed path is a regular file of exactly the recorded size all of whose bytes can be
    read and whose content has the stored digests — whatever the history of the Torrent object,
    the reporting interval and the clock. -/
theorem C02_call_iff (H : List α → δ) (L : Nat) (hL : 0 < L) (sizes : List Nat)
    (fd : List (FState α)) (stored : List δ) (single pathIsDir : Bool)
    (hp : ProperPath single pathIsDir) (tpath : Option String) (interval : Int)
    (clock : List Int) :
    (verifyCall H L sizes fd stored false single pathIsDir tpath interval clock).1 = .ok true ↔
      SpecOkFs H L sizes fd stored = true := by
  rw [(C02_call_gate H L sizes fd stored false single pathIsDir tpath interval clock).1]
  exact C02_fs_iff H L hL sizes fd stored single pathIsDir hp

/-- **Reports of the whole call.**  With a callback, for every history, interval and clock: the
    result and the exceptions handed to the callback are those of `verifyFs`; hence (no `read`
    failing, hypotheses of `C02_fs_callback`) the call returns `SpecOkFs`, reports every damaged
    data piece with its VerifyContentError and only owed file errors. -/
theorem C02_call_reports (H : List α → δ) (L : Nat) (hL : 0 < L) (sizes : List Nat)
    (fd : List (FState α)) (stored : List δ) (single pathIsDir : Bool)
    (hp : ProperPath single pathIsDir)
    (hyp : NoBadEmpty sizes (mainDisk sizes fd) = true)
    (hlen : stored.length = nPieces L sizes.sum) (hnf : readFault L sizes fd = none)
    (tpath : Option String) (interval : Int) (clock : List Int) :
    let r := verifyCall H L sizes fd stored true single pathIsDir tpath interval clock
    r.1 = .ok (SpecOkFs H L sizes fd stored) ∧
    (excsOf r.2).filter isContentErr =
      (mismatches H L sizes (mainDisk sizes fd) stored).map
        (fun p => VErr.content p (corruptFiles L sizes p)) ∧
    (∀ x ∈ excsOf r.2, Documented H L sizes fd stored x) ∧
    (SpecOkFs H L sizes fd stored = false → excsOf r.2 ≠ []) := by
  obtain ⟨g1, g2, _⟩ :=
    C02_call_gate H L sizes fd stored true single pathIsDir tpath interval clock
  obtain ⟨c1, _, _, _, _, c6, _, _, c9, _⟩ :=
    C02_fs_callback H L hL sizes fd stored single pathIsDir hp hyp hlen hnf
  obtain ⟨_, d2, _⟩ := C02_fs_documented H L hL sizes fd stored single pathIsDir hp hyp hlen
  dsimp only at g1 g2 c1 c6 c9 d2 ⊢
  rw [g1, g2]
  exact ⟨c1, c6, d2, fun hs => (excsOf_ne_nil_iff _).mpr (c9 hs)⟩

/-- **The callback trace is C12's.**  With a callback and a proper path, the calls made for the
    reader's items `run.items` (at most as many as stored hashes) are, as far as C12 looks at them
    — `pieces_done`, piece index, whether an exception is handed over —, exactly
    `Callbacks.calls` for the results in piece order with the same interval and clock. -/
theorem C02_calls_are_C12 (H : List α → δ) (L : Nat) (sizes : List Nat)
    (fd : List (FState α)) (stored : List δ) (single pathIsDir : Bool)
    (hp : ProperPath single pathIsDir) (tpath : Option String) (interval : Int)
    (clock : List Int) (run : FsRun α) (hit : iterItemsFs L sizes fd = some run)
    (hlen : run.items.length ≤ stored.length) :
    (verifyCall H L sizes fd stored true single pathIsDir tpath interval clock).2.map view =
      (Callbacks.calls true interval (nPieces L sizes.sum)
        (run.items.zipIdx.map (evOf H stored clock))).map viewC := by
  rw [verifyCall_eq_gate, pathKindGate_proper true hp, hit, Callbacks.calls_eq]
  simp only [finish_snd]
  exact gate_is_C12 H L sizes stored interval (nPieces L sizes.sum) clock run.items 0 (by omega) {}
    rfl

/-- **The final report.**  Under the hypotheses of `C02_fs_callback` (so that every piece is
    collected) the last call of the callback reports `pieces_done = pieces_total` — for every
    reporting interval and every clock (C12_final applied to the trace of the call). -/
theorem C02_final_report (H : List α → δ) (L : Nat) (hL : 0 < L) (sizes : List Nat)
    (fd : List (FState α)) (stored : List δ) (single pathIsDir : Bool)
    (hp : ProperPath single pathIsDir)
    (hyp : NoBadEmpty sizes (mainDisk sizes fd) = true)
    (hlen : stored.length = nPieces L sizes.sum) (hnf : readFault L sizes fd = none)
    (hpos : 0 < nPieces L sizes.sum)
    (tpath : Option String) (interval : Int) (clock : List Int) :
    ∃ c, (verifyCall H L sizes fd stored true single pathIsDir tpath interval clock).2.getLast?
      = some c ∧ c.done = nPieces L sizes.sum := by
  obtain ⟨items, run⟩ := runFs_exists H L hL sizes fd stored hyp hlen hnf
  have hbridge := C02_calls_are_C12 H L sizes fd stored single pathIsDir hp tpath interval clock
    ⟨items, none⟩ run.hit (by simp only; rw [run.len, hlen]; omega)
  simp only at hbridge
  obtain ⟨c, hc, hd⟩ := Torf.C12.C12_final true interval (nPieces L sizes.sum)
    (items.zipIdx.map (evOf H stored clock)) (by simp [run.len]) hpos (by
      intro e he hk
      obtain ⟨x, _, rfl⟩ := List.mem_map.mp he
      -- an item of kind `exc` carries at least one exception
      have hc := kindOf_cases H stored x
      rw [show kindOf H stored x = .exc from hk] at hc
      obtain ⟨e, es, hx⟩ := hc
      exact ⟨rfl, by simp [evOf, hx]⟩)
  have hl := congrArg List.getLast? hbridge
  rw [List.getLast?_map, List.getLast?_map, hc] at hl
  cases hg : (verifyCall H L sizes fd stored true single pathIsDir tpath interval
    clock).2.getLast? with
  | none => rw [hg] at hl; cases hl
  | some c' =>
    rw [hg] at hl
    simp only [Option.map_some, Option.some.injEq, view, viewC, Prod.mk.injEq] at hl
    exact ⟨c', rfl, by rw [hl.1, hd]⟩

/-! non-vacuity / concrete instances: byte 1 of file 1 is flipped (piece 1 mismatches); a torrent
    created from `/orig/T`, a huge interval and a frozen clock: the mismatch is reported and
    raised all the same, the progress report of piece 0 … is dropped -/
example : verifyCall (fun p : List Nat => p) 3 [2, 4, 0, 2]
    [.file [1, 2], .file [3, 9, 5, 6], .file [], .file [7, 8]] [[1, 2, 3], [4, 5, 6], [7, 8]]
    true false true (some "/orig/T") 1000 [5, 5, 5] =
    (.ok false, [⟨2, 1, some [9, 5, 6], some (.content 1 [1])⟩, ⟨3, 2, some [7, 8], none⟩]) := by
  decide +kernel
example : (verifyCall (fun p : List Nat => p) 3 [2, 4, 0, 2]
    [.file [1, 2], .file [3, 9, 5, 6], .file [], .file [7, 8]] [[1, 2, 3], [4, 5, 6], [7, 8]]
    false false true (some "/orig/T") 1000 [5, 5, 5]).1 = .error (.content 1 [1]) := by decide +kernel
example : verifyCall (fun p : List Nat => p) 3 [2, 4, 0, 2]
    [.file [1, 2], .gone 2, .file [], .file [7, 8]] [[1, 2, 3], [4, 5, 6], [7, 8]]
    true false true (some "/orig/T") 2 [10, 11, 12] =
    (.ok false, [⟨1, 0, none, some (.read 1)⟩, ⟨3, 2, some [7, 8], none⟩]) := by decide +kernel

end Torf.C02
