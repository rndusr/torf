/-
  C09 — piece hashes never outlive the content layout they were computed for; the derived
  attributes stay coherent under any history of attribute operations.
  Model: Torf.Model.Attrs, invariant: Torf.Spec.Attrs, helper lemmas: Torf.Lemmas.Attrs.
-/
import Torf.Lemmas.Attrs
namespace Torf.C09
open Torf Torf.Attrs

/-- A fresh `Torrent()` satisfies the invariant. -/
theorem C09_inv_init : Inv Attrs.init := by decide

/-- **Step.** Whatever the file system (`env`) looks like, every attribute operation — path,
    files, filepaths and their list mutations, filter-list edits, name, piece size and its
    bounds, hashing, an unrelated field — applied in a state that satisfies the invariant leaves
    a state that satisfies it, *also when the operation raises* (the model returns the state a
    raising setter leaves behind).  Hypothesis `StepOk`: the operation is not a bound assignment
    (`None` counting as the class default) across the other bound (`OpOk`, open finding D09b), and
    it does not fail inside the recalculation of the piece length (the class's
    `calculate_piece_size` raises or returns a value the `piece_size` setter rejects) — for those
    failures see `C09_stamp_step`, `C09_weak_step`, `C09_inv_recovers`, `C09_inv_tracked`. -/
theorem C09_inv_step (env : Env) (s : St) (op : Op) (h : Inv s) (hok : StepOk env s op) :
    Inv (apply env s op).1 :=
  apply_inv h env op hok

/-- **All histories**, of any length, from any state that satisfies the invariant. -/
theorem C09_inv_reachable (env : Env) (ops : List Op) (s : St) (h : Inv s) (hok : AllOk env s ops) :
    Inv (run env s ops) :=
  run_pres (P := Inv) (All := AllOk env) (fun _ _ _ h => h) (fun _ op h hok => apply_inv h env op hok) ops s h hok

/-- … in particular every history on a fresh `Torrent()`. -/
theorem C09_inv_history (env : Env) (ops : List Op) (hok : AllOk env Attrs.init ops) :
    Inv (run env Attrs.init ops) :=
  C09_inv_reachable env ops _ C09_inv_init hok

/-- Operations other than the three kinds of bound assignment that can cross the other bound
    (`piece_size_min = v`, `piece_size_max = v`, `piece_size_max = None`) satisfy `OpOk` in every
    state — in particular `piece_size_min = None`; what stays of `StepOk` is that the step does not
    fail inside the recalculation (`hnf`; it is needed: the `faultEnv` examples at the end of the
    file). -/
theorem C09_inv_step_unconditional (env : Env) (s : St) (op : Op) (h : Inv s)
    (hop : ∀ v, op ≠ .setMin (some v) ∧ op ≠ .setMax (some v) ∧ op ≠ .setMax none)
    (hnf : (apply env s op).2.faulted = false) :
    Inv (apply env s op).1 := by
  apply apply_inv h env op
  refine ⟨?_, hnf⟩
  cases op with
  | setMin v => cases v with
    | none => exact True.intro
    | some x => exact absurd rfl (hop x).1
  | setMax v => cases v with
    | none => exact absurd rfl (hop 0).2.2
    | some x => exact absurd rfl (hop x).2.1
  | _ => exact True.intro

/-- The full-strength statement (no hypothesis on the operation).  The current code falsifies it. -/
def C09_inv_step_full : Prop :=
  ∀ (env : Env) (s : St) (op : Op), Inv s → Inv (apply env s op).1

/-- D09b: `piece_size_max = 32768` is in force; `piece_size_min = 65536` is stored (nothing is
    raised because no piece size is set) and leaves min > max. -/
theorem C09_inv_step_counterexample : ¬ C09_inv_step_full := by
  intro h
  have := h ⟨[], [], []⟩ { Attrs.init with pmax := 32768 } (.setMin (some 65536)) (by decide)
  revert this; decide

/-- **Resetting a bound** (repaired finding D09c, fix 2a4faa5).  `piece_size_max = None` in a
    state whose minimum does not exceed the class default keeps the invariant, and afterwards the
    piece length, if any, is at most the default maximum of 16 MiB (it is clamped, and the hashes
    are dropped if that changed it); `piece_size_min = None` needs no hypothesis. -/
theorem C09_inv_bound_reset (env : Env) (s : St) (h : Inv s) :
    Inv (apply env s (.setMin none)).1 ∧
    (s.pmin ≤ defaultMax →
      Inv (apply env s (.setMax none)).1 ∧ (apply env s (.setMax none)).1.pmax = defaultMax ∧
      ∀ pl, (apply env s (.setMax none)).1.pl = some pl → pl ≤ defaultMax) := by
  refine ⟨apply_inv h env _ ⟨True.intro, Bound.lower.set_not_faulted s none⟩, fun hle => ?_⟩
  have hi : Inv (apply env s (.setMax none)).1 :=
    apply_inv h env (.setMax none) ⟨hle, Bound.upper.set_not_faulted s none⟩
  have hm : (apply env s (.setMax none)).1.pmax = defaultMax := setMax_none_pmax s
  refine ⟨hi, hm, fun pl hp => ?_⟩
  exact hm ▸ (hi.weak.plOk.of_some hp).2.2

/-- regression of the D09c witness: explicit maximum 32 MiB, piece size 32 MiB, then
    `piece_size_max = None` — the invariant holds and the piece size was clamped to 16 MiB -/
example : Inv (apply ⟨[], [], []⟩ { Attrs.init with pmax := 33554432, pl := some 33554432 } (.setMax none)).1 ∧
    (apply ⟨[], [], []⟩ { Attrs.init with pmax := 33554432, pl := some 33554432 } (.setMax none)).1.pl
      = some 16777216 := by decide +kernel

/-- **Crossing, then corrected** (narrows D09b).  A bound assignment — whatever it does: cross the
    other bound, raise after storing the bound — followed directly by an accepted assignment
    (`None` or a positive multiple of 16 KiB) of the *same* bound that does not cross the other
    bound leaves a state satisfying the invariant.  So the damage of D09b is confined to the
    bound itself and is undone by re-assigning that bound (piece length and hashes were not
    touched by the crossing assignment). -/
theorem C09_inv_corrected_step (env : Env) (s : St) (op op' : Op) (h : Inv s)
    (hs : sameBound op op' = true) (hok : OpOk s op') :
    Inv (apply env (apply env s op).1 op').1 :=
  apply_corrected_inv h env op op' hs hok

/-- All histories in which every bound assignment across the other bound is directly followed by
    such a corrective assignment (hypothesis `AllOkC`, evaluated by the driver as `hypC`). -/
theorem C09_inv_reachable_corrected (env : Env) (ops : List Op) (s : St) (h : Inv s)
    (hok : AllOkC env s ops) : Inv (run env s ops) :=
  allOkC_inv env ops s h hok

theorem C09_inv_history_corrected (env : Env) (ops : List Op) (hok : AllOkC env Attrs.init ops) :
    Inv (run env Attrs.init ops) :=
  allOkC_inv env ops _ C09_inv_init hok

/-- `AllOkC` is weaker than `AllOk`: the `_corrected` theorems subsume `C09_inv_reachable/history`. -/
theorem C09_allOk_corrected (env : Env) (ops : List Op) (s : St) (hok : AllOk env s ops) :
    AllOkC env s ops :=
  allOk_allOkC env ops s hok

/-! ### operations that fail half-way, and the object is used again

`_set_files` (the routine behind `path`, `files`, `filepaths`, their list edits and the callback of
the four filter lists) writes the new file list first and recalculates the piece length last; the
recalculation can fail — the class's `calculate_piece_size` raises (the stock method: beyond the
range of a float) or returns a value the `piece_size` setter rejects (an override; bounds that
crossed) — and the caller may catch the error and go on.  `Env.rules` describes the class, so the
theorems below hold for every such class. -/

/-- a fresh `Torrent()` satisfies both weaker invariants -/
theorem C09_stamp_init : InvS Attrs.init ∧ InvW Attrs.init := by decide

/-- **Step, no hypothesis at all.**  Whatever the operation, the file system and the class's
    `calculate_piece_size` do, whether the operation completes, is rejected, or fails half-way
    after it has already replaced the file list: in the state it leaves behind the mode matches
    the file list and piece hashes, if present, are the ones computed for the **current** content
    path, file list and piece length (`InvS`).  No `OpOk` either: this also covers the states of
    open finding D09b (minimum above maximum). -/
theorem C09_stamp_step (env : Env) (s : St) (op : Op) (h : InvS s) : InvS (apply env s op).1 :=
  apply_invS h env op

theorem C09_stamp_reachable (env : Env) (ops : List Op) (s : St) (h : InvS s) :
    InvS (run env s ops) :=
  run_inv (P := InvS) (fun _ op h => apply_invS h env op) ops s h

/-- **All histories, no hypothesis**: after any sequence of operations on a fresh `Torrent()` —
    failed ones included, and whatever came after them — hashes never outlive their layout. -/
theorem C09_stamp_history (env : Env) (ops : List Op) : InvS (run env Attrs.init ops) :=
  C09_stamp_reachable env ops _ C09_stamp_init.1

/-- the same, read off for the hashes: if hashes are present after an operation — in particular
    after one that **raised** —, they describe the current path, layout and piece length, their
    number is `ceil(size / piece length)`, and unless the operation was `generate()` they are the
    hashes that were there before and nothing they depend on was changed by the operation -/
theorem C09_failed_step_no_stale_hashes (env : Env) (s : St) (op : Op) (h : InvS s)
    (hex : PathEx env s) (g : Ghost) (hg : (apply env s op).1.pieces = some g) :
    Current (apply env s op).1 g ∧
    (op ≠ .generate → s.pieces = some g ∧ (apply env s op).1.path = s.path ∧
      (apply env s op).1.content = s.content ∧ (apply env s op).1.pl = s.pl) := by
  refine ⟨?_, fun hop => ?_⟩
  · exact (apply_invS h env op).2.current hg
  · obtain ⟨a, b, c, d, _⟩ := apply_same h env hex op hop g hg
    exact ⟨by rw [← a]; exact hg, b, c, d⟩

/-- **What a failing `_set_files` leaves behind** (the model of the failed step): the new name
    and file list, the new content path, **no hashes**, and the piece length and bounds it found. -/
theorem C09_set_files_failed (env : Env) (s : St) (files : List (Path × Nat)) (bp : Option Path)
    (hf : (setFilesCore env s files bp).2 ≠ .ok) :
    (setFilesCore env s files bp).2.faulted = true ∧
    (setFilesCore env s files bp).1.pieces = none ∧
    (setFilesCore env s files bp).1.pl = s.pl ∧
    (setFilesCore env s files bp).1.content = (place s.name (filterFiles s files (bp.getD [])) (bp.getD [])).1 ∧
    (setFilesCore env s files bp).1.pmin = s.pmin ∧ (setFilesCore env s files bp).1.pmax = s.pmax := by
  unfold setFilesCore at hf ⊢
  simp only at hf ⊢
  generalize hs2 : ({ s with content := _, name := _, pieces := none, path := _ } : St) = s2 at hf ⊢
  rcases recalc_cases env s2 with ⟨_, e⟩ | ⟨_, e, hfl⟩ | ⟨_, n, _, _, _, e⟩
  · rw [e] at hf; exact absurd rfl hf
  · rw [e]; subst hs2; exact ⟨hfl, rfl, rfl, rfl, rfl, rfl⟩
  · rw [e] at hf; exact absurd rfl hf

/-- **Step that may fail inside the recalculation**: under `OpOk` everything of the invariant
    survives except "content of positive size has a piece length" — bounds, the 16 KiB rule, the
    piece length (the previous one, if the recalculation failed) within the bounds, mode, hashes. -/
theorem C09_weak_step (env : Env) (s : St) (op : Op) (h : InvW s) (hok : OpOk s op) :
    InvW (apply env s op).1 :=
  apply_invW h env op hok

theorem C09_weak_reachable (env : Env) (ops : List Op) (s : St) (h : InvW s)
    (hok : AllOpOk env s ops) : InvW (run env s ops) :=
  run_pres (P := InvW) (All := AllOpOk env) (fun _ _ _ h => h) (fun _ op h hok => apply_invW h env op hok) ops s h hok

theorem C09_weak_history (env : Env) (ops : List Op) (hok : AllOpOk env Attrs.init ops) :
    InvW (run env Attrs.init ops) :=
  C09_weak_reachable env ops _ C09_stamp_init.2 hok

/-- **Recovery**: after a failed operation (any state satisfying `InvW`), the next content or
    `piece_size` assignment that completes restores the full invariant. -/
theorem C09_inv_recovers (env : Env) (s : St) (op : Op) (h : InvW s) (hok : OpOk s op)
    (hr : restores op = true) (hres : (apply env s op).2 = .ok) : Inv (apply env s op).1 :=
  Inv.of_weak (apply_invW h env op hok) (apply_restores env s op hr hres)

/-- one tracked step: `InvW` always, `Inv` if `fullAfter` says so -/
theorem C09_inv_tracked_step (env : Env) (s : St) (full : Bool) (op : Op) (h : InvW s)
    (hfull : full = true → Inv s) (hok : OpOk s op) :
    InvW (apply env s op).1 ∧ (fullAfter env s full op = true → Inv (apply env s op).1) := by
  refine ⟨apply_invW h env op hok, fun hfa => ?_⟩
  unfold fullAfter at hfa
  split at hfa
  · exact Bool.noConfusion hfa
  · rename_i hnf
    have hnf' : (apply env s op).2.faulted = false := by simpa using hnf
    cases full with
    | true => exact apply_inv (hfull rfl) env op ⟨hok, hnf'⟩
    | false =>
      simp only [Bool.false_or, Bool.and_eq_true, decide_eq_true_eq] at hfa
      exact C09_inv_recovers env s op h hok hfa.1 hfa.2

/-- **Histories with failing steps** (every operation satisfies `OpOk`; failures inside the
    recalculation are allowed anywhere): `InvW` holds at the end, and the full invariant holds
    whenever the tracker `runFull` says so — it is lost by a step that fails inside the
    recalculation and regained by the next content / `piece_size` assignment that completes. -/
theorem C09_inv_tracked (env : Env) (ops : List Op) : ∀ (s : St) (full : Bool), InvW s →
    (full = true → Inv s) → AllOpOk env s ops →
    InvW (run env s ops) ∧ (runFull env s full ops = true → Inv (run env s ops)) := by
  induction ops with
  | nil => intro s full h hfull _; exact ⟨h, hfull⟩
  | cons op ops ih =>
    intro s full h hfull hok
    obtain ⟨h1, h2⟩ := C09_inv_tracked_step env s full op h hfull hok.1
    exact ih _ _ h1 h2 hok.2

theorem C09_inv_tracked_history (env : Env) (ops : List Op) (hok : AllOpOk env Attrs.init ops) :
    InvW (run env Attrs.init ops) ∧
    (runFull env Attrs.init true ops = true → Inv (run env Attrs.init ops)) :=
  C09_inv_tracked env ops _ true C09_stamp_init.2 (fun _ => C09_inv_init) hok

/-- **The stock class**: with no overriding clause and a size below the float limit, the class's
    method is the integer function `calcPieceSize`, the `None` route of the `piece_size` setter is
    `setPieceSize s none`, and — the bounds being legal and not crossed — it cannot fail.  So for
    the stock class a recalculation fails only beyond the float limit or in a D09b state. -/
theorem C09_recalc_stock (env : Env) (s : St) (hr : env.rules = []) (hsz : size s < floatLimit) :
    (recalc env s).1 = (setPieceSize s none).1 ∧
    (s.pmin ≤ s.pmax → Mult16 s.pmin → Mult16 s.pmax → (recalc env s).2 = .ok) := by
  have hc : calcOf env (size s) s.pmin s.pmax =
      .value (calcPieceSize (size s) s.pmin s.pmax : Nat) := by
    rw [calcOf_stock hr, if_neg (by omega)]
  refine ⟨(recalc_stock env s hc).1, fun hb hmn hmx => ?_⟩
  unfold recalc
  split
  · rfl
  · have hbd := calc_bounds (size s) s.pmin s.pmax hb
    have hm := calc_mult16 (size s) s.pmin s.pmax hmn hmx
    rw [hc]
    simp only
    rw [checkAndStore_nat hm hbd.1 hbd.2]

/-- … and beyond the float limit the stock method raises: the recalculation fails, the state is
    untouched -/
theorem C09_recalc_overflow (env : Env) (s : St) (hr : env.rules = []) (hsz : floatLimit ≤ size s) :
    recalc env s = (s, .err (.calcRaised "OverflowError")) := by
  have hpos : ¬ size s ≤ 0 := by unfold floatLimit at hsz; have := Nat.two_pow_pos 1036; omega
  unfold recalc
  rw [if_neg hpos, calcOf_stock hr, if_pos hsz]

/-- `size` is the sum of the sizes of the listed files — in every state. -/
theorem C09_size_sum (s : St) : size s = ((filesOf s).map (·.2)).sum := by
  unfold size filesOf sizeC
  cases s.content with
  | none => rfl
  | single n => simp
  | multi fs => simp [sumSizes, List.map_map, Function.comp_def]

/-- mode matches the file list: `None` iff nothing is listed, `singlefile` lists exactly one
    file (named like the torrent), `multifile` lists at least one. -/
theorem C09_mode_files (s : St) (h : Inv s) :
    (mode s = 0 ↔ filesOf s = []) ∧ (mode s = 1 → (filesOf s).length = 1) ∧
    (mode s = 2 → 0 < (filesOf s).length) ∧ (mode s = 0 ↔ size s = 0) := by
  have hc := h.stamp.1
  unfold mode filesOf size
  cases hcont : s.content with
  | none => simp [sizeC]
  | single n =>
    rw [hcont] at hc
    have : 0 < n := hc
    simp [sizeC]; omega
  | multi fs =>
    rw [hcont] at hc
    have hpos := sumSizes_pos_of_any fs hc
    cases fs with
    | nil => simp [sumSizes] at hpos
    | cons a t => simp [sizeC]; omega

/-- The piece length, when present, is a multiple of 16 KiB within `[min, max]`, `min ≤ max`,
    and the number of stored digests is `ceil(size / piece length)` (read off the invariant). -/
theorem C09_coherent (s : St) (h : Inv s) :
    s.pmin ≤ s.pmax ∧
    (∀ pl, s.pl = some pl → pl % 16384 = 0 ∧ 0 < pl ∧ s.pmin ≤ pl ∧ pl ≤ s.pmax) ∧
    (∀ g, s.pieces = some g → ∃ pl, s.pl = some pl ∧ g.count = nPieces pl (size s)) := by
  obtain ⟨hb, _, _, hpl, _, _, hs⟩ := h
  refine ⟨hb, ?_, ?_⟩
  · intro pl hp
    have hpl := hpl.of_some hp
    exact ⟨hpl.1.2, hpl.1.1, hpl.2.1, hpl.2.2⟩
  · intro g hg
    have hs := hs.current hg
    exact ⟨g.pl, hs.2.2.1, hs.2.2.2.1⟩

/-- **Ready ⇒ the stamp is current.**  If `is_ready` holds in a state satisfying the invariant,
    piece hashes are present, they were computed at the current content path for the current
    layout and the current piece length, their number is `ceil(size / piece length) > 0`, and
    (by `validate`'s own file-system checks) every listed file exists with the listed size.
    Together with C01 (`generate` stores the SHA-1 chunks of exactly that layout) and C02
    (`verify` recomputes them) this is "a ready torrent verifies against its own path". -/
theorem C09_ready_current (env : Env) (s : St) (h : Inv s) (hr : isReady env s = true) :
    ∃ g p, s.pieces = some g ∧ s.path = some p ∧ g.path = p ∧ g.layout = layout s.content ∧
      s.pl = some g.pl ∧ Mult16 g.pl ∧ g.count = nPieces g.pl (size s) ∧ 0 < g.count ∧
      (∀ f ∈ layout s.content, env.sizeOf? (p ++ f.path) = some f.size) := by
  obtain ⟨_, _, _, hpl, _, _, hs⟩ := h
  unfold isReady at hr
  simp only [Bool.and_eq_true] at hr
  obtain ⟨⟨⟨_, _⟩, h3⟩, h4⟩ := hr
  cases hp : s.pieces with
  | none => rw [hp] at h3; simp at h3
  | some g =>
    obtain ⟨c1, c2, c3, c4, _⟩ := hs.current hp
    have hpl := hpl.of_some c3
    rw [hp, c3] at h3
    simp only [Bool.and_eq_true, bne_iff_ne, ne_eq] at h3
    refine ⟨g, g.path, rfl, c1, rfl, c2, c3, hpl.1, c4, by omega, ?_⟩
    rw [c1] at h4
    cases hc : s.content with
    | none => rw [hc] at h4; simp at h4
    | single n =>
      rw [hc] at h4
      simp only [Bool.and_eq_true, beq_iff_eq] at h4
      intro f hf
      simp only [layout, List.mem_singleton] at hf
      subst hf
      simpa using h4.2
    | multi fs =>
      rw [hc] at h4
      simp only [Bool.and_eq_true, List.all_eq_true, beq_iff_eq] at h4
      intro f hf
      exact h4.2 f hf

/-- **Discard.** In a state satisfying the invariant whose content path (if any) exists, if piece
    hashes are present after an operation other than `generate`, they are the ones present
    before, and the operation changed neither the content path, the listed files and their
    sizes, the piece length, nor any of the four filter lists.  Contrapositive: whenever the set
    of files, their sizes, the filters or the piece length change, previously computed hashes are
    discarded.  The operations include every edit of a filter list — slice and index assignment
    (so `torrent.exclude_globs = […]`), `append`, `insert`, `extend`, `+=` on the list and on the
    attribute, `del` (item and slice), `pop`, `remove`, `clear`, `reverse`, re-assigning the value
    the list already has — on all four lists,
    with any items, duplicates included (D09d is repaired: fix e62ce6d). -/
theorem C09_pieces_survive_only_unchanged (env : Env) (s : St) (op : Op) (h : InvS s)
    (hex : PathEx env s) (hop : op ≠ .generate) (g : Ghost)
    (hg : (apply env s op).1.pieces = some g) :
    s.pieces = some g ∧ (apply env s op).1.path = s.path ∧
    (apply env s op).1.content = s.content ∧ (apply env s op).1.pl = s.pl ∧
    (apply env s op).1.exGlobs = s.exGlobs ∧ (apply env s op).1.inGlobs = s.inGlobs ∧
    (apply env s op).1.exRegexs = s.exRegexs ∧ (apply env s op).1.inRegexs = s.inRegexs := by
  obtain ⟨a, b, c, d, e, f, g', h'⟩ := apply_same h env hex op hop g hg
  exact ⟨by rw [← a]; exact hg, b, c, d, e, f, g', h'⟩

/-- **An accepted edit of a filter list discards the hashes** (the callback `_filters_changed`
    re-runs `path = path` / `files = files`, which pops `pieces`), whatever the edit leaves in the
    list — also when it leaves the list as it was (`x = x`, `append` of a present pattern). -/
theorem C09_filter_edit_discards (env : Env) (s : St) (h : InvS s) (hex : PathEx env s) (inc : Bool) :
    (∀ l, (filtersChanged env (putGlobs s inc l)).1.pieces = none) ∧
    (∀ l, (filtersChanged env (putRxs s inc l)).1.pieces = none) :=
  ⟨fun l => put_none env _ (putGlobs_ok env inc) h hex l,
   fun l => put_none env _ (putRxs_ok env inc) h hex l⟩

/-! ### slice and index assignment on the filter lists (`MonitoredList.__setitem__`, fix e62ce6d) -/

/-- **The re-adding loop is first-occurrence-wins de-duplication**: `ML.readd` (the code's loop
    through `_filter_func`) is the specification `dedupFirst`; the result has no duplicates, has
    exactly the members of the assigned list, and a duplicate-free list is left as it is. -/
theorem C09_readd_spec {α : Type} [DecidableEq α] (l : List α) :
    ML.readd l = dedupFirst l ∧ (ML.readd l).Nodup ∧ (∀ y, y ∈ ML.readd l ↔ y ∈ l) ∧
    (l.Nodup → ML.readd l = l) := by
  rw [readd_eq_dedupFirst]
  exact ⟨rfl, nodup_dedupFirst l, mem_dedupFirst l, dedupFirst_of_nodup l⟩

/-- **A rejected item changes nothing.**  If one of the new items of a slice assignment (so of
    `torrent.exclude_regexs = vs`), the item of an index assignment or of `append` is not a valid
    regular expression, the operation raises `re.error` and the state is exactly the state before
    (list, files, hashes); an index assignment with a valid item and an index out of range
    raises `IndexError` and changes nothing. -/
theorem C09_filter_assign_rejected (env : Env) (s : St) (inc : Bool) :
    (∀ a b vs, vs.all Rx.valid = false →
      apply env s (.rx inc (.setSlice a b vs)) = (s, .err .regex)) ∧
    (∀ i v, Rx.valid v = false → apply env s (.rx inc (.setIndex i v)) = (s, .err .regex)) ∧
    (∀ v, Rx.valid v = false → apply env s (.rx inc (.append v)) = (s, .err .regex)) ∧
    (∀ i v, Rx.valid v = true → ML.pyIndex (getRxs s inc).length i = none →
      apply env s (.rx inc (.setIndex i v)) = (s, .err .index)) ∧
    (∀ i v, ML.pyIndex (getGlobs s inc).length i = none →
      apply env s (.glob inc (.setIndex i v)) = (s, .err .index)) := by
  refine ⟨fun a b vs hv => ?_, fun i v hv => ?_, fun v hv => ?_, fun i v hv hi => ?_, fun i v hi => ?_⟩
  · simp [apply, applyL, setSliceL, hv]
  · simp [apply, applyL, setIndexL, hv]
  · simp [apply, applyL, appendL, hv]
  · simp [apply, applyL, setIndexL, hv, hi]
  · simp [apply, applyL, setIndexL, hi]

/-- **An accepted slice assignment** `lst[a:b] = vs` (all items valid; a glob list accepts every
    item): the list afterwards is the spliced list with later duplicates dropped — duplicates
    among the new items and items that are already in the part of the list that stays —, the
    other three lists are untouched, and everything else is what the callback makes of it. -/
theorem C09_filter_assign (env : Env) (s : St) (inc : Bool) (a : Nat) (b : Option Nat) :
    (∀ vs, apply env s (.glob inc (.setSlice a b vs)) =
        filtersChanged env (putGlobs s inc (dedupFirst (ML.spliced (getGlobs s inc) a b vs))) ∧
      getGlobs (apply env s (.glob inc (.setSlice a b vs))).1 inc =
        dedupFirst (ML.spliced (getGlobs s inc) a b vs)) ∧
    (∀ vs, vs.all Rx.valid = true →
      apply env s (.rx inc (.setSlice a b vs)) =
        filtersChanged env (putRxs s inc (dedupFirst (ML.spliced (getRxs s inc) a b vs))) ∧
      getRxs (apply env s (.rx inc (.setSlice a b vs))).1 inc =
        dedupFirst (ML.spliced (getRxs s inc) a b vs)) :=
  ⟨fun _ => setSliceL_stores env (fun _ => true) _ _ (globs_lens inc) s a b (List.all_eq_true.2 fun _ _ => rfl),
   fun _ hv => setSliceL_stores env Rx.valid _ _ (rxs_lens inc) s a b hv⟩

/-- **An accepted index assignment** `lst[i] = v`: the item at (Python) position `i` is replaced
    and later duplicates are dropped (so assigning an item that is elsewhere in the list shortens
    the list instead of storing `None`). -/
theorem C09_filter_assign_index (env : Env) (s : St) (inc : Bool) (i : Int) (j : Nat) :
    (∀ v, ML.pyIndex (getGlobs s inc).length i = some j →
      getGlobs (apply env s (.glob inc (.setIndex i v))).1 inc =
        dedupFirst ((getGlobs s inc).set j v)) ∧
    (∀ v, Rx.valid v = true → ML.pyIndex (getRxs s inc).length i = some j →
      getRxs (apply env s (.rx inc (.setIndex i v))).1 inc = dedupFirst ((getRxs s inc).set j v)) := by
  exact ⟨fun _ hi => setIndexL_stores env (fun _ => true) _ _ (globs_lens inc) s rfl hi,
    fun _ hv hi => setIndexL_stores env Rx.valid _ _ (rxs_lens inc) s hv hi⟩

/-- **The filter lists stay well formed**: a fresh `Torrent()` has duplicate-free filter lists
    whose regex lists hold only valid patterns, and *every* operation — raising or not, with any
    arguments, no hypothesis — keeps that (D09d left `[None]` in a list). -/
theorem C09_filters_ok_init : FiltersOk Attrs.init := by decide

theorem C09_filters_ok_step (env : Env) (s : St) (op : Op) (h : FiltersOk s) :
    FiltersOk (apply env s op).1 :=
  apply_filtersOk h env op

theorem C09_filters_ok_history (env : Env) (ops : List Op) :
    FiltersOk (run env Attrs.init ops) :=
  run_inv (P := FiltersOk) (fun _ op h => apply_filtersOk h env op) ops _ C09_filters_ok_init

/-- Only an edit of a filter list changes a filter list. -/
theorem C09_filters_only_by_edit (env : Env) (s : St) (op : Op) (hg : ∀ inc o, op ≠ .glob inc o)
    (hr : ∀ inc o, op ≠ .rx inc o) :
    (apply env s op).1.exGlobs = s.exGlobs ∧ (apply env s op).1.inGlobs = s.inGlobs ∧
    (apply env s op).1.exRegexs = s.exRegexs ∧ (apply env s op).1.inRegexs = s.inRegexs :=
  apply_filt env s op hg hr

/-- **Re-assigning the value a list already has** (`torrent.exclude_globs = torrent.exclude_globs`,
    `lst[:] = lst`, or assigning a list equal to the current one a second time — the case the
    thorough tier found before fix e62ce6d): in a state with well-formed filter lists this is
    exactly one run of the callback; no list changes (and, by `C09_filter_edit_discards`, the
    hashes are dropped). -/
theorem C09_filter_reassign_same (env : Env) (s : St) (h : FiltersOk s) (inc : Bool) :
    apply env s (.glob inc .assignSelf) = filtersChanged env s ∧
    apply env s (.glob inc (.setSlice 0 none (getGlobs s inc))) = filtersChanged env s ∧
    apply env s (.rx inc .assignSelf) = filtersChanged env s ∧
    apply env s (.rx inc (.setSlice 0 none (getRxs s inc))) = filtersChanged env s := by
  have eg := setSliceL_self env _ _ _ (globs_lens inc) (h.globs inc)
  have er := setSliceL_self env _ _ _ (rxs_lens inc) (h.rxs inc)
  exact ⟨eg, eg, er, er⟩

/-- **`torrent.exclude_globs += vs` is `extend(vs)`** followed — if `extend` did not raise — by one
    more run of the callback (the setter receives the list itself: former finding D09d, where
    this left `[None]`).  The lists afterwards are those `extend` left. -/
theorem C09_filter_iadd_attr (env : Env) (s : St) (h : FiltersOk s) (inc : Bool) :
    (∀ vs, apply env s (.glob inc (.iaddAttr vs)) =
      if (apply env s (.glob inc (.extend vs))).2 = .ok
      then filtersChanged env (apply env s (.glob inc (.extend vs))).1
      else apply env s (.glob inc (.extend vs))) ∧
    (∀ vs, apply env s (.rx inc (.iaddAttr vs)) =
      if (apply env s (.rx inc (.extend vs))).2 = .ok
      then filtersChanged env (apply env s (.rx inc (.extend vs))).1
      else apply env s (.rx inc (.extend vs))) := by
  -- `extend` leaves well-formed lists, and re-assigning such a list to itself only runs the callback
  exact ⟨fun vs => iaddAttr_eq_changed env _ _ _ (globs_lens inc) s vs
      ((apply_filtersOk h env (.glob inc (.extend vs))).globs inc),
    fun vs => iaddAttr_eq_changed env _ _ _ (rxs_lens inc) s vs
      ((apply_filtersOk h env (.rx inc (.extend vs))).rxs inc)⟩

/-- **`lst.reverse()`** (fix 3d3793a: one slice assignment `self[:] = self._items[::-1]`; the
    inherited `MutableSequence.reverse()` swapped items by pairs of index assignments, whose first
    half creates a duplicate that is dropped, so a pattern was lost and `IndexError` raised).  In
    a state with well-formed filter lists the operation is exactly one run of the callback on the
    state whose list is the reversed list: the list afterwards is **exactly** the reversed list
    (nothing dropped, nothing stored twice), the callback does not touch it, and — in a state
    satisfying the invariant whose content path exists — the piece hashes are discarded. -/
theorem C09_filter_reverse (env : Env) (s : St) (h : FiltersOk s) (inc : Bool) :
    apply env s (.glob inc .reverse) = filtersChanged env (putGlobs s inc (getGlobs s inc).reverse) ∧
    getGlobs (apply env s (.glob inc .reverse)).1 inc = (getGlobs s inc).reverse ∧
    apply env s (.rx inc .reverse) = filtersChanged env (putRxs s inc (getRxs s inc).reverse) ∧
    getRxs (apply env s (.rx inc .reverse)).1 inc = (getRxs s inc).reverse ∧
    (Inv s → PathEx env s →
      (apply env s (.glob inc .reverse)).1.pieces = none ∧
      (apply env s (.rx inc .reverse)).1.pieces = none) := by
  have eg : apply env s (.glob inc .reverse) = filtersChanged env (putGlobs s inc (getGlobs s inc).reverse) :=
    setSliceL_all_lok env _ (getGlobs · inc) (putGlobs · inc) s (lok_reverse _ (h.globs inc))
  have er : apply env s (.rx inc .reverse) = filtersChanged env (putRxs s inc (getRxs s inc).reverse) :=
    setSliceL_all_lok env _ (getRxs · inc) (putRxs · inc) s (lok_reverse _ (h.rxs inc))
  refine ⟨eg, ?_, er, ?_, fun hi hex => ⟨?_, ?_⟩⟩
  · rw [eg]; exact get_changed env _ _ (globs_lens inc) s _
  · rw [er]; exact get_changed env _ _ (rxs_lens inc) s _
  · rw [eg]; exact put_none env _ (putGlobs_ok env inc) hi.stamp hex _
  · rw [er]; exact put_none env _ (putRxs_ok env inc) hi.stamp hex _

/-- **The other in-place edits**, each through the primitives of `MonitoredList`
    (`insert`, `__delitem__`, the callback).  `insert(i, v)`: a rejected item raises `re.error` and
    changes nothing; a present item only runs the callback; a new item goes to Python's clamped
    position.  `pop(i)` / `del lst[i]`: `IndexError` and nothing changed for an index out of range,
    else the item is erased.  `remove(v)`: `ValueError` and nothing changed if `v` is not in the
    list, else its (only) occurrence is erased.  `del lst[a:b]`: the slice is cut out.  Every
    accepted one is one run of the callback (so the hashes go: `C09_filter_edit_discards`). -/
theorem C09_filter_inplace_edits (env : Env) (s : St) (inc : Bool) :
    (∀ i v, Rx.valid v = false → apply env s (.rx inc (.insert i v)) = (s, .err .regex)) ∧
    (∀ i v, Rx.valid v = true → v ∈ getRxs s inc →
      apply env s (.rx inc (.insert i v)) = filtersChanged env s) ∧
    (∀ i v, Rx.valid v = true → v ∉ getRxs s inc →
      apply env s (.rx inc (.insert i v)) = filtersChanged env (putRxs s inc
        ((getRxs s inc).take (ML.insertPos (getRxs s inc).length i) ++
          v :: (getRxs s inc).drop (ML.insertPos (getRxs s inc).length i)))) ∧
    (∀ i, ML.pyIndex (getRxs s inc).length i = none →
      apply env s (.rx inc (.pop i)) = (s, .err .index)) ∧
    (∀ i j, ML.pyIndex (getRxs s inc).length i = some j →
      apply env s (.rx inc (.pop i)) = filtersChanged env (putRxs s inc ((getRxs s inc).eraseIdx j))) ∧
    (∀ v, v ∉ getRxs s inc → apply env s (.rx inc (.remove v)) = (s, .err .value)) ∧
    (∀ v, v ∈ getRxs s inc →
      apply env s (.rx inc (.remove v)) = filtersChanged env (putRxs s inc ((getRxs s inc).erase v))) ∧
    (∀ a b, apply env s (.rx inc (.delSlice a b)) =
      filtersChanged env (putRxs s inc (ML.cut (getRxs s inc) a b))) := by
  have hput := (rxs_lens inc).put_get s
  refine ⟨fun i v hv => ?_, fun i v hv hm => ?_, fun i v hv hm => ?_, fun i hi => ?_,
    fun i j hi => ?_, fun v hm => ?_, fun v hm => ?_, fun a b => rfl⟩
  · simp [apply, applyL, insertL, hv]
  · simp [apply, applyL, insertL, hv, hm, hput]
  · simp [apply, applyL, insertL, hv, hm]
  · simp [apply, applyL, popL, hi]
  · simp [apply, applyL, popL, hi]
  · simp [apply, applyL, removeL, hm]
  · simp [apply, applyL, removeL, hm]

/-- … and the same on the glob lists, which accept every item (`type=str`). -/
theorem C09_filter_inplace_edits_globs (env : Env) (s : St) (inc : Bool) :
    (∀ i v, v ∈ getGlobs s inc → apply env s (.glob inc (.insert i v)) = filtersChanged env s) ∧
    (∀ i v, v ∉ getGlobs s inc →
      apply env s (.glob inc (.insert i v)) = filtersChanged env (putGlobs s inc
        ((getGlobs s inc).take (ML.insertPos (getGlobs s inc).length i) ++
          v :: (getGlobs s inc).drop (ML.insertPos (getGlobs s inc).length i)))) ∧
    (∀ i, ML.pyIndex (getGlobs s inc).length i = none →
      apply env s (.glob inc (.pop i)) = (s, .err .index)) ∧
    (∀ i j, ML.pyIndex (getGlobs s inc).length i = some j →
      apply env s (.glob inc (.pop i)) =
        filtersChanged env (putGlobs s inc ((getGlobs s inc).eraseIdx j))) ∧
    (∀ v, v ∉ getGlobs s inc → apply env s (.glob inc (.remove v)) = (s, .err .value)) ∧
    (∀ v, v ∈ getGlobs s inc →
      apply env s (.glob inc (.remove v)) =
        filtersChanged env (putGlobs s inc ((getGlobs s inc).erase v))) ∧
    (∀ a b, apply env s (.glob inc (.delSlice a b)) =
      filtersChanged env (putGlobs s inc (ML.cut (getGlobs s inc) a b))) := by
  have hput := (globs_lens inc).put_get s
  refine ⟨fun i v hm => ?_, fun i v hm => ?_, fun i hi => ?_,
    fun i j hi => ?_, fun v hm => ?_, fun v hm => ?_, fun a b => rfl⟩
  · simp [apply, applyL, insertL, hm, hput]
  · simp [apply, applyL, insertL, hm]
  · simp [apply, applyL, popL, hi]
  · simp [apply, applyL, popL, hi]
  · simp [apply, applyL, removeL, hm]
  · simp [apply, applyL, removeL, hm]

/-- The side condition of `C09_pieces_survive_only_unchanged` is itself an invariant of every
    operation under an unchanging file system (and holds for a fresh `Torrent()`). -/
theorem C09_path_exists_step (env : Env) (s : St) (op : Op) (h : PathEx env s) :
    PathEx env (apply env s op).1 :=
  apply_pathEx h op

theorem C09_path_exists_init (env : Env) : PathEx env Attrs.init := by
  intro p hp; simp [Attrs.init] at hp

/-- `generate()` never fails for want of a piece length in a state satisfying the invariant. -/
theorem C09_generate_no_internal (env : Env) (s : St) (h : Inv s) (w : String) :
    (generate env s).2 ≠ .err (.internal w) := by
  obtain ⟨_, _, _, _, hpp, hc, _⟩ := h
  unfold generate
  split
  · simp
  · split
    · simp
    · rename_i d hd
      split
      · simp
      · rename_i hd1
        split
        · rename_i hpl
          have := hpp (size_pos_of_diskSize hc hd hd1)
          rw [hpl] at this; simp at this
        · simp

/-- `calculate_piece_size` (integer model): a power of two or one of the bounds; within the
    bounds when min ≤ max; a positive multiple of 16 KiB when the bounds are. -/
theorem C09_calc_piece_size_spec (size mn mx : Nat) :
    ((∃ k, calcPieceSize size mn mx = 2 ^ k) ∨ calcPieceSize size mn mx = mn ∨
        calcPieceSize size mn mx = mx) ∧
    (mn ≤ mx → mn ≤ calcPieceSize size mn mx ∧ calcPieceSize size mn mx ≤ mx) ∧
    (mn ≤ mx → Mult16 mn → Mult16 mx → Mult16 (calcPieceSize size mn mx)) :=
  ⟨calc_shape size mn mx, calc_bounds size mn mx, fun _ => calc_mult16 size mn mx⟩

/-- The unclamped value is `2^e` for the least `e ≥ 0` with `size ≤ 2^e · max_pieces`
    (i.e. `2^ceil(log2(size / max_pieces))`), or 0 when `size ≤ max_pieces / 2`. -/
theorem C09_calc_raw_least (size : Nat) (h : ¬ 2 * size ≤ maxPieces size) :
    ∃ k, rawPieceSize size = 2 ^ k ∧ size ≤ 2 ^ k * maxPieces size ∧
      (0 < k → ¬ size ≤ 2 ^ (k - 1) * maxPieces size) :=
  rawPieceSize_least size h

/-- **What `copy()` carries over**: the metainfo (name, `length`/`files`, piece length, the hashes
    with the stamp they were computed for, comment) — and nothing else: the copy has no content
    path, four empty filter lists of its own (well formed), the class-default bounds. -/
theorem C09_copy_carries (s : St) :
    (copyOf s).name = s.name ∧ (copyOf s).content = s.content ∧ (copyOf s).pl = s.pl ∧
    (copyOf s).pieces = s.pieces ∧ (copyOf s).comment = s.comment ∧ (copyOf s).path = none ∧
    (copyOf s).exGlobs = [] ∧ (copyOf s).inGlobs = [] ∧ (copyOf s).exRegexs = [] ∧
    (copyOf s).inRegexs = [] ∧ (copyOf s).pmin = defaultMin ∧ (copyOf s).pmax = defaultMax ∧
    FiltersOk (copyOf s) ∧ size (copyOf s) = size s ∧ mode (copyOf s) = mode s :=
  ⟨rfl, rfl, rfl, rfl, rfl, rfl, rfl, rfl, rfl, rfl, rfl, rfl, by simp [FiltersOk, copyOf, Attrs.init],
   rfl, rfl⟩

/-- **Independence.**  A step on one object leaves the other object's state — metainfo, content
    path, bounds, all four filter lists — exactly as it was, and what it does to its own object
    depends on that object's state only (the filter lists of a copy are its own, their callback is
    its own `_filters_changed`); `other = this.copy()` does not change `this`. -/
theorem C09_copy_independent (env : Env) (w : St2) (op : Op) :
    (apply2 env w (.on false op)).1.b = w.b ∧ (apply2 env w (.on true op)).1.a = w.a ∧
    (apply2 env w (.on false op)).1.a = (apply env w.a op).1 ∧
    (apply2 env w (.on true op)).1.b = (apply env w.b op).1 ∧
    (apply2 env w (.on false op)).2 = (apply env w.a op).2 ∧
    (apply2 env w (.on true op)).2 = (apply env w.b op).2 ∧
    (apply2 env w (.copy false)).1.a = w.a ∧ (apply2 env w (.copy true)).1.b = w.b ∧
    (apply2 env w (.copy false)).1.b = copyOf w.a ∧ (apply2 env w (.copy true)).1.a = copyOf w.b :=
  ⟨rfl, rfl, rfl, rfl, rfl, rfl, rfl, rfl, rfl, rfl⟩

/-- The copy of an object that satisfies the invariant satisfies it too, if the source carries
    no hashes and its piece length lies within the class-default bounds (`CopyOk`; the second
    clause is the observation formerly listed as D09f: outside the property, a copy starts like a torrent that was read). -/
theorem C09_copy_inv (s : St) (h : Inv s) (hc : CopyOk s) : Inv (copyOf s) := by
  obtain ⟨_, _, _, hpl, hpp, hcont, _⟩ := h
  obtain ⟨hp, hb⟩ := hc
  refine ⟨(by decide : defaultMin ≤ defaultMax), (by decide : Mult16 defaultMin),
    (by decide : Mult16 defaultMax), ?_, hpp, hcont, ?_⟩
  · unfold PlOk at hpl ⊢
    show match s.pl with | none => True | some pl => Mult16 pl ∧ defaultMin ≤ pl ∧ pl ≤ defaultMax
    cases hq : s.pl with
    | none => exact True.intro
    | some pl => rw [hq] at hpl hb; exact ⟨hpl.1, hb.1, hb.2⟩
  · exact stampOk_of_none hp

/-- the counterexample (observation formerly listed as D09f): explicit maximum 32 MiB, piece size 32 MiB; the copy has
    `piece_size > piece_size_max` -/
example : Inv { Attrs.init with pmax := 33554432, pl := some 33554432 } ∧
    ¬ Inv (copyOf { Attrs.init with pmax := 33554432, pl := some 33554432 }) := by decide +kernel

/-- **The invariant over two-object histories**: both objects satisfy `Inv` after every step that
    satisfies `OpOk2` (an attribute operation satisfying `StepOk` on its own object, or a copy
    satisfying `CopyOk`), hence after every history satisfying `AllOk2` on two fresh objects. -/
theorem C09_inv2_step (env : Env) (w : St2) (op : Op2) (ha : Inv w.a) (hb : Inv w.b)
    (hok : OpOk2 env w op) : Inv (apply2 env w op).1.a ∧ Inv (apply2 env w op).1.b := by
  cases op with
  | on second o =>
    cases second
    · exact ⟨apply_inv ha env o hok, hb⟩
    · exact ⟨ha, apply_inv hb env o hok⟩
  | copy fromSecond =>
    cases fromSecond
    · exact ⟨ha, C09_copy_inv _ ha hok⟩
    · exact ⟨C09_copy_inv _ hb hok, hb⟩

theorem C09_inv2_reachable (env : Env) (ops : List Op2) :
    ∀ w : St2, Attrs.Inv w.a → Attrs.Inv w.b → AllOk2 env w ops →
      Attrs.Inv (run2 env w ops).a ∧ Attrs.Inv (run2 env w ops).b :=
  fun w ha hb hok => run2_pres (P := fun w => Inv w.a ∧ Inv w.b) (All := AllOk2 env) (fun _ _ _ h => h)
    (fun w op h hok => C09_inv2_step env w op h.1 h.2 hok) ops w ⟨ha, hb⟩ hok

theorem C09_inv2_history (env : Env) (ops : List Op2) (hok : AllOk2 env init2 ops) :
    Attrs.Inv (run2 env init2 ops).a ∧ Attrs.Inv (run2 env init2 ops).b :=
  C09_inv2_reachable env ops _ C09_inv_init C09_inv_init hok

/-- The filter lists of **both** objects are well formed after every two-object history (no
    hypothesis): a copy starts with empty lists of its own. -/
theorem C09_filters_ok2_history (env : Env) (ops : List Op2) :
    FiltersOk (run2 env init2 ops).a ∧ FiltersOk (run2 env init2 ops).b := by
  refine run2_pres (P := fun w => FiltersOk w.a ∧ FiltersOk w.b) (H := fun _ _ => True)
    (All := fun _ _ => True) (fun _ _ _ _ => ⟨True.intro, True.intro⟩) (fun w op h _ => ?_) ops _
    ⟨C09_filters_ok_init, C09_filters_ok_init⟩ True.intro
  have copied : ∀ s, FiltersOk (copyOf s) := fun s => (C09_copy_carries s).2.2.2.2.2.2.2.2.2.2.2.2.1
  cases op with
  | on second o =>
    cases second
    · exact ⟨apply_filtersOk h.1 env o, h.2⟩
    · exact ⟨h.1, apply_filtersOk h.2 env o⟩
  | copy fromSecond =>
    cases fromSecond
    · exact ⟨h.1, copied _⟩
    · exact ⟨copied _, h.2⟩

/-- **A detached copy** (any object without a content path that carries hashes, e.g. the copy of
    a hashed torrent) keeps its hashes through a content, piece-size or bound operation only if
    that operation changed nothing the hashes depend on (no invariant needed: these setters drop
    `pieces` on every path that changes something). -/
theorem C09_copy_detached_survive (env : Env) (c : St) (g : Ghost) :
    (∀ v, (setPath env c v).1.pieces = some g → Same c (setPath env c v).1) ∧
    (∀ fs, (setFilesAttr env c fs).1.pieces = some g → Same c (setFilesAttr env c fs).1) ∧
    (∀ ps, (setFilepathsAttr env c ps).1.pieces = some g → Same c (setFilepathsAttr env c ps).1) ∧
    (∀ x, (setPieceSize c (some x)).1.pieces = some g → Same c (setPieceSize c (some x)).1) ∧
    (∀ v, (setMin c v).1.pieces = some g → Same c (setMin c v).1) ∧
    (∀ v, (setMax c v).1.pieces = some g → Same c (setMax c v).1) ∧
    (c.path = none → (filtersChanged env c).1.pieces = some g → Same c (filtersChanged env c).1) :=
  ⟨fun v => (setPath_ends env c v).kept.same, fun fs => (Ends.setFiles (setFilesAttr_core env c fs)).kept.same,
   fun ps => (Ends.setFiles (setFilepathsAttr_core env c ps)).kept.same,
   fun x => (checkAndStore_stored c x).kept.same, fun v => Bound.lower.set_same v g, fun v => Bound.upper.set_same v g,
   fun _ => (filtersChanged_ends env c).kept.same⟩

/-! ### non-vacuity: the hypotheses are met by histories that hash and then change things
   (a single-file torrent whose content path is the empty component list, so that `decide`
   never has to compare strings) -/

def exEnv : Env := { files := [([], 81920)] }
def exS : St :=
  { Attrs.init with name := some "f", content := .single 81920, path := some [], pl := some 16384 }
def exOps : List Op := [.setPieceSize (some 49152), .generate]

example : Inv exS := by decide +kernel
example : AllOk exEnv exS (exOps ++ [.setMin (some 65536), .setMax none, .setPieceSize (some 32768)]) := by
  decide +kernel
example : (run exEnv exS exOps).pieces.isSome = true ∧ isReady exEnv (run exEnv exS exOps) = true := by
  decide +kernel
example : (run exEnv exS (exOps ++ [.setPieceSize (some 65536)])).pieces = none := by decide +kernel
example : (run exEnv exS (exOps ++ [.setMin (some 65536)])).pieces = none := by decide +kernel
example : (run exEnv exS (exOps ++ [.setPieceSize (some 49152), .setName none])).pieces.isSome = true := by
  decide +kernel
/-- `AllOkC` is strictly weaker: `piece_size_max = 32768; piece_size_min = 65536` (raises, leaves
    min > max: D09b) `; piece_size_min = 32768` — not `AllOk`, but `AllOkC`; the invariant fails
    after the second and holds again after the third assignment (piece size clamped to 32768). -/
example :
    let ops : List Op := [.setMax (some 32768), .setMin (some 65536), .setMin (some 32768), .generate]
    ¬ AllOk exEnv exS ops ∧ AllOkC exEnv exS ops ∧ ¬ Inv (run exEnv exS (ops.take 2)) ∧
    Inv (run exEnv exS (ops.take 3)) ∧ (run exEnv exS ops).pieces.isSome = true := by decide +kernel
example : ∃ size, ¬ 2 * size ≤ maxPieces size ∧ 16384 < rawPieceSize size := ⟨2 ^ 24, by decide +kernel⟩

/-! ### non-vacuity of the filter-list theorems (concrete lists and histories) -/

example : ML.readd [1, 2, 1, 3, 2] = [1, 2, 3] := by decide +kernel
/-- `l = [1, 2, 3]; l[1:] = [3, 1, 4]` leaves `[1, 3, 4]` (the assigned `1` is already there) -/
example : ML.readd (ML.spliced [1, 2, 3] 1 none [3, 1, 4]) = [1, 3, 4] := by decide +kernel
example : ML.pyIndex 3 (-1) = some 2 ∧ ML.pyIndex 3 3 = none ∧ ML.pyIndex 3 (-4) = none := by decide +kernel

/-- the history the thorough tier found before fix e62ce6d: `exclude_regexs = ['e\\.']`, hash,
    `exclude_regexs = ['e\\.']` again — the list is unchanged (not `[None]`), the hashes are
    dropped, both invariants hold -/
example :
    let r := Rx.lit "e."
    let s1 := run exEnv exS [.rx false (.setSlice 0 none [r]), .generate]
    let s2 := (apply exEnv s1 (.rx false (.setSlice 0 none [r]))).1
    s1.pieces.isSome = true ∧ s1.exRegexs = [r] ∧ s2.exRegexs = [r] ∧ s2.pieces = none ∧
    FiltersOk s2 ∧ Inv s2 := by decide +kernel

/-- the witness of former finding D09d: `exclude_globs += ['*.tmp']` after hashing leaves
    `['*.tmp']`; `include_regexs += [r, '(']` raises `re.error` with `r` kept and applied -/
example :
    let s1 := run exEnv exS [.generate]
    let a := apply exEnv s1 (.glob false (.iaddAttr [.suffix ".tmp"]))
    let b := apply exEnv s1 (.rx true (.iaddAttr [.pre "f", .invalid "("]))
    a.1.exGlobs = [.suffix ".tmp"] ∧ a.2 = .ok ∧ a.1.pieces = none ∧
    b.1.inRegexs = [.pre "f"] ∧ b.2 = .err .regex ∧ b.1.pieces = none := by decide +kernel

/-- a rejected assignment changes nothing (hashes stay); duplicates in the new value are dropped;
    assigning an item that is elsewhere in the list shortens the list; `IndexError` -/
example :
    let r1 := Rx.suffix ".tmp"; let r2 := Rx.lit "/sub/"
    let s1 := run exEnv exS [.rx false (.setSlice 0 none [r1, r2, r1]), .generate]
    s1.exRegexs = [r1, r2] ∧
    apply exEnv s1 (.rx false (.setSlice 0 none [r2, .invalid "[a"])) = (s1, .err .regex) ∧
    apply exEnv s1 (.rx false (.setIndex 2 r1)) = (s1, .err .index) ∧
    (apply exEnv s1 (.rx false (.setIndex (-1) r1))).1.exRegexs = [r1] ∧
    (apply exEnv s1 (.rx false (.setSlice 1 (some 1) [r2, .pre "x", r1]))).1.exRegexs
      = [r1, r2, .pre "x"] := by decide +kernel

/-- `reverse()` on `[r1, r2, r3]` after hashing: exactly `[r3, r2, r1]`, hashes gone (the inherited
    swap-by-index-assignment reverse would be `l[0] = r3` ⇒ `[r3, r2]`, then `l[2] = r1` ⇒
    `IndexError` — the model says so too); `pop`, `remove`, `insert`, `del l[a:b]` -/
example :
    let r1 := Rx.suffix ".tmp"; let r2 := Rx.lit "/sub/"; let r3 := Rx.pre "x"
    let s1 := run exEnv exS [.rx false (.setSlice 0 none [r1, r2, r3]), .generate]
    let a := apply exEnv s1 (.rx false .reverse)
    a.1.exRegexs = [r3, r2, r1] ∧ a.2 = .ok ∧ a.1.pieces = none ∧ s1.pieces.isSome = true ∧
    (apply exEnv s1 (.rx false (.setIndex 0 r3))).1.exRegexs = [r3, r2] ∧
    apply exEnv (apply exEnv s1 (.rx false (.setIndex 0 r3))).1 (.rx false (.setIndex 2 r1))
      = ((apply exEnv s1 (.rx false (.setIndex 0 r3))).1, .err .index) ∧
    (apply exEnv s1 (.rx false (.pop (-1)))).1.exRegexs = [r1, r2] ∧
    apply exEnv s1 (.rx false (.pop 3)) = (s1, .err .index) ∧
    (apply exEnv s1 (.rx false (.remove r2))).1.exRegexs = [r1, r3] ∧
    apply exEnv s1 (.rx false (.remove (.lit "q"))) = (s1, .err .value) ∧
    (apply exEnv s1 (.rx false (.insert (-1) (.lit "q")))).1.exRegexs = [r1, r2, .lit "q", r3] ∧
    (apply exEnv s1 (.rx false (.insert 9 r1))).1.exRegexs = [r1, r2, r3] ∧
    (apply exEnv s1 (.rx false (.insert 9 r1))).1.pieces = none ∧
    (apply exEnv s1 (.rx false (.delSlice 1 none))).1.exRegexs = [r1] := by decide +kernel

/-! ### non-vacuity: histories in which an operation fails half-way and the object is used again -/

/-- a class whose `calculate_piece_size` raises for content of 100 000 bytes and more; a single
    file `T` (80 KiB) and a directory `U` with one file of 120 000 bytes -/
def faultEnv : Env :=
  { files := [(["T"], 81920), (["U", "a"], 120000)], rules := [⟨100000, none, .raise "CalcFault"⟩] }

/-- `path = T; generate()`, then `path = U` fails inside the recalculation: the file list is the
    new one, the hashes are gone, the piece length is still the one of `T`; `InvS` and `InvW` hold
    (and here, a piece length being present, even `Inv`); the tracker gives up the full invariant;
    `path = T` completes and restores it (tracker and invariant agree) -/
example :
    let s1 := run faultEnv Attrs.init [.setPath (some ["T"]), .generate]
    let a := apply faultEnv s1 (.setPath (some ["U"]))
    s1.pieces.isSome = true ∧ isReady faultEnv s1 = true ∧
    a.2 = .err (.calcRaised "CalcFault") ∧ a.2.faulted = true ∧
    a.1.content = .multi [⟨["a"], 120000⟩] ∧ a.1.path = some ["U"] ∧ a.1.pieces = none ∧
    a.1.pl = s1.pl ∧ InvS a.1 ∧ InvW a.1 ∧
    AllOpOk faultEnv Attrs.init [.setPath (some ["T"]), .generate, .setPath (some ["U"]), .setPath (some ["T"])] ∧
    runFull faultEnv Attrs.init true [.setPath (some ["T"]), .generate, .setPath (some ["U"])] = false ∧
    runFull faultEnv Attrs.init true [.setPath (some ["T"]), .generate, .setPath (some ["U"]), .setPath (some ["T"])] = true ∧
    ¬ StepOk faultEnv s1 (.setPath (some ["U"])) := by decide +kernel

/-- on a fresh object the same failure leaves content without any piece length: `Inv` fails,
    `InvW` holds, and the next completed content assignment restores `Inv` (`C09_inv_recovers`);
    a failing `files.append` / filter edit behaves alike -/
example :
    let a := apply faultEnv Attrs.init (.setPath (some ["U"]))
    a.2.faulted = true ∧ ¬ Inv a.1 ∧ InvW a.1 ∧ size a.1 = 120000 ∧ a.1.pl = none ∧
    Inv (apply faultEnv a.1 (.setPath (some ["T"]))).1 ∧ restores (.setPath (some ["T"])) = true ∧
    (apply faultEnv a.1 (.setPath (some ["T"]))).2 = .ok := by decide +kernel

/-- the stock class: `files = [File('N/huge', size=2**1100)]` on the hashed single-file torrent of the
    first examples — `OverflowError` from `calculate_piece_size`, the file list is the new one, the
    hashes are gone, the piece length stays -/
example :
    let s1 := run exEnv exS exOps
    let a := apply exEnv s1 (.setFiles [(["N", "huge"], 2 ^ 1100)])
    s1.pieces.isSome = true ∧ a.2 = .err (.calcRaised "OverflowError") ∧ a.1.pieces = none ∧
    size a.1 = 2 ^ 1100 ∧ a.1.pl = s1.pl ∧ InvS a.1 ∧ InvW a.1 := by decide +kernel

/-- an override that returns a value the `piece_size` setter rejects (`1000`: not a multiple of
    16 KiB) fails with `PieceSizeError` after the file list was replaced -/
example :
    let env : Env := { files := [(["T"], 81920)], rules := [⟨0, none, .value 1000⟩] }
    let a := apply env Attrs.init (.setPath (some ["T"]))
    a.2 = .err .calcRejected ∧ a.1.content = .single 81920 ∧ a.1.pl = none ∧ InvW a.1 ∧ ¬ Inv a.1 :=
  by decide +kernel

end Torf.C09
