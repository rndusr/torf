/-
  C10 — bridge theorems to the kernels translated from the source (regenerated on every run):
  the three-way byte-range test, the piece start/end positions and the skip-bytes computation of
  `_MissingPieces` used by the model are exactly the source's expressions.
-/
import Torf.Generated.Kernels
import Torf.Lemmas.MissingCall
namespace Torf.C10
open Torf Torf.Missing Torf.Generated

/-- `get_files_at_byte_range`: the model's test is the source's comparison chain applied to the
    source's `file_last_byte_index` -/
theorem C10_kernel_byte_range (a b fpos size : Nat) :
    inByteRange a b fpos size =
      byteRangeCond a b fpos (byteRangeFileLast fpos size) := by
  unfold inByteRange byteRangeCond byteRangeFileLast
  all_goals first
    | rfl
    | (rw [Bool.eq_iff_iff]
       simp only [py_test] <;> omega)

/-- `get_files_at_piece_index`: the byte range of piece `i` -/
theorem C10_kernel_piece_range (L : Nat) (sizes : List Nat) (i : Nat) (hL : 0 < L) :
    filesAtPieceIndex L sizes i =
      (let fs := (List.range sizes.length).filter fun k =>
          byteRangeCond (pieceStartPos i L) (pieceEndPos i L) (pos sizes k)
            (byteRangeFileLast (pos sizes k) (sizeOf sizes k))
       if fs.isEmpty then none else some fs) := by
  unfold filesAtPieceIndex filesAtByteRange
  have hfun : (fun k => inByteRange (i * L) ((i + 1) * L - 1) (pos sizes k) (sizeOf sizes k)) =
      (fun k => byteRangeCond (pieceStartPos i L) (pieceEndPos i L) (pos sizes k)
        (byteRangeFileLast (pos sizes k) (sizeOf sizes k))) := by
    funext k
    rw [C10_kernel_byte_range]
    unfold pieceStartPos pieceEndPos
    have h1 : (((i + 1) * L - 1 : Nat) : Int) = ((i : Int) + 1) * (L : Int) - 1 := by
      have : 1 ≤ (i + 1) * L := Nat.mul_pos (Nat.succ_pos i) hL
      rw [Int.natCast_sub this, Int.natCast_mul]; simp
    have h2 : ((i * L : Nat) : Int) = (i : Int) * (L : Int) := Int.natCast_mul i L
    rw [h1, h2]
  rw [hfun]

/-- `_MissingPieces.__call__`: where the next piece starts in the next readable file -/
theorem C10_kernel_skip (L : Nat) (sizes : List Nat) (last : Nat) (affected : List Nat) (next : Nat)
    (hnext : affected.getLast? = some next) :
    skipBy L sizes last affected =
      (if missingContinues ((pos sizes next : Int) + sizeOf sizes next - 1) (missingBoundary last L)
       then ((missingSkip (missingBoundary last L) (pos sizes next)).toNat, affected.dropLast)
       else (0, affected)) := by
  unfold skipBy missingContinues missingBoundary missingSkip
  simp only [hnext]
  have h : (((last * L + L : Nat) : Int) - 1) = ((last : Int) * (L : Int) + (L : Int) - 1) := by
    rw [Int.natCast_add, Int.natCast_mul]
  rw [h]
  by_cases hc : (pos sizes next : Int) + sizeOf sizes next - 1 > (last : Int) * L + L - 1
  · simp [hc]
  · simp [hc]

end Torf.C10
