/-
  C20 — the file-size check is exact and never disagrees with full verification.
  The property theorems, and the facts about the specification (`spec`, `fullCallsFrom`,
  `takeThrough`) they are read off from; lemmas about the model: Torf.Lemmas.FileSize.

  Reading guide: `verifyFilesize t fs cb : Res × List Call` is the code-shaped model of
  `Torrent.verify_filesize(path, callback)` (Torf.Model.FileSize); `fs comps` is what the OS finds
  at `path/comps`; `cb = none` is "no callback", `cb = some g` a callback with `g call = true` iff
  it returned something that is not `None`.  `WF t` = listed paths pairwise distinct, no empty
  component.  `errOf fs f` (Torf.Spec.FileSize) is *the* definition of "what is wrong with f".
-/
import Torf.Lemmas.FileSize
namespace Torf.C20
open Torf Torf.FileSize

/-- a callback that never asks to stop -/
def Passive (cb : Callback) : Prop := ∀ g, cb = some g → ∀ c, g c = false

/-- "every listed file exists under the path with exactly the recorded size", spelled out on the
    file system: a regular file of that size — or, in a multi-file torrent, a directory whose
    files total that size (torf measures whatever it finds with `real_size`). -/
def AllGood (t : Torrent) (fs : FS) : Prop :=
  ∀ f ∈ t.listed, fs f.path = .file f.size ∨ (t.isSingle = false ∧ fs f.path = .dir f.size)

theorem errOf_some {fs : FS} {f : Listed} {e : Err} (h : errOf fs f = some e) :
    e = .read ∨ ∃ n, e = .size n f.size := by
  unfold errOf at h
  split at h
  · exact .inl (Option.some.inj h).symm
  · split at h
    · cases h
    · exact .inr ⟨_, (Option.some.inj h).symm⟩
  · split at h
    · cases h
    · exact .inr ⟨_, (Option.some.inj h).symm⟩

theorem good_iff (fs : FS) (f : Listed) :
    good fs f = true ↔ fs f.path = .file f.size ∨ fs f.path = .dir f.size := by
  unfold good errOf
  cases h : fs f.path with
  | missing => simp
  | file n => by_cases hn : n = f.size <;> simp [hn]
  | dir n => by_cases hn : n = f.size <;> simp [hn]

theorem allGood_iff (t : Torrent) (fs : FS) : allGood t fs = true ↔ AllGood t fs := by
  unfold allGood AllGood singleAtDir
  simp only [Bool.and_eq_true, Bool.not_eq_true', Bool.and_eq_false_iff, List.all_eq_true, good_iff]
  cases hs : t.isSingle with
  | false => simp
  | true =>
    obtain ⟨n, hl⟩ := listed_of_isSingle hs
    simp only [hl, List.mem_singleton, forall_eq, Bool.true_eq_false, false_or, false_and, or_false]
    constructor
    · rintro ⟨hd, h⟩
      rcases h with h | h
      · exact h
      · rw [h] at hd; simp [isDirEntry] at hd
    · intro h
      exact ⟨by rw [h]; rfl, Or.inl h⟩

theorem spec_ok_true (t : Torrent) (fs : FS) (cb : Callback) :
    (spec t fs cb).1 = .ok true ↔
      validateCore t = true ∧ allGood t fs = true ∧
        ∀ g, cb = some g → (takeThrough g (fullCalls t fs)).any g = false := by
  unfold spec allGood
  by_cases hv : validateCore t = true
  · simp only [hv, Bool.not_true, Bool.false_eq_true, if_false, true_and]
    cases cb with
    | some g => simp
    | none =>
      cases hd : singleAtDir t fs with
      | true => simp
      | false =>
        rw [Bool.not_false, Bool.true_and, ← firstErr_none_iff]
        cases firstErr fs t.listed <;> simp
  · simp [hv]

/-- **Refinement.** For every well-formed layout, every file system and every callback, the model
    of `verify_filesize` returns/raises exactly what the specification says and makes exactly the
    specified callback calls. -/
theorem C20_refines (t : Torrent) (hwf : WF t) (fs : FS) (cb : Callback) :
    verifyFilesize t fs cb = spec t fs cb :=
  verifyFilesize_eq_spec t hwf fs cb

/-- **Exactness.** Without a callback or with one that never cancels, a valid torrent's size check
    returns `True` iff every listed file is there with exactly the recorded size. -/
theorem C20_iff (t : Torrent) (hwf : WF t) (hv : validateCore t = true) (fs : FS) (cb : Callback)
    (hp : Passive cb) :
    (verifyFilesize t fs cb).1 = .ok true ↔ AllGood t fs := by
  rw [C20_refines t hwf, spec_ok_true, ← allGood_iff]
  refine ⟨fun h => h.2.1, fun h => ⟨hv, h, fun g hg => ?_⟩⟩
  simp [hp g hg]

/-- … and with *any* callback (also a cancelling one) `True` is only ever returned when every
    listed file is there with exactly the recorded size. -/
theorem C20_true_sound (t : Torrent) (hwf : WF t) (fs : FS) (cb : Callback)
    (h : (verifyFilesize t fs cb).1 = .ok true) : AllGood t fs := by
  rw [C20_refines t hwf, spec_ok_true] at h
  exact (allGood_iff t fs).mp h.2.1

theorem firstErr_some_iff (fs : FS) (l : List Listed) (e : Err) :
    firstErr fs l = some e ↔
      ∃ pre f post, l = pre ++ f :: post ∧ (∀ g ∈ pre, errOf fs g = none) ∧ errOf fs f = some e := by
  rw [firstErr_eq_findSome?, List.findSome?_eq_some_iff]
  exact ⟨fun ⟨a, b, c, h1, h2, h3⟩ => ⟨a, b, c, h1, h3, h2⟩, fun ⟨a, b, c, h1, h2, h3⟩ => ⟨a, b, c, h1, h3, h2⟩⟩

/-- **One error per offending file (a): no callback.** A valid torrent's size check either returns
    `True`, or raises: the is-a-directory error for a single-file torrent pointed at a directory,
    otherwise exactly the read/size error of the *first* offending file in listing order. -/
theorem C20_errors_each_nocallback (t : Torrent) (hwf : WF t) (hv : validateCore t = true)
    (fs : FS) (e : Err) :
    (verifyFilesize t fs none).1 = .raised e ↔
      (singleAtDir t fs = true ∧ e = .isDir) ∨
      (singleAtDir t fs = false ∧ ∃ pre f post, t.listed = pre ++ f :: post ∧
          (∀ g ∈ pre, errOf fs g = none) ∧ errOf fs f = some e) := by
  rw [C20_refines t hwf, ← firstErr_some_iff]
  unfold spec
  simp only [hv, Bool.not_true, Bool.false_eq_true, if_false]
  by_cases hd : singleAtDir t fs = true
  · simp only [hd, if_true, Res.raised.injEq, true_and, Bool.true_eq_false, false_and, or_false]
    exact eq_comm
  · simp only [hd, if_false, Bool.false_eq_true, false_and, false_or]
    cases firstErr fs t.listed <;> simp

theorem fullCallsFrom_map_exc (fs : FS) (total i : Nat) (l : List Listed) :
    (fullCallsFrom fs total i l).map (·.exc) = l.map (errOf fs) := by
  induction l generalizing i with
  | nil => rfl
  | cons f rest ih => simp [fullCallsFrom, ih]

theorem takeThrough_passive (p : α → Bool) (l : List α) (h : ∀ c, p c = false) :
    takeThrough p l = l := by
  induction l with
  | nil => rfl
  | cons a rest ih => simp [takeThrough, h, ih]

/-- **One error per offending file (b): passive callback.** The exception arguments of the
    callback calls are, file by file, exactly `errOf` of the listed files (`None` for a good
    file, the read error for a missing one, the size error with actual and expected size
    otherwise); nothing is raised; the result is `False` iff some file offends. For a
    single-file torrent pointed at a directory there is the one is-a-directory report. -/
theorem C20_errors_each_callback (t : Torrent) (hwf : WF t) (hv : validateCore t = true)
    (fs : FS) (g : Call → Bool) (hp : ∀ c, g c = false) :
    ((verifyFilesize t fs (some g)).2.map (·.exc) =
        if singleAtDir t fs then [some .isDir] else t.listed.map (errOf fs)) ∧
    (verifyFilesize t fs (some g)).1 = .ok (allGood t fs) := by
  rw [C20_refines t hwf]
  unfold spec
  simp only [hv, Bool.not_true, Bool.false_eq_true, if_false]
  rw [takeThrough_passive g _ hp]
  constructor
  · unfold fullCalls
    by_cases hd : singleAtDir t fs = true
    · simp [hd]
    · simp [hd, fullCallsFrom_map_exc]
  · have hg : ∀ l : List Call, l.any g = false := by
      intro l; simp [hp]
    simp [hg]

theorem fullCallsFrom_eq_mapIdx (fs : FS) (total i : Nat) (l : List Listed) :
    fullCallsFrom fs total i l = l.mapIdx fun j f => (⟨i + j, i + j + 1, total, errOf fs f⟩ : Call) := by
  induction l generalizing i with
  | nil => rfl
  | cons f rest ih =>
    rw [fullCallsFrom, ih, List.mapIdx_cons]
    simp only [Nat.add_zero, Nat.add_assoc, Nat.add_comm 1]

theorem takeThrough_eq_take (p : α → Bool) (l : List α) : takeThrough p l = l.take (l.findIdx p + 1) := by
  induction l with
  | nil => rfl
  | cons a rest ih =>
    rw [takeThrough, List.findIdx_cons]
    cases p a
    · simp [ih]
    · rfl

/-- **Callback protocol.** For *every* callback (also a cancelling one) on a valid multi-file or
    single-file torrent whose path is not the single-file-at-directory case: there is a `k ≤ n`
    (`n` = number of listed files) such that exactly `k` calls are made; call number `j` (0-based)
    is about listed file `j`, has `files_done = j + 1`, `files_total = n` and the exception
    `errOf` of file `j`; no call before the last one asked to stop; `k < n` only if the last call
    asked to stop; and the result is `False` whenever a call asked to stop. -/
theorem C20_callback_order (t : Torrent) (hwf : WF t) (hv : validateCore t = true) (fs : FS)
    (g : Call → Bool) (hd : singleAtDir t fs = false) :
    let r := verifyFilesize t fs (some g)
    let n := t.listed.length
    ∃ k, k ≤ n ∧ r.2.length = k ∧
      (∀ j, j < k → ∃ f, t.listed[j]? = some f ∧ r.2[j]? = some ⟨j, j + 1, n, errOf fs f⟩) ∧
      (∀ j c, j + 1 < k → r.2[j]? = some c → g c = false) ∧
      (k < n → ∃ c, r.2[k - 1]? = some c ∧ 0 < k ∧ g c = true) ∧
      ((∃ c ∈ r.2, g c = true) → r.1 = .ok false) := by
  intro r n
  -- `L` = the calls of a run that is never cancelled; the run makes the first `idx + 1` of them
  have hr : r = spec t fs (some g) := C20_refines t hwf fs (some g)
  unfold spec at hr
  simp only [hv, Bool.not_true, Bool.false_eq_true, if_false, fullCalls, hd, takeThrough_eq_take] at hr
  generalize hL : fullCallsFrom fs t.listed.length 0 t.listed = L at hr
  rw [fullCallsFrom_eq_mapIdx] at hL
  have hLj : ∀ j, L[j]? = t.listed[j]?.map fun f => (⟨j, j + 1, n, errOf fs f⟩ : Call) := by
    intro j; rw [← hL, List.getElem?_mapIdx]; simp only [Nat.zero_add]; rfl
  have hlen : L.length = n := by rw [← hL, List.length_mapIdx]
  have h2 : r.2 = L.take (L.findIdx g + 1) := by rw [hr]
  have hget : ∀ j, j < L.findIdx g + 1 → r.2[j]? = L[j]? := fun j hj => by
    rw [h2, List.getElem?_take]; simp [hj]
  refine ⟨min (L.findIdx g + 1) n, Nat.min_le_right _ _, by rw [h2, List.length_take, hlen], ?_, ?_, ?_, ?_⟩
  · intro j hj
    have hjn : j < t.listed.length := Nat.lt_of_lt_of_le hj (Nat.min_le_right _ _)
    exact ⟨t.listed[j], by simp, by rw [hget j (Nat.lt_of_lt_of_le hj (Nat.min_le_left _ _)), hLj]; simp [hjn]⟩
  · intro j c hj hc
    have hj : j + 1 < L.findIdx g + 1 := Nat.lt_of_lt_of_le hj (Nat.min_le_left _ _)
    rw [hget j (Nat.lt_of_succ_lt hj)] at hc
    obtain ⟨_, rfl⟩ := List.getElem?_eq_some_iff.mp hc
    exact List.not_of_lt_findIdx (Nat.lt_of_succ_lt_succ hj)
  · intro hkn
    have hlt : L.findIdx g < L.length := by omega
    refine ⟨L[L.findIdx g], ?_, by omega, List.findIdx_getElem⟩
    rw [hget _ (by omega)]
    have : min (L.findIdx g + 1) n - 1 = L.findIdx g := by omega
    simp [this, hlt]
  · rintro ⟨c, hc, hpc⟩
    have hany : (L.take (L.findIdx g + 1)).any g = true := List.any_eq_true.mpr ⟨c, h2 ▸ hc, hpc⟩
    rw [hr]; simp [hany]

/-- … and in the single-file-at-a-directory case a callback is called exactly once, for the one
    listed file, with the is-a-directory error, and the result is `False` whatever it returns. -/
theorem C20_callback_single_at_dir (t : Torrent) (hwf : WF t) (hv : validateCore t = true)
    (fs : FS) (g : Call → Bool) (hd : singleAtDir t fs = true) :
    verifyFilesize t fs (some g) = (.ok false, [⟨0, 1, 1, some .isDir⟩]) := by
  rw [C20_refines t hwf]
  unfold spec
  simp only [hv, Bool.not_true, Bool.false_eq_true, if_false, fullCalls, hd, if_true, takeThrough]
  have : allGood t fs = false := by unfold allGood; simp [hd]
  cases g ⟨0, 1, 1, some Err.isDir⟩ <;> simp [this]

/-- **Agreement with full verification.** Whenever full content verification succeeds on a path
    (C02's specification: every listed file present as a regular file of exactly the recorded
    size, and all piece hashes match), the size check — without a callback or with one that never
    cancels — succeeds on it too. -/
theorem C20_verify_implies (t : Torrent) (hwf : WF t) (fs : FS) (hashesMatch : Bool)
    (cb : Callback) (hp : Passive cb) (h : fullVerifyOk t fs hashesMatch = true) :
    (verifyFilesize t fs cb).1 = .ok true := by
  unfold fullVerifyOk allPresentExact at h
  simp only [Bool.and_eq_true, List.all_eq_true, presentExact, beq_iff_eq] at h
  obtain ⟨⟨hv, hall⟩, _⟩ := h
  rw [C20_iff t hwf hv fs cb hp]
  intro f hf
  exact Or.inl (hall f hf)

/-- **Only documented errors.** On a well-formed layout the check never raises the (undocumented)
    unknown-path error of `partial_size`, with a callback it raises nothing once `validate()` has
    passed, and an invalid torrent raises the metainfo error before anything else happens. -/
theorem C20_no_internal (t : Torrent) (hwf : WF t) (fs : FS) (cb : Callback) :
    (verifyFilesize t fs cb).1 ≠ .raised .path ∧
    (validateCore t = true → cb.isSome → ∃ b, (verifyFilesize t fs cb).1 = .ok b) ∧
    (validateCore t = false → verifyFilesize t fs cb = (.raised .metainfo, [])) := by
  rw [C20_refines t hwf]
  unfold spec
  refine ⟨?_, ?_, ?_⟩
  · by_cases hv : validateCore t = true
    · simp only [hv, Bool.not_true, Bool.false_eq_true, if_false]
      cases cb with
      | some g => intro h; cases h
      | none =>
        by_cases hd : singleAtDir t fs = true
        · rw [if_pos hd]; intro h; cases h
        · rw [if_neg hd]
          cases hfe : firstErr fs t.listed with
          | none => intro h; cases h
          | some e =>
            -- what is raised is the error of a listed file: a read or a size error
            obtain ⟨_, f, _, _, _, hf⟩ := (firstErr_some_iff fs t.listed e).mp hfe
            rcases errOf_some hf with rfl | ⟨n, rfl⟩ <;> (intro h; cases h)
    · simp [hv]
  · intro hv hcb
    cases cb with
    | none => cases hcb
    | some g => simp [hv]
  · intro hv; simp [hv]

/-! ### Non-vacuity: concrete layouts meeting every hypothesis -/

/-- two files and a zero-length entry, 16 KiB pieces, 2 digests -/
def exT : Torrent :=
  ⟨"T", .multi [⟨["a"], 16384⟩, ⟨["d", "z"], 0⟩, ⟨["d", "b"], 7⟩], 16384, 40⟩

def exFsGood : FS := fun p =>
  if p = ["a"] then .file 16384 else if p = ["d", "z"] then .file 0
  else if p = ["d", "b"] then .file 7 else .missing

/-- second file missing, third one byte too long -/
def exFsBad : FS := fun p =>
  if p = ["a"] then .file 16384 else if p = ["d", "b"] then .file 8 else .missing

example : WF exT := by decide +kernel
example : validateCore exT = true := by decide +kernel
example : verifyFilesize exT exFsGood none = (.ok true, []) := by decide +kernel
example : fullVerifyOk exT exFsGood true = true := by decide +kernel
example : verifyFilesize exT exFsBad none = (.raised .read, []) := by decide +kernel
example : verifyFilesize exT exFsBad (some fun _ => false)
    = (.ok false, [⟨0, 1, 3, none⟩, ⟨1, 2, 3, some .read⟩, ⟨2, 3, 3, some (.size 8 7)⟩]) := by decide +kernel
/-- cancelling at the second call -/
example : verifyFilesize exT exFsBad (some fun c => c.done == 2)
    = (.ok false, [⟨0, 1, 3, none⟩, ⟨1, 2, 3, some .read⟩]) := by decide +kernel
/-- a directory in place of a listed file passes when its files total the recorded size -/
example : verifyFilesize exT (fun p => if p = ["d", "b"] then .dir 7 else exFsGood p) none
    = (.ok true, []) := by decide +kernel
/-- single-file torrent pointed at a directory -/
example : verifyFilesize ⟨"s", .single 5, 16384, 20⟩ (fun _ => .dir 5) (some fun _ => false)
    = (.ok false, [⟨0, 1, 1, some .isDir⟩]) := by decide +kernel
example : singleAtDir ⟨"s", .single 5, 16384, 20⟩ (fun _ => .dir 5) = true := by decide +kernel

end Torf.C20
