/-
  C13 — magnet links round-trip: the size clauses ("URL lists of any length").
  Property theorems only (helper lemmas: Torf.Lemmas.MagnetUri; the witnesses: Torf.Lemmas.MagnetSize).
-/
import Torf.Lemmas.MagnetSize
import Torf.Properties.C13
namespace Torf.C13
open Torf Torf.Magnet

/-- The rendered link of a well-formed magnet has exactly `fieldCount m` `key=value` fields
    (`xt`, one for each of dn / xl / xs that is set, one for all keywords, one per tracker, one per
    webseed): this is the number `urllib.parse.parse_qsl` would compare with a `max_num_fields`. -/
theorem C13_field_count (isUrl : Str → Bool) (m : MagnetObj) (h : WF isUrl m = true) :
    numFields (intercalateStr ['&'] (pieces m)) = fieldCount m := by
  have w := (WF_iff isUrl m).1 h
  rw [pieces_eq w, numFields_link _ fun e he => (epsOf_clean w e he).1, epsOf_length]

/-- The code's parser passes no field limit to `parse_qs`: the parser with `limit = none` is
    `from_string`. -/
theorem C13_no_field_limit (isUrl : Str → Bool) (intO : Str → IntResult) (uri : Str) :
    fromStringMax none isUrl intO uri = fromString isUrl intO uri :=
  fromStringMax_none isUrl intO uri

/-- What a parser with `parse_qs(query, max_num_fields=n)` (ValueError → MagnetError) does on the
    link of a well-formed magnet: it gives back the magnet iff the magnet has at most `n` fields,
    and raises MagnetError otherwise. -/
theorem C13_field_limit (isUrl : Str → Bool) (intO : Str → IntResult) (m : MagnetObj)
    (h : WF isUrl m = true) (n : Nat) :
    fromStringMax (some n) isUrl intO (render m) =
      if n < fieldCount m then .err .magnet else .ok m :=
  (fromStringMax_render (some n) isUrl intO m h).trans (by simp only [Option.any_some, decide_eq_true_eq])

/-- The round-trip statement for a parser with a field limit `n` … -/
def C13_field_limit_full (n : Nat) : Prop :=
  ∀ (isUrl : Str → Bool) (intO : Str → IntResult) (m : MagnetObj),
    WF isUrl m = true → fromStringMax (some n) isUrl intO (render m) = .ok m

/-- … is false for **every** `n` (seeded change C13-6a had `n = 100`): a magnet with `n` trackers
    is well-formed, renders to `n + 1` fields, and is rejected.  The property's "URL lists of any
    length" leaves no room for any limit. -/
theorem C13_field_limit_counterexample (n : Nat) : ¬ C13_field_limit_full n := by
  intro h
  have hr := h (fun _ => true) (fun _ => none) (bigMagnet n) (bigMagnet_wf n)
  rw [C13_field_limit _ _ _ (bigMagnet_wf n), bigMagnet_fields] at hr
  simp at hr

/-- Non-vacuity in the size dimension: for every `n` there is a well-formed magnet with `n`
    trackers (more than `n` fields) — and it round-trips through the code's parser. -/
theorem C13_parse_render_any_size (n : Nat) :
    ∃ m, WF (fun _ => true) m = true ∧ m.tr.length = n ∧ n < fieldCount m ∧
      ∀ intO, fromString (fun _ => true) intO (render m) = .ok m :=
  ⟨bigMagnet n, bigMagnet_wf n, by simp [bigMagnet, manyUrls_length],
   by rw [bigMagnet_fields]; omega,
   fun intO => C13_parse_render _ intO _ (bigMagnet_wf n)⟩

/-! ### non-vacuity -/

example : WF (fun _ => true) (bigMagnet 3) = true ∧ fieldCount (bigMagnet 3) = 4 := by decide +kernel

end Torf.C13
