/-
  C13 — magnet links round-trip: torrents whose tracker / webseed metainfo was not laid out by
  torf's own setters (third-party files, `torrent.metainfo` edited directly).
  Property theorems only (helper lemmas: Torf.Lemmas.MagnetTorrent).
-/
import Torf.Lemmas.MagnetTorrent
import Torf.Properties.C13
namespace Torf.C13
open Torf Torf.Magnet

/-- **Torrent → magnet → torrent for any tracker layout.**  Whatever `announce`, `announce-list`
    and `url-list` hold — `announce` missing from `announce-list`, an empty `announce-list`, empty
    tiers, duplicates within and across tiers, a single string as `url-list`, … —: whenever the
    getters `Torrent.trackers` / `Torrent.webseeds` can be read at all (`viewOfMeta … = ok v`; `v` is
    what they show), `magnet()` succeeds, its link parses back to the same magnet, the magnet holds
    exactly the getter's flat tracker list and webseeds, and `torrent()` gives back `v`: infohash,
    name, size, tracker URLs in order, webseeds.  No hypothesis on the metainfo fields; `is_url` is
    any predicate that rejects the empty string. -/
theorem C13_meta_roundtrip (isUrl : Str → Bool) (hne : isUrl [] = false) (intO : Str → IntResult)
    (t : TorrentMeta) (hb : MetaBaseOk t = true) (v : TorrentView)
    (hv : viewOfMeta isUrl t = .ok v) :
    ∃ m, magnetOfMeta isUrl t = .ok m ∧ fromString isUrl intO (render m) = .ok m ∧
      m.tr = v.trackers ∧ m.ws = v.webseeds ∧ torrentOfMagnet m = .ok v := by
  have hok := view_torrentOk isUrl hne t hb v hv
  obtain ⟨m, h1, h2, h3⟩ := C13_torrent_roundtrip isUrl intO v hok
  obtain ⟨_, _, htr, hws⟩ := torrentOfMagnet_ok h3
  exact ⟨m, by simp only [magnetOfMeta, hv, bind, Except.bind]; exact h1, h2, htr.symm, hws.symm, h3⟩

/-- **What the getters show** (the `trackers` field of the view is *defined* as the result of C16's
    model of the `Torrent.trackers` getter; this is its closed form): the URLs in the order
    `announce` — unless that very string occurs in `announce-list` — then `announce-list` tier by
    tier, every URL with ' ' → '+', each at its first occurrence only; webseeds likewise from
    `url-list` (a blank string counts as no URL).  The other three attributes are passed through. -/
theorem C13_meta_getter_flat (isUrl : Str → Bool) (t : TorrentMeta) (v : TorrentView)
    (hv : viewOfMeta isUrl t = .ok v) :
    v.trackers = flatTrackersSpec t ∧ v.webseeds = webseedsSpec t ∧
    v.infohash = t.infohash ∧ v.name = t.name ∧ v.size = t.size := by
  obtain ⟨_, rfl⟩ := ite_ok_iff.1 (viewOfMeta_eq isUrl t ▸ hv)
  exact ⟨rfl, rfl, rfl, rfl, rfl⟩

/-- **When the getters can be read**: iff every URL of `announce` / `announce-list` / `url-list` is
    acceptable to `utils.URL` (valid as given and with ' ' → '+').  Otherwise they raise URLError —
    and so does `magnet()` (such metainfo passes `validate()`: finding D07i of C07, outside C13). -/
theorem C13_meta_readable (isUrl : Str → Bool) (t : TorrentMeta) :
    ((∃ v, viewOfMeta isUrl t = .ok v) ↔
      (rawTrackerUrls t ++ rawWebseedUrls t).all (urlAccepts isUrl) = true) ∧
    (∀ e, viewOfMeta isUrl t = .error e → e = .url ∧ magnetOfMeta isUrl t = .error .url) := by
  rw [viewOfMeta_eq]
  by_cases h : (rawTrackerUrls t ++ rawWebseedUrls t).all (urlAccepts isUrl) = true
  · rw [if_pos h]
    exact ⟨⟨fun _ => h, fun _ => ⟨_, rfl⟩⟩, nofun⟩
  · rw [if_neg h]
    refine ⟨⟨nofun, fun h' => absurd h' h⟩, fun e he => ?_⟩
    cases he
    exact ⟨rfl, by simp only [magnetOfMeta, viewOfMeta_eq, if_neg h, bind, Except.bind]⟩

/-- The same round trip for a `magnet()` that takes the tracker URLs straight from the metainfo
    (`flatten(metainfo['announce-list'])` if present, else `(metainfo['announce'],)`; seeded change
    C13-6b) instead of from the `trackers` getter … -/
def C13_meta_raw_full : Prop :=
  ∀ (isUrl : Str → Bool) (t : TorrentMeta) (v : TorrentView),
    MetaBaseOk t = true → viewOfMeta isUrl t = .ok v →
    ∃ m, magnetOfMetaRaw isUrl t = .ok m ∧ torrentOfMagnet m = .ok v

def foreignWitness : TorrentMeta :=
  { infohash := witnessHash, name := some ['n'], size := some 1,
    announce := some "http://main/".toList, announceList := some [["http://t1/".toList]] }

/-- … is false: `announce` that is not repeated in `announce-list` is shown first by the getter and
    is missing from that magnet. -/
theorem C13_meta_raw_counterexample : ¬ C13_meta_raw_full := by
  intro h
  obtain ⟨v, hv⟩ := (C13_meta_readable (fun _ => true) foreignWitness).1.2 (by decide +kernel)
  obtain ⟨m, hm, hback⟩ := h (fun _ => true) foreignWitness v (by decide +kernel) hv
  -- the getter shows `announce` and the tracker of `announce-list` …
  have h1 : v.trackers = flatTrackersSpec foreignWitness := (C13_meta_getter_flat _ _ _ hv).1
  -- … the magnet, and so the torrent made from it, only the latter
  unfold magnetOfMetaRaw at hm
  obtain ⟨_, -, hm⟩ := bind_ok hm
  have := h1.symm.trans ((torrentOfMagnet_ok hback).2.2.1.trans (magnetOfTorrent_tr hm))
  dsimp only at this
  revert this
  decide +kernel

/-! ### non-vacuity -/

/-- hypotheses of `C13_meta_roundtrip`: a foreign layout (announce not in announce-list, an empty
    tier, a duplicate, a URL with a space, `url-list` a single string) that is readable -/
example : MetaBaseOk foreignWitness = true ∧
    (rawTrackerUrls { foreignWitness with
        announceList := some [["http://t1/a b".toList], [], ["http://t1/a+b".toList]],
        urlList := .str "http://w/".toList }
      ++ rawWebseedUrls { foreignWitness with urlList := .str "http://w/".toList }).all
      (urlAccepts fun s => s.take 4 = "http".toList) = true ∧
    flatTrackersSpec { foreignWitness with
        announceList := some [["http://t1/a b".toList], [], ["http://t1/a+b".toList]] }
      = ["http://main/".toList, "http://t1/a+b".toList] := by
  -- a literal as the list of its characters: the kernel is slow on `String.toList` of a literal
  repeat rw [String.toList_ofList]
  decide +kernel

end Torf.C13
