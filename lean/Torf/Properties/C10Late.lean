/-
  C10 (also used by C02 / C03 / C12) — damage that happens DURING the run.

  `iter_pieces` looks at a file (size lookup, open) when its loop arrives at that file, not when the
  generator starts.  `iterItemsAt` is the main loop on a disk that changes with time: iteration `j`
  of `for file in self._torrent.files` sees the disk `diskAt j`.  If the change happens while the
  reader is inside the first `m` files, which are good and are themselves not touched, the run yields
  exactly what it yields when the damage is there from the start (`iterItems` on the final disk).
  The harness realises this with the `late` key of the pipeline cases (the damaged files after the
  first one get their state at the reader's first `read()` call) and judges the run against the model
  evaluated on the final disk.  A reader that remembers the sizes of all files when it starts (seeded
  change C12-5b) does not have this property: there `diskAt j` is the initial disk for the size lookup
  and the final one for the read.
-/
import Torf.Model.Missing
namespace Torf.C10
open Torf Torf.Missing

/-- the main loop of `iter_pieces` on a disk that changes while it runs -/
def iterItemsAt (L : Nat) (sizes : List Nat) (diskAt : Nat → List (Option (List α))) :
    Option (List (Item α)) :=
  let st := (List.range sizes.length).foldl (fun st j => step L sizes (diskAt j) st j) {}
  if st.failed then none
  else if st.trailing.isEmpty then some st.out
  else some (st.out ++ [dataItem st.trailing])

theorem step_good_local (L : Nat) (sizes : List Nat) (d d' : List (Option (List α))) (st : St α)
    (j : Nat) (hsame : d.getD j none = d'.getD j none) (hgood : fileError sizes d' j = none) :
    step L sizes d st j = step L sizes d' st j := by
  have hfe : fileError sizes d j = none := by
    unfold fileError at hgood ⊢
    rw [hsame]; exact hgood
  unfold step
  rw [hfe, hgood, hsame]

/-- damage while the reader is inside the first `m` files (good, untouched): the run goes exactly as
    if the damage had been there from the start -/
theorem C10_late_damage (L : Nat) (sizes : List Nat) (diskAt : Nat → List (Option (List α)))
    (final : List (Option (List α))) (m : Nat)
    (hpre : ∀ j < m, fileError sizes final j = none ∧ (diskAt j).getD j none = final.getD j none)
    (hpost : ∀ j, m ≤ j → diskAt j = final) :
    iterItemsAt L sizes diskAt = iterItems L sizes final := by
  have hstep : (fun st j => step L sizes (diskAt j) st j) = step L sizes final := by
    funext st j
    by_cases hjm : j < m
    · exact step_good_local L sizes (diskAt j) final st j (hpre j hjm).2 (hpre j hjm).1
    · rw [hpost j (Nat.le_of_not_lt hjm)]
  unfold iterItemsAt iterItems
  rw [hstep]

/-- the harness's instance: the change happens during the first iteration (file 0 good, untouched) -/
theorem C10_late_damage_first (L : Nat) (sizes : List Nat) (initial final : List (Option (List α)))
    (hgood : fileError sizes final 0 = none) (hsame : initial.getD 0 none = final.getD 0 none) :
    iterItemsAt L sizes (fun j => if j = 0 then initial else final) = iterItems L sizes final := by
  apply C10_late_damage L sizes _ final 1
  · intro j hj
    obtain rfl : j = 0 := Nat.lt_one_iff.mp hj
    exact ⟨hgood, hsame⟩
  · exact fun j hj => if_neg (Nat.ne_of_gt hj)

/-- the hypothesis cannot be dropped: a loop that sees the INITIAL state of a later file (here: intact)
    yields a data item where the run on the final disk (file 1 one byte short) reports the size error -/
theorem C10_late_damage_counterexample :
    (iterItemsAt 2 [2, 2] (fun _ => [some [1, 2], some [3, 4]])).map (List.map fun it => (it.data, it.excs))
      ≠ (iterItems 2 [2, 2] [some [1, 2], some [3]]).map (List.map fun it => (it.data, it.excs)) := by
  decide +kernel

/-! Non-vacuity: file 1 shrinks while the reader is in file 0 -/
example : (iterItemsAt 2 [2, 2] (fun j => if j = 0 then [some [1, 2], some [3, 4]] else [some [1, 2], some [3]])).map
      (List.map fun it => (it.data, it.file, it.excs))
    = some [(some [1, 2], 0, []), (none, 1, [(1, .size)])] := by decide +kernel

end Torf.C10
