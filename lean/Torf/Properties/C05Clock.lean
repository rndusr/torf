/-
  C05 — the creation date and the process's time zone.

  `read_stream` stores `datetime.fromtimestamp(i)` for an integer `creation date` and `dump`
  writes `int(dt.timestamp())`.  The byte-exact round trip needs int → datetime → int to be the
  identity on every int the setter accepts (`Clock.Lawful`).

  Proved here: *if* the process's clock obeys that law (at the document's date), the setter/encoder
  pair is the identity and `C05_dump_read` holds with "creation date absent or an int" in place of
  the representability hypothesis; the law holds in every zone with one change of the UTC offset
  (DST on / off, any offsets, gap and fold: `Zone2`); the epoch-relative shortcut
  `fromtimestamp(0) + timedelta(seconds=i)` breaks it exactly when the offset at `i` differs from
  the offset at the epoch.
  Oracle (measured by the harness, not proved): that CPython's `fromtimestamp` / `timestamp` in the
  real zone obey the law at the document's date (flag `lawful` per case; grid around every
  transition of every zone of the run in the evidence), and that torf's setter and encoder are
  these two calls (correspondence of the stored datetime's timestamp and of the dump).
-/
import Torf.Model.Clock
import Torf.Properties.C05
namespace Torf.C05
open Torf Torf.Bencode Torf.Codec Torf.ReadStream Torf.Clock

/-- from the law at the one instant `i` (what is measured per document): what `creation_date = i`
    stores is the datetime whose timestamp is `i` -/
theorem C05_date_setter_getter_at {Nv : Type} (c : Clock Nv) (i : Int) (d : PyVal)
    (hl : c.lawfulAt i = true) (h : fromTsOf c i = some d) : d = .datetime (some i) := by
  unfold fromTsOf at h
  unfold Clock.lawfulAt at hl
  cases hloc : c.local i with
  | none => simp [hloc] at h
  | some nv =>
    simp only [hloc, Option.map_some, Option.some.injEq, beq_iff_eq] at h hl
    rw [← h, hl]

private theorem lawfulAt_of_lawful {Nv : Type} {c : Clock Nv} (hl : c.Lawful) (i : Int) :
    c.lawfulAt i = true := by
  unfold Clock.lawfulAt
  cases h : c.local i with
  | none => rfl
  | some d => simp only [hl i d h, beq_self_eq_true]

/-- **int → datetime → int is the identity** for every int the setter accepts, in every process
    whose clock is lawful: what `creation_date = i` stores is written back as `i`. -/
theorem C05_date_setter_getter {Nv : Type} (c : Clock Nv) (hl : c.Lawful) (i : Int) (d : PyVal)
    (h : fromTsOf c i = some d) : encodeValue d = .ok (.int i) :=
  C05_date_setter_getter_at c i d (lawfulAt_of_lawful hl i) h ▸ rfl

/-- `creation date`, if present, is an integer -/
def DateInt (enc : List (Bytes × BVal)) : Prop :=
  ∀ cd, lookup kCreationDate enc = some cd → ∃ i, cd = .int i

private theorem fromTs_some_of_readDict {env : Env} {enc : List (Bytes × BVal)} {validate : Bool}
    {t : List (PyVal × PyVal)} {i : Int} (hcd : lookup kCreationDate enc = some (.int i))
    (hr : readDict env enc validate = .ok t) : ∃ d, env.fromTs i = some d := by
  cases h : env.fromTs i with
  | some d => exact ⟨d, rfl⟩
  | none =>
    obtain ⟨_, _, hmd1, _⟩ := readDict_ok hr
    simp [hcd, setCreationDate, h] at hmd1

/-- **`C05_dump_read` with the clock explicit:** in a process with clock `c`, for every canonical
    document whose `creation date` is absent or an integer at which the clock is lawful (other
    hypotheses as in `C05_dump_read`), `read_stream(x).dump() == x`. -/
theorem C05_dump_read_clock {Nv : Type} (c : Clock Nv) (vo : PyVal → Bool) (x : Bytes)
    (enc : List (Bytes × BVal)) (validate : Bool) (t : List (PyVal × PyVal))
    (hx : parseStrict (envOf c vo).lim x = some (.dict enc))
    (hu : utf8Keys (.dict enc) = true)
    (hpieces : PiecesOk enc) (hpriv : PrivateOk enc) (hint : DateInt enc)
    (hlaw : ∀ i, lookup kCreationDate enc = some (.int i) → c.lawfulAt i = true)
    (hinfo : validate = true ∨ (lookup kInfo enc).isSome = true)
    (hr : read (envOf c vo) x validate = .ok t) :
    dump (envOf c vo) t validate = .ok x := by
  have hdate : DateOk (envOf c vo) enc := by
    intro cd hcd
    obtain ⟨i, rfl⟩ := hint cd hcd
    refine ⟨i, rfl, ?_⟩
    obtain ⟨d, hd⟩ := fromTs_some_of_readDict hcd (readDict_of_read (parseStrict_inv hx).1 hr)
    have := C05_date_setter_getter_at c i d (hlaw i hcd) hd
    rw [hd, this]
  exact C05_dump_read (envOf c vo) x enc validate t hx hu hpieces hpriv hdate hinfo hr

/-- `timestamp()` undoes `fromtimestamp`: before the transition the first reading of the wall time
    is the instant itself; after it the second reading is, and `fold` is set exactly when the first
    reading would fall before the transition too. -/
private theorem stamp_local (z : Zone2) (i : Int) : z.stamp (z.local i) = i := by
  unfold Zone2.stamp Zone2.local Zone2.off
  by_cases h1 : i < z.T
  · have hf : decide (z.T ≤ i ∧ i + z.b < z.T + z.a) = false :=
      decide_eq_false fun h => absurd h1 (Int.not_lt.mpr h.1)
    simp only [if_pos h1, hf, Int.add_sub_cancel, Bool.false_eq_true, if_false, ite_self]
  · have h2 : z.T ≤ i := Int.not_lt.mp h1
    simp only [if_neg h1, Int.add_sub_cancel, if_pos h2]
    by_cases h3 : i + z.b - z.a < z.T
    · have hf : decide (z.T ≤ i ∧ i + z.b < z.T + z.a) = true := decide_eq_true ⟨h2, by omega⟩
      simp only [if_pos h3, hf, if_true]
    · simp only [if_neg h3]

/-- every zone with one change of the UTC offset obeys the law: whatever the offsets, whichever
    direction the clocks jump (gap or fold), before and after 1970 -/
theorem C05_date_zone2_lawful (z : Zone2) : z.clock.Lawful := by
  intro i d h
  obtain rfl : z.local i = d := Option.some.inj h
  exact congrArg some (stamp_local z i)

/-- the epoch-relative shortcut is right in a zone whose offset never changes (UTC, …): every
    reading of a wall time is the wall time minus that offset -/
theorem C05_date_epoch_relative_constant (z : Zone2) (h : z.a = z.b) : z.erClock.Lawful := by
  intro i d hd
  obtain rfl : z.erLocal i = d := Option.some.inj hd
  have hs : ∀ d, z.stamp d = d.1 - z.a := by
    intro d
    simp only [Zone2.stamp, ← h, ite_self]
  have hl : (z.erLocal i).1 = i + z.a := by
    simp only [Zone2.erLocal, Zone2.local, Zone2.off, ← h, ite_self]
    split <;> omega
  exact congrArg some (by rw [hs, hl, Int.add_sub_cancel])

/-- **… and wrong as soon as the offset at a pre-1970 instant differs from the offset at the
    epoch:** UTC−4 (DST) until 1969-12-02, UTC−5 afterwards; the creation date −14182940
    (1969-07-20T20:17:40Z) comes back as −14186540, an hour earlier on every load and save. -/
theorem C05_date_epoch_relative_counterexample :
    ¬ (Zone2.erClock ⟨-2592000, -14400, -18000⟩).Lawful ∧
    (Zone2.erClock ⟨-2592000, -14400, -18000⟩).lawfulAt (-14182940) = false ∧
    Zone2.stamp ⟨-2592000, -14400, -18000⟩ (Zone2.erLocal ⟨-2592000, -14400, -18000⟩ (-14182940)) = -14186540 ∧
    (Zone2.clock ⟨-2592000, -14400, -18000⟩).lawfulAt (-14182940) = true := by
  refine ⟨fun h => ?_, by decide, by decide, by decide⟩
  have := h (-14182940) _ rfl
  simp only [Zone2.erClock, Option.some.injEq] at this
  exact absurd this (by decide)

/-- non-vacuity of `C05_dump_read_clock` (and of `C05_date_setter_getter`): the document `rtX`
    (creation date 5) in the zone "UTC−5 with DST until 1969-12-02" -/
example : ∃ t, read (envOf (Zone2.clock ⟨-2592000, -14400, -18000⟩) (fun _ => true)) rtX true = .ok t ∧
    (Zone2.clock ⟨-2592000, -14400, -18000⟩).lawfulAt 5 = true ∧
    fromTsOf (Zone2.clock ⟨-2592000, -14400, -18000⟩) 5 = some (.datetime (some 5)) := by
  obtain ⟨t, ht⟩ := exists_ok_of_toBool
    (x := read (envOf (Zone2.clock ⟨-2592000, -14400, -18000⟩) (fun _ => true)) rtX true) (by decide +kernel)
  exact ⟨t, ht, by decide, rfl⟩

end Torf.C05
