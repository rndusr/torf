/-
  C17 — bridge theorems to the kernels translated from `Torrent.write` and `Torrent.write_stream`
  (regenerated from the source on every run): the model's `write` refuses a call before doing
  anything else exactly when the code's guard `not overwrite and os.path.exists(filepath)` fires — and
  then nothing but the existence check has happened and the target is what it was; otherwise the dump
  comes next. The model's `write_stream` rewinds and truncates exactly when the code's guard
  (`stream.seekable()`) says so.
-/
import Torf.Generated.Kernels
import Torf.Lemmas.Write
namespace Torf.C17
open Torf Torf.Export Torf.Write Torf.Generated

/-- refused ⇒ the write error, the target untouched, only the existence check made -/
theorem C17_kernel_refused (d : Except ErrKind Bytes) (ov : Bool) (t : Target)
    (h : writeRefused ov t.env.existsAns = true) :
    write d ov t = (.error .write, t, [.existsCheck]) := by
  unfold writeRefused at h
  unfold write
  simp [h]

/-- not refused ⇒ the first thing after the (optional) existence check is the dump: the log starts with
    it -/
theorem C17_kernel_not_refused (d : Except ErrKind Bytes) (ov : Bool) (t : Target)
    (h : writeRefused ov t.env.existsAns = false) :
    ∃ rest, (write d ov t).2.2 = (if ov then [] else [Eff.existsCheck]) ++ Eff.dump :: rest := by
  generalize hw : write d ov t = x
  cases write_run hw with
  | refused hov hex => simp [writeRefused, hov, hex] at h
  | dumpFailed => exact ⟨[], rfl⟩
  | openFailed => exact ⟨[.open_], rfl⟩
  | stored => exact ⟨[.open_, .writeFile], rfl⟩

/-- the refusal depends on the flag and on the existence answer only — in particular not on the size or
    kind of what is there (a zero-byte file, a directory, a dangling link that `exists` reports) -/
theorem C17_kernel_refusal_iff (d : Except ErrKind Bytes) (ov : Bool) (t : Target) :
    (write d ov t).2.2 = [.existsCheck] ↔ writeRefused ov t.env.existsAns = true := by
  constructor
  · intro h
    by_cases hr : writeRefused ov t.env.existsAns = true
    · exact hr
    · have hf : writeRefused ov t.env.existsAns = false := by simpa using hr
      obtain ⟨rest, hrest⟩ := C17_kernel_not_refused d ov t hf
      rw [hrest] at h
      cases ov <;> simp at h
  · intro h
    rw [C17_kernel_refused d ov t h]

/-- `write_stream`: a stream the code rewinds (`seekable()`) ends up holding exactly the dumped bytes when
    nothing fails; one it does not rewind gets them appended -/
theorem C17_kernel_rewinds (content : Bytes) (s : Stream)
    (hq : s.quota = none) (hf : s.faultAt = none) (ht : s.text = false) (hr : s.readOnly = false) :
    (writeStream (.ok content) s).2.content =
      if streamRewinds s.seekable then content else s.content ++ content := by
  rcases h : writeStream (.ok content) s with ⟨e | u, s'⟩
  · have hw := writeStream_ok_cases content s
    rw [h] at hw
    simp [Stream.mayFail, Stream.accepts, hq, hf, ht, hr] at hw
  · rw [writeStream_ok_content h (.inr (by simp [Stream.accepts, hq]))]
    cases s.seekable <;> rfl

end Torf.C17
