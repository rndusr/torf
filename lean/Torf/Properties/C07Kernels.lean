/-
  C07 — bridge theorems to the kernels translated from the source (regenerated on every run):
  the two pieces of arithmetic in `Torrent.validate()` — the 16 KiB rule for `piece length` and the
  expected number of pieces (integer ceiling, /repo bbc687b) — are the source's expressions.
-/
import Torf.Generated.Kernels
import Torf.Model.Validate
namespace Torf.C07
open Torf Torf.Export Torf.Generated Torf.Validate

/-- `utils.is_divisible_by_16_kib` as used by the `piece length` check -/
theorem C07_kernel_divisible (v : PyVal) :
    isDivisibleBy16KiB v = isDivisibleBy16Kib (intVal v) := by
  unfold isDivisibleBy16KiB isDivisibleBy16Kib
  by_cases h : intVal v ≤ 0
  · simp [h]
  · simp only [h, if_false, decide_false, Bool.false_eq_true]
    by_cases hm : intVal v % 16384 = 0 <;> simp [hm]

/-- `-(-length // piece_length)`: for the piece lengths that pass the 16 KiB rule (positive) the
    model's floor division is the source's expression (Lean's `/` on `Int` rounds like Python's
    `//` for a positive divisor) -/
theorem C07_kernel_piece_count (size pl : Int) (hpl : 0 < pl) :
    expPieces size pl = validatePieceCount size pl := by
  unfold expPieces validatePieceCount
  rw [Int.fdiv_eq_ediv_of_nonneg _ (Int.le_of_lt hpl)]

/-- a piece length accepted by the 16 KiB rule is positive, so `C07_kernel_piece_count` applies
    wherever `validate()` gets as far as counting pieces -/
theorem C07_kernel_divisible_pos (x : Int) (h : isDivisibleBy16Kib x = true) : 0 < x := by
  unfold isDivisibleBy16Kib at h
  by_cases hx : x ≤ 0
  · simp [hx] at h
  · omega

/-! ### the type rules of `validate()` as data

`Generated.validateCommonAsserts` / `validateSingleAsserts` / `validateFileAsserts` are the runs of
`utils.assert_type(md, <key path>, <types>, must_exist=…, check=…)` statements of `Torrent.validate`, read from the
source on every run: key path, type names, `must_exist` (default from `assert_type`'s signature), check function.
`runAsserts` interprets such a table with the model's `assertType`; the class names and check names are given their
meaning below (`isinstName`, `checkNamed`: trusted reading of the Python names). -/

/-- `isinstance(v, <class>)` for the class names used in the type tuples -/
def isinstName (v : PyVal) (c : String) : Bool :=
  if c = "dict" ∨ c = "abc.Mapping" then v.isDict
  else if c = "str" then v.isStr
  else if c = "bytes" then v.isBytes
  else if c = "int" then v.isInt
  else if c = "bool" then (match v with | .bool _ => true | _ => false)
  else if c = "float" then v.isFloat
  else if c = "datetime" then (match v with | .datetime _ => true | _ => false)
  else if c = "utils.Iterable" then v.isIterable
  else false

/-- the `check=` functions by name; an unknown name rejects everything (so a new check function cannot go unnoticed) -/
def checkNamed (urlOk : Bytes → Bool) (c : String) : Option (PyVal → Bool) :=
  if c = "" then none
  else if c = "utils.is_divisible_by_16_kib" then some isDivisibleBy16KiB
  else if c = "utils.is_url" then some (isUrl urlOk)
  else if c = "utils.is_file_length" then some isFileLength
  else if c = "utils.is_md5sum" then some isMd5sum
  else some (fun _ => false)

/-- a key of a generated key path: `"#i"` is the loop index -/
def keyOf (i : Nat) (k : String) : Key := if k = "#i" then .i i else .s k

abbrev AssertRow := List String × List String × Bool × String

def ruleOf (urlOk : Bytes → Bool) (e : AssertRow) : Rule :=
  { types := fun v => e.2.1.any (isinstName v), mustExist := e.2.2.1, check := checkNamed urlOk e.2.2.2 }

/-- run a table of rules in order; the first failure ends the run -/
def runAsserts (urlOk : Bytes → Bool) (md : PyVal) (i : Nat) : List AssertRow → Except ErrKind Unit
  | [] => pure ()
  | e :: t => do
    assertType md (e.1.map (keyOf i)) (ruleOf urlOk e)
    runAsserts urlOk md i t

/-! `isinstName` at the class names of the tables (`simp` decides the comparisons of string literals natively), and
    the type tuples of the tables as the predicates the model's rules use -/

private theorem isinst_dict (v : PyVal) : isinstName v "dict" = v.isDict := by unfold isinstName; simp
private theorem isinst_mapping (v : PyVal) : isinstName v "abc.Mapping" = v.isDict := by unfold isinstName; simp
private theorem isinst_str (v : PyVal) : isinstName v "str" = v.isStr := by unfold isinstName; simp
private theorem isinst_bytes (v : PyVal) : isinstName v "bytes" = v.isBytes := by unfold isinstName; simp
private theorem isinst_int (v : PyVal) : isinstName v "int" = v.isInt := by unfold isinstName; simp
private theorem isinst_bool (v : PyVal) :
    isinstName v "bool" = (match v with | .bool _ => true | _ => false) := by unfold isinstName; simp
private theorem isinst_float (v : PyVal) : isinstName v "float" = v.isFloat := by unfold isinstName; simp
private theorem isinst_datetime (v : PyVal) :
    isinstName v "datetime" = (match v with | .datetime _ => true | _ => false) := by unfold isinstName; simp
private theorem isinst_iterable (v : PyVal) : isinstName v "utils.Iterable" = v.isIterable := by unfold isinstName; simp

private theorem types_dict : (fun v => ["dict"].any (isinstName v)) = PyVal.isDict := by
  funext v; simp only [List.any_cons, List.any_nil, Bool.or_false, isinst_dict]
private theorem types_strbytes : (fun v => ["str", "bytes"].any (isinstName v)) = isStrOrBytes := by
  funext v; simp only [List.any_cons, List.any_nil, Bool.or_false, isinst_str, isinst_bytes, isStrOrBytes]
private theorem types_int : (fun v => ["int"].any (isinstName v)) = PyVal.isInt := by
  funext v; simp only [List.any_cons, List.any_nil, Bool.or_false, isinst_int]
private theorem types_bytes : (fun v => ["bytes"].any (isinstName v)) = PyVal.isBytes := by
  funext v; simp only [List.any_cons, List.any_nil, Bool.or_false, isinst_bytes]
/-- `bool` is a subclass of `int` -/
private theorem types_boolint : (fun v => ["bool", "int"].any (isinstName v)) = PyVal.isInt := by
  funext v; simp only [List.any_cons, List.any_nil, Bool.or_false, isinst_bool, isinst_int]
  cases v <;> rfl
private theorem types_intdt : (fun v => ["int", "datetime"].any (isinstName v)) = isIntOrDatetime := by
  funext v; simp only [List.any_cons, List.any_nil, Bool.or_false, isinst_int, isinst_datetime]
  cases v <;> rfl
private theorem types_str : (fun v => ["str"].any (isinstName v)) = PyVal.isStr := by
  funext v; simp only [List.any_cons, List.any_nil, Bool.or_false, isinst_str]
private theorem types_iter : (fun v => ["utils.Iterable"].any (isinstName v)) = PyVal.isIterable := by
  funext v; simp only [List.any_cons, List.any_nil, Bool.or_false, isinst_iterable]
private theorem types_intfloat : (fun v => ["int", "float"].any (isinstName v)) = isIntOrFloat := by
  funext v; simp only [List.any_cons, List.any_nil, Bool.or_false, isinst_int, isinst_float, isIntOrFloat]
private theorem types_mapping : (fun v => ["abc.Mapping"].any (isinstName v)) = PyVal.isDict := by
  funext v; simp only [List.any_cons, List.any_nil, Bool.or_false, isinst_mapping]

/-- the rules shared by single-file and multi-file torrents: the model's `checkCommon` IS the source's
    first run of `assert_type` calls, interpreted in order -/
theorem C07_kernel_common_asserts (urlOk : Bytes → Bool) (md : PyVal) :
    checkCommon urlOk md = runAsserts urlOk md 0 validateCommonAsserts := by
  unfold checkCommon validateCommonAsserts
  simp only [runAsserts, ruleOf, keyOf, checkNamed, List.map, types_dict, types_strbytes, types_int, types_bytes,
    types_boolint, types_intdt, types_str, types_iter]
  simp

/-- a stage that begins with a run of `assert_type` calls raises whatever that run raises -/
private theorem error_of_prefix {x : Except ErrKind Unit} {y : Except ErrKind Unit} {k : Unit → Except ErrKind Unit}
    {e : ErrKind} (hy : y = x >>= k) (h : x = .error e) : y = .error e := by
  rw [hy, h]; rfl

/-- the single-file branch starts with the source's run of calls for `length` and `md5sum`: whatever that run
    raises, the branch raises (the piece-count and disk checks come after it) -/
theorem C07_kernel_single_asserts (urlOk : Bytes → Bool) (fs : FsOracle) (md info : PyVal) (plen : Nat) (e : ErrKind)
    (h : runAsserts urlOk md 0 validateSingleAsserts = .error e) :
    checkSingle fs md info plen = .error e := by
  refine error_of_prefix (k := fun _ => ?rest) ?eq h
  case eq =>
    unfold validateSingleAsserts checkSingle
    simp only [runAsserts, ruleOf, keyOf, checkNamed, List.map, types_intfloat, types_str, bind_assoc, pure_bind]
    simp
    rfl

/-- the per-file block of the multi-file branch starts with the source's run of calls for entry `i`
    (`files[i]` a mapping, its `length`, `path`, `md5sum`): whatever that run raises, the block raises -/
theorem C07_kernel_file_asserts (urlOk : Bytes → Bool) (md : PyVal) (i : Nat) (fileinfo : PyVal) (e : ErrKind)
    (h : runAsserts urlOk md i validateFileAsserts = .error e) :
    checkFile md i fileinfo = .error e := by
  refine error_of_prefix (k := fun _ => ?rest) ?eq h
  case eq =>
    unfold validateFileAsserts checkFile
    simp only [runAsserts, ruleOf, keyOf, checkNamed, List.map, types_mapping, types_intfloat, types_iter, types_str,
      bind_assoc, pure_bind]
    simp
    rfl

/-- a key of a generated key path inside the nested loops: `"#i"` / `"#j"` are the loop indices -/
def keyOf2 (i j : Nat) (k : String) : Key := if k = "#i" then .i i else if k = "#j" then .i j else .s k

/-- one generated row as the `assertType` call it stands for -/
def rowCall (urlOk : Bytes → Bool) (md : PyVal) (i j : Nat) (e : AssertRow) : Except ErrKind Unit :=
  assertType md (e.1.map (keyOf2 i j)) (ruleOf urlOk e)

/-- the three rules inside the loops of `validate()` — a tier of `announce-list`, a URL of a tier, a component of a
    file's `path` — are the `assertType` calls the model makes there (`checkTier`, `checkFile`) -/
theorem C07_kernel_loop_rules (urlOk : Bytes → Bool) (md : PyVal) (i j : Nat) :
    validateTierAsserts.map (rowCall urlOk md i j) =
      [assertType md [.s "announce-list", .i i] { types := PyVal.isIterable }] ∧
    validateTierUrlAsserts.map (rowCall urlOk md i j) =
      [assertType md [.s "announce-list", .i i, .i j] { types := PyVal.isStr, check := some (isUrl urlOk) }] ∧
    validatePathCompAsserts.map (rowCall urlOk md i j) =
      [assertType md [.s "info", .s "files", .i i, .s "path", .i j] { types := isStrOrBytes }] := by
  unfold validateTierAsserts validateTierUrlAsserts validatePathCompAsserts
  simp only [List.map, rowCall, ruleOf, keyOf2, checkNamed, types_iter, types_str, types_strbytes]
  simp

/-- after the shared rules and the announce-list loops: which arm of the source's `if / elif` chain `validate()` takes
    (pieces empty / ragged / both kinds ⇒ MetainfoError; single-file branch; multi-file branch; neither ⇒ MetainfoError)
    is the arm the model takes -/
theorem C07_kernel_branch (urlOk : Bytes → Bool) (fs : FsOracle) (md0 : Items) (info : PyVal) (pieces : PyVal)
    (plen : Nat) (hl hf : Bool)
    (h1 : getE (.dict (ensureInfo md0)) (.s "info") = .ok info)
    (h2 : checkCommon urlOk (.dict (ensureInfo md0)) = .ok ())
    (h3 : checkAnnounceList urlOk (.dict (ensureInfo md0)) (ensureInfo md0) = .ok ())
    (h4 : getE info (.s "pieces") = .ok pieces) (h4' : lenE pieces = .ok plen)
    (h5 : inE (.s "length") info = .ok hl) (h6 : inE (.s "files") info = .ok hf) :
    validate urlOk fs md0 =
      (if validateBranch plen hl hf = 3 then checkSingle fs (.dict (ensureInfo md0)) info plen
       else if validateBranch plen hl hf = 4 then checkMulti fs (.dict (ensureInfo md0)) info plen
       else .error .metainfo) := by
  unfold validate validateBranch
  simp only [h1, h2, h3, h4, h4', h5, h6, bind, Except.bind]
  by_cases hz : plen = 0
  · subst hz; simp
    rfl
  · by_cases hr : plen % 20 = 0
    · have hr' : ((plen : Int) % 20) = 0 := by omega
      cases hl <;> cases hf <;> simp [hz, hr, hr'] <;> rfl
    · have hr' : ¬ (((plen : Int) % 20) = 0) := by omega
      simp [hz, hr, hr']
      rfl

end Torf.C07
