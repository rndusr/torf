/-
  C05 — nesting depth: everything the reader accepts must be writable again.

  `read_stream` refuses documents that are nested too deeply for CPython's recursion limit
  (`RecursionError` → `BdecodeError`); `dump` / `write` / `infohash` fail with `MetainfoError` when
  *their* recursion runs out of frames.  `Torf.Model.Depth` makes the limit explicit: `B` frames
  are left below the caller, `Cost` says how many frames each function of the two recursions
  occupies (measured on the code under test by the harness and compared with the model on every
  depth probe).  The theorems say how the two recursions must relate (`Rel`) for the reader's
  guard to protect the writer, that the unchanged code satisfies the relation with a slack of two
  frames, that those two frames are really missing (the full statement is false: finding D05a),
  and that the relation is necessary (one more frame per level on the writer's side and no
  constant slack is enough).
-/
import Torf.Lemmas.Depth
import Torf.Properties.C05
namespace Torf.C05
open Torf Torf.Bencode Torf.Codec Torf.ReadStream Torf.Depth

/-- **Frames.**  Under `Rel C sl se` and the hypotheses of `C05_dump_read`, exporting the read
    torrent needs at most `sl + se` frames more than reading the document needed, and computing
    its info hash needs no more than reading did. -/
theorem C05_depth_need (C : Cost) (sl se : Nat) (hR : Rel C sl se)
    (env : Env) (x : Bytes) (enc : List (Bytes × BVal)) (validate : Bool) (t : List (PyVal × PyVal))
    (hx : parseStrict env.lim x = some (.dict enc))
    (hu : utf8Keys (.dict enc) = true)
    (hpieces : PiecesOk enc) (hpriv : PrivateOk enc) (hdate : DateOk env enc)
    (hinfo : validate = true ∨ (lookup kInfo enc).isSome = true)
    (hr : read env x validate = .ok t) :
    dumpNeed C t ≤ readNeed C enc + sl + se ∧ infoNeed C t ≤ readNeed C enc := by
  obtain ⟨hrep, henc, hens, _, ikvs, hl⟩ := read_rep hx hu hpieces hpriv hdate hinfo hr
  have hb := bounded_readDict hR hpieces hdate ⟨ikvs, hl⟩
    (readDict_of_read (parseStrict_inv hx).1 hr)
  obtain ⟨X, hX, hsi⟩ := info_popPieces hR hpieces hl
  constructor
  · -- dump: convert, then the serialiser on the converted document (= the parsed document)
    exact dumpNeed_le hR henc hens (bounded_iff.mp hb) (serNeedKvs_le_popPieces hR enc hpieces)
      (decNeed_le_kvs hX).2
  · -- infohash: `encode_dict(info)` and the serialiser on it
    obtain ⟨I, hmi, hemi⟩ := hrep.info hl
    exact infoNeed_le hR hens hmi hemi (hb _ (mem_of_lookupStr hmi)) hsi (infoFloor hX)

/-- **Reader accepts ⇒ writer does not fail for lack of depth** (given `sl + se` more frames):
    if `read_stream` accepts the canonical document `x` with `B` frames left, `dump` of the result
    with `B + sl + se` frames left returns `x`, byte for byte. -/
theorem C05_depth_dump_read (C : Cost) (sl se B : Nat) (hR : Rel C sl se)
    (env : Env) (x : Bytes) (enc : List (Bytes × BVal)) (validate : Bool) (t : List (PyVal × PyVal))
    (hx : parseStrict env.lim x = some (.dict enc))
    (hu : utf8Keys (.dict enc) = true)
    (hpieces : PiecesOk enc) (hpriv : PrivateOk enc) (hdate : DateOk env enc)
    (hinfo : validate = true ∨ (lookup kInfo enc).isSome = true)
    (hr : readB C B env x validate = .ok t) :
    dumpB C (B + sl + se) env t validate = .ok x := by
  obtain ⟨hB, hr⟩ := readB_ok (parseStrict_inv hx).1 hr
  have hn := (C05_depth_need C sl se hR env x enc validate t hx hu hpieces hpriv hdate hinfo hr).1
  unfold dumpB
  rw [if_neg (by omega)]
  exact C05_dump_read env x enc validate t hx hu hpieces hpriv hdate hinfo hr

/-- the info hash is available at the *same* budget: no document that `read_stream` accepted
    loses its info hash for lack of frames -/
theorem C05_depth_infohash (C : Cost) (sl se B : Nat) (hR : Rel C sl se)
    (env : Env) (x : Bytes) (enc : List (Bytes × BVal)) (validate : Bool) (t : List (PyVal × PyVal))
    (hx : parseStrict env.lim x = some (.dict enc))
    (hu : utf8Keys (.dict enc) = true)
    (hpieces : PiecesOk enc) (hpriv : PrivateOk enc) (hdate : DateOk env enc)
    (hinfo : validate = true ∨ (lookup kInfo enc).isSome = true)
    (hr : readB C B env x validate = .ok t) :
    infoBytesB C B env t = infoBytes env t := by
  obtain ⟨hB, hr⟩ := readB_ok (parseStrict_inv hx).1 hr
  have hn := (C05_depth_need C sl se hR env x enc validate t hx hu hpieces hpriv hdate hinfo hr).2
  unfold infoBytesB
  rw [if_neg (by omega)]

/-- through files: `Torrent.read(path)` accepted with `B` frames left ⇒ `Torrent.write(path)`
    writes `x` with `B + sl + se + (wrf − rdf)` frames left -/
theorem C05_depth_file (C : Cost) (sl se B : Nat) (hR : Rel C sl se) (hf : C.rdf ≤ C.wrf)
    (env : Env) (x : Bytes) (enc : List (Bytes × BVal)) (validate : Bool) (t : List (PyVal × PyVal))
    (hx : parseStrict env.lim x = some (.dict enc))
    (hu : utf8Keys (.dict enc) = true)
    (hpieces : PiecesOk enc) (hpriv : PrivateOk enc) (hdate : DateOk env enc)
    (hinfo : validate = true ∨ (lookup kInfo enc).isSome = true)
    (hr : readFileB C B env x validate = .ok t) :
    writeFileB C (B + sl + se + (C.wrf - C.rdf)) env t validate = .ok x := by
  unfold readFileB at hr
  split at hr
  · exact absurd hr (by simp)
  rename_i hB
  have := C05_depth_dump_read C sl se (B - C.rdf) hR env x enc validate t hx hu hpieces hpriv hdate
    hinfo hr
  unfold writeFileB
  rw [if_neg (by omega)]
  have he : B + sl + se + (C.wrf - C.rdf) - C.wrf = B - C.rdf + sl + se := by omega
  rw [he]
  exact this

/-- the unchanged code (costs as measured) satisfies the relation with one frame of leaf slack
    and one frame of entry slack -/
theorem C05_depth_clean_rel : Rel Cost.clean 1 1 := by
  constructor <;> decide

/-- **What holds for the unchanged code:** two more frames always suffice. -/
theorem C05_depth_partial (B : Nat)
    (env : Env) (x : Bytes) (enc : List (Bytes × BVal)) (validate : Bool) (t : List (PyVal × PyVal))
    (hx : parseStrict env.lim x = some (.dict enc))
    (hu : utf8Keys (.dict enc) = true)
    (hpieces : PiecesOk enc) (hpriv : PrivateOk enc) (hdate : DateOk env enc)
    (hinfo : validate = true ∨ (lookup kInfo enc).isSome = true)
    (hr : readB Cost.clean B env x validate = .ok t) :
    dumpB Cost.clean (B + 2) env t validate = .ok x ∧
      infoBytesB Cost.clean B env t = infoBytes env t :=
  ⟨C05_depth_dump_read Cost.clean 1 1 B C05_depth_clean_rel env x enc validate t hx hu hpieces hpriv
      hdate hinfo hr,
   C05_depth_infohash Cost.clean 1 1 B C05_depth_clean_rel env x enc validate t hx hu hpieces hpriv
      hdate hinfo hr⟩

/-- the full statement: what the reader accepts, the writer writes *at the same budget* -/
def C05_depth_full (C : Cost) : Prop :=
  ∀ (B : Nat) (env : Env) (x : Bytes) (enc : List (Bytes × BVal)) (validate : Bool)
    (t : List (PyVal × PyVal)),
    parseStrict env.lim x = some (.dict enc) → utf8Keys (.dict enc) = true →
    PiecesOk enc → PrivateOk enc → DateOk env enc →
    (validate = true ∨ (lookup kInfo enc).isSome = true) →
    readB C B env x validate = .ok t → dumpB C B env t validate = .ok x

/-- `d4:infod4:name1:a6:pieces2:\xff\xfee1:xll1:aeee`: an unknown top-level key holding a text
    leaf inside two lists -/
def dwX : Bytes :=
  [100, 52, 58, 105, 110, 102, 111, 100, 52, 58, 110, 97, 109, 101, 49, 58, 97, 54, 58, 112, 105,
   101, 99, 101, 115, 50, 58, 255, 254, 101, 49, 58, 120, 108, 108, 49, 58, 97, 101, 101, 101]
def dwInfo : List (Bytes × BVal) := [([110, 97, 109, 101], .bytes [97]), (kPieces, .bytes [255, 254])]
def dwEnc : List (Bytes × BVal) := [(kInfo, .dict dwInfo), ([120], .list [.list [.bytes [97]]])]

/-- read, then dump with `B'` frames: `some none` = read succeeded and dump raised -/
def readThenDump (C : Cost) (B B' : Nat) (env : Env) (x : Bytes) (v : Bool) : Option (Option Bytes) :=
  match readB C B env x v with
  | .ok t => some (dumpB C B' env t v).toOption
  | .error _ => none

private theorem dw_hyps : parseStrict rtEnv.lim dwX = some (.dict dwEnc) ∧
    utf8Keys (.dict dwEnc) = true ∧ PiecesOk dwEnc ∧ PrivateOk dwEnc ∧ DateOk rtEnv dwEnc := by
  have hi : lookup kInfo dwEnc = some (.dict dwInfo) := rfl
  exact ⟨(C05_strict_iff _ _ _ (by decide +kernel)).mpr ⟨by decide +kernel, by decide +kernel⟩,
    by decide +kernel, .of_lookup hi rfl, .of_none hi rfl, .of_none rfl⟩

/-- non-vacuity of `C05_depth_need` / `_dump_read` / `_infohash` / `_file` / `_partial`: `dwX`
    satisfies every hypothesis and is accepted with 7 frames left (8 through `Torrent.read`) -/
example : parseStrict rtEnv.lim dwX = some (.dict dwEnc) ∧
    utf8Keys (.dict dwEnc) = true ∧ PiecesOk dwEnc ∧ PrivateOk dwEnc ∧ DateOk rtEnv dwEnc ∧
    (∃ t, readB Cost.clean 7 rtEnv dwX true = .ok t) ∧
    (∃ t, readFileB Cost.clean 8 rtEnv dwX true = .ok t) ∧
    Cost.clean.rdf ≤ Cost.clean.wrf := by
  obtain ⟨h1, h2, h3, h4, h5⟩ := dw_hyps
  exact ⟨h1, h2, h3, h4, h5, exists_ok_of_toBool (by decide +kernel),
    exists_ok_of_toBool (by decide +kernel), by decide⟩

/-- **The full statement is false for the unchanged code (finding D05a):** the document `dwX`
    needs 7 frames to be read and 9 to be dumped; with 7 or 8 frames left `read_stream` accepts it
    and `dump` raises `MetainfoError`. -/
theorem C05_depth_counterexample : ¬ C05_depth_full Cost.clean := by
  intro h
  obtain ⟨hx, hu, hp, hpr, hd⟩ := dw_hyps
  have hrd : readThenDump Cost.clean 7 7 rtEnv dwX true = some none := by decide +kernel
  unfold readThenDump at hrd
  split at hrd
  · rename_i t ht
    have := h 7 rtEnv dwX dwEnc true t hx hu hp hpr hd (Or.inl rfl) ht
    rw [this] at hrd
    simp [Except.toOption] at hrd
  · exact absurd hrd (by simp)

/-- the slack of `C05_depth_partial` is tight: one more frame is not enough for `dwX` -/
theorem C05_depth_slack_tight :
    readThenDump Cost.clean 7 8 rtEnv dwX true = some none ∧
    readThenDump Cost.clean 7 9 rtEnv dwX true = some (some dwX) := by
  constructor <;> decide +kernel

/-- `n` lists around a leaf -/
def nestL : Nat → BVal → BVal
  | 0, leaf => leaf
  | n + 1, leaf => .list [nestL n leaf]

private theorem need_nestL_succ (C : Cost) (n : Nat) (leaf : BVal) :
    decNeed C (nestL (n + 1) leaf) = C.dv + max C.abc (C.dl + decNeed C (nestL n leaf)) ∧
    encNeed C (decodeValue (nestL (n + 1) leaf)) =
      max (C.ev0 + C.abc) (C.ev + C.el + encNeed C (decodeValue (nestL n leaf))) := by
  simp only [nestL, decNeed, decNeedList, decodeValue, decodeList, encNeed, encNeedList, Nat.max_zero,
    and_self]

/-- **The window at every depth:** for a text leaf inside `n` lists the writer's recursion
    (`dump` → `convert` → `encode_dict` → …) needs exactly two frames more than the reader's
    (`read_stream` → `decode_dict` → …) on the unchanged code — whatever the recursion limit and
    the caller's stack depth, the deepest such document the reader accepts cannot be dumped. -/
theorem C05_depth_window (n : Nat) :
    Cost.clean.dp + Cost.clean.ed + encNeed Cost.clean (decodeValue (nestL n (.bytes [97]))) =
      Cost.clean.rd + Cost.clean.dd + decNeed Cost.clean (nestL n (.bytes [97])) + 2 ∧
    decNeed Cost.clean (nestL n (.bytes [97])) = 2 * n + 1 := by
  have h : ∀ n, decNeed Cost.clean (nestL n (.bytes [97])) = 2 * n + 1 ∧
      encNeed Cost.clean (decodeValue (nestL n (.bytes [97]))) = 2 * n + 2 := by
    intro n
    induction n with
    | zero => exact ⟨by decide, by decide +kernel⟩
    | succ k ih =>
      rw [(need_nestL_succ _ k _).1, (need_nestL_succ _ k _).2, ih.1, ih.2]
      simp only [Cost.clean]
      omega
  obtain ⟨h1, h2⟩ := h n
  refine ⟨?_, h1⟩
  rw [h1, h2]
  simp only [Cost.clean]
  omega

/-- **The per-level relation is necessary:** if `encode_value` occupies one more frame before it
    reaches its converter (the seeded helper extraction: `ev = 2`), the writer needs `n` frames
    more than the reader on `n` nested lists — no constant slack protects it. -/
theorem C05_depth_rel_needed (s : Nat) :
    ∃ v : BVal, decNeed { Cost.clean with ev := 2 } v + s <
      encNeed { Cost.clean with ev := 2 } (decodeValue v) := by
  have h : ∀ n, decNeed { Cost.clean with ev := 2 } (nestL n (.bytes [255])) = 2 * n + 1 ∧
      encNeed { Cost.clean with ev := 2 } (decodeValue (nestL n (.bytes [255]))) = 3 * n + 1 := by
    intro n
    induction n with
    | zero => exact ⟨by decide, by decide +kernel⟩
    | succ k ih =>
      rw [(need_nestL_succ _ k _).1, (need_nestL_succ _ k _).2, ih.1, ih.2]
      simp only [Cost.clean]
      omega
  refine ⟨nestL (s + 1) (.bytes [255]), ?_⟩
  obtain ⟨h1, h2⟩ := h (s + 1)
  rw [h1, h2]
  omega

end Torf.C05
