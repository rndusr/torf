/-
  C09 — bridge theorems to the kernels translated from the source (regenerated on every run):
  the model's 16 KiB rule is `utils.is_divisible_by_16_kib`; the model's `piece_size` setter refuses a
  value exactly when the setter's range test (`not piece_size_min <= piece_length <= piece_size_max`)
  says so; the values the `piece_size_min` / `piece_size_max` setters push through the `piece_size`
  setter are the code's `max(...)` / `min(...)`; the size classes (`max_pieces`) and the final clamp of
  `calculate_piece_size` are the code's (the `log2` / `pow` step between them is `rawPieceSize`, by hand).
-/
import Torf.Generated.Kernels
import Torf.Model.Attrs
namespace Torf.C09
open Torf.Generated

theorem C09_kernel_divisible (x : Int) : Torf.Attrs.divisible x = isDivisibleBy16Kib x := by
  unfold Torf.Attrs.divisible isDivisibleBy16Kib
  by_cases h : x ≤ 0
  · have h' : ¬ (0 < x) := by omega
    simp [h, h']
  · have h' : 0 < x := by omega
    simp only [h, h', decide_true, Bool.true_and, decide_false, if_false, Bool.false_eq_true]
    by_cases hm : x % 16384 = 0 <;> simp [hm]

/-- a value divisible by 16 KiB is refused by the model's setter iff the code's range test fires -/
theorem C09_kernel_range (s : Torf.Attrs.St) (x : Int) (hd : Torf.Attrs.divisible x = true) :
    (Torf.Attrs.checkAndStore s x).2 = .err .pieceSize ↔ pieceSizeOutOfRange s.pmin x s.pmax = true := by
  unfold Torf.Attrs.checkAndStore pieceSizeOutOfRange
  simp only [hd, Bool.not_true, Bool.false_eq_true, if_false]
  by_cases h : ((s.pmin : Int) ≤ x && x ≤ (s.pmax : Int)) = true
  · simp [h]
  · simp only [Bool.not_eq_true] at h
    simp [h]

/-- the `piece_size_min` setter clamps with the code's `max(piece_size_min, piece_size)` -/
theorem C09_kernel_clamp_min (s1 : Torf.Attrs.St) (pl : Nat) (h : s1.pl = some pl) (h0 : pl ≠ 0) :
    Torf.Attrs.clampMin s1 = Torf.Attrs.setPieceSize s1 (some (clampToMin s1.pmin pl)) := by
  unfold Torf.Attrs.clampMin clampToMin
  simp [h, h0]

/-- the `piece_size_max` setter clamps with the code's `min(piece_size_max, piece_size)` -/
theorem C09_kernel_clamp_max (s1 : Torf.Attrs.St) (pl : Nat) (h : s1.pl = some pl) (h0 : pl ≠ 0) :
    Torf.Attrs.clampMax s1 = Torf.Attrs.setPieceSize s1 (some (clampToMax s1.pmax pl)) := by
  unfold Torf.Attrs.clampMax clampToMax
  simp [h, h0]

/-- the size classes of `calculate_piece_size` (`max_pieces` as a function of the total size) -/
theorem C09_kernel_max_pieces (size : Nat) : (Torf.Attrs.maxPieces size : Int) = calcMaxPieces size := by
  unfold Torf.Attrs.maxPieces calcMaxPieces
  rw [show ((2 : Int) ^ (30 : Nat)) = 1073741824 by decide, show (2 : Nat) ^ 30 = 1073741824 by decide]
  simp only [decide_eq_true_eq]
  -- the same three thresholds on both sides, one after the other
  by_cases h1 : size ≤ 1073741824
  · rw [if_pos h1, if_pos (by omega : (size : Int) ≤ 1073741824)]; rfl
  · rw [if_neg h1, if_neg (by omega : ¬ (size : Int) ≤ 1073741824)]
    by_cases h2 : size ≤ 8 * 1073741824
    · rw [if_pos h2, if_pos (by omega : (size : Int) ≤ 8 * 1073741824)]; rfl
    · rw [if_neg h2, if_neg (by omega : ¬ (size : Int) ≤ 8 * 1073741824)]
      by_cases h3 : size ≤ 16 * 1073741824
      · rw [if_pos h3, if_pos (by omega : (size : Int) ≤ 16 * 1073741824)]; rfl
      · rw [if_neg h3, if_neg (by omega : ¬ (size : Int) ≤ 16 * 1073741824)]; rfl

/-- the result of `calculate_piece_size` is the code's `min(max(piece_size, min_size), max_size)` of the raw power of two -/
theorem C09_kernel_clamp (size pmin pmax : Nat) :
    (Torf.Attrs.calcPieceSize size pmin pmax : Int) = calcClamp (Torf.Attrs.rawPieceSize size) pmin pmax := by
  unfold Torf.Attrs.calcPieceSize calcClamp
  omega

end Torf.C09
