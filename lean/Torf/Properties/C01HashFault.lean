/-
  C01 — hashing runs in which a hasher thread dies from an exception inside its hashing step
  (`Model/PipelineHF.lean`): for EVERY schedule, EVERY fault plan (which hasher raises at which of
  its pieces), every callback behaviour, read fault and refused thread start,

      `generate()` returns True  ⇒  the stored piece string is `map H (chunks L stream)`, complete
                                     and in stream order;
      otherwise (False or an exception) nothing is stored,

  and a run that lost a piece never returns True.  The count check of `Torrent.generate`
  (`Generate.finish`) is what makes this true: the model shows that a dead hasher that the janitor
  pruned is never joined, so `collect()` *returns* an incomplete list (see the example at the end).
-/
import Torf.Properties.C01Schedule
import Torf.Lemmas.PipelineHF
namespace Torf.C01
open Torf Torf.Stream Torf.Generate Torf.Pipeline Torf.PipelineHF

theorem length_arrivalOf (tasks : List (Nat × List α)) (c : List Nat) (h : ∀ k ∈ c, k < tasks.length) :
    (arrivalOf tasks c).length = c.length := by
  unfold arrivalOf
  induction c with
  | nil => rfl
  | cons a t ih =>
    have ha : a < tasks.length := h a (by simp)
    simp only [List.filterMap_cons, List.getElem?_eq_getElem ha, List.length_cons]
    rw [ih (fun k hk => h k (List.mem_cons_of_mem _ hk))]

theorem run_cancelled_of_short (H : List α → δ) (L : Nat) (hL : 0 < L) (files : List (List α))
    (hne : 0 < (files.map List.length).sum) (c : List Nat)
    (hlt : ∀ k ∈ c, k < (readerTasks L files).length) (hshort : c.length < (readerTasks L files).length) :
    run H L files (arrivalOf (readerTasks L files) c) = .cancelled := by
  unfold Generate.run finish collectorHashes
  rw [torrentPieces_eq L hL files hne, show (iterPieces L files).length = (readerTasks L files).length by
    simp [readerTasks]]
  simp only [List.length_map, List.length_mergeSort, length_arrivalOf _ _ hlt]
  have h1 : c.length ≠ (readerTasks L files).length := by omega
  simp [h1, hshort]

/-- **Every schedule, every hasher-fault plan.**  `cfg` describes a hashing run over undamaged
    content (every item a data piece, as many as there are chunks); the callback, a read fault,
    refused thread starts and the hasher faults are arbitrary.  Whenever `collect()` returns (with
    the arrival order `c`), the tail of `Torrent.generate` either stores exactly the digests of the
    consecutive chunks in stream order (and returns True), or `c` is incomplete and it stores
    nothing (returns False).  Storing a partial, shifted or over-long string is impossible. -/
theorem C01_hash_fault_sound (H : List α → δ) (L : Nat) (hL : 0 < L) (files : List (List α))
    (hne : 0 < (files.map List.length).sum)
    (c : CfgX) (hitems : c.base.items = List.replicate (readerTasks L files).length .data)
    (x : StateX) (hreach : ReachableX c x) (cl : List Nat)
    (hres : resultX? x = some (.base (.returned cl))) :
    run H L files (arrivalOf (readerTasks L files) cl) = .stored ((chunks L files.flatten).map H) ∨
      (run H L files (arrivalOf (readerTasks L files) cl) = .cancelled ∧
        cl.length < (readerTasks L files).length) := by
  obtain ⟨hnd, hlt, hlen⟩ := hreach.returned_sound (by rw [hitems, List.length_replicate]) hres
  by_cases hfull : cl.length = (readerTasks L files).length
  · left
    exact run_stored_of_perm H L hL files hne
      (perm_of_nodup_subset_length hnd (fun k hk => List.mem_range.2 (hlt k hk))
        (by rw [List.length_range, hfull]; exact Nat.le_refl _))
  · right
    have hshort : cl.length < (readerTasks L files).length := by omega
    exact ⟨run_cancelled_of_short H L hL files hne cl hlt hshort, hshort⟩

/-- … in terms of `generateX`: True only with the complete correct string -/
theorem C01_hash_fault_true_only_correct (H : List α → δ) (L : Nat) (hL : 0 < L)
    (files : List (List α)) (hne : 0 < (files.map List.length).sum)
    (c : CfgX) (hitems : c.base.items = List.replicate (readerTasks L files).length .data)
    (x : StateX) (hreach : ReachableX c x) (hs : List δ)
    (hgen : generateX H L files x = some (.outcome (.stored hs))) :
    hs = (chunks L files.flatten).map H := by
  unfold generateX at hgen
  split at hgen
  · rename_i cl hres
    simp only [Option.some.injEq, GenResult.outcome.injEq] at hgen
    rcases C01_hash_fault_sound H L hL files hne c hitems x hreach cl hres with h | ⟨h, _⟩
    · rw [h] at hgen; exact (Outcome.stored.inj hgen).symm
    · rw [h] at hgen; cases hgen
  · simp at hgen
  · simp at hgen

/-- A run in which a hasher died with a piece in its hands never reports success: if `collect()`
    returns at all, `generate()` returns False and stores nothing.  (This is exactly what a
    `generate()` that trusts an explicit "cancelled" flag instead of the count check gets wrong.) -/
theorem C01_hash_fault_lost_not_success (H : List α → δ) (L : Nat) (hL : 0 < L)
    (files : List (List α)) (hne : 0 < (files.map List.length).sum)
    (c : CfgX) (hitems : c.base.items = List.replicate (readerTasks L files).length .data)
    (x : StateX) (hreach : ReachableX c x) (hlost : x.lost ≠ []) (cl : List Nat)
    (hres : resultX? x = some (.base (.returned cl))) :
    run H L files (arrivalOf (readerTasks L files) cl) = .cancelled := by
  obtain ⟨_, hlt, hlen⟩ := hreach.returned_sound (by rw [hitems, List.length_replicate]) hres
  have hpos : 0 < x.lost.length := List.length_pos_iff.2 hlost
  exact run_cancelled_of_short H L hL files hne cl hlt (by omega)

/-- An exception that reaches the caller as "a hasher's exception" really is the stored exception
    of a hasher thread that died. -/
theorem C01_hash_fault_reraised_dead (c : CfgX) (x : StateX) (hreach : ReachableX c x) (h : Nat)
    (hres : resultX? x = some (.hasherExc h)) : h ∈ x.dead := by
  have key : ∀ h, x.reraised = some h → h ∈ x.dead := by
    refine hreach.induction (P := fun x => ∀ h, x.reraised = some h → h ∈ x.dead)
      (by simp [initX]) fun x x' hp hs => ?_
    cases hs with
    | base => exact hp
    | reraise k _ hd => intro h hh; cases hh; exact hd
    | die => exact fun h hh => List.mem_append_left _ (hp h hh)
  unfold resultX? at hres
  cases hr : x.reraised with
  | none => simp [hr] at hres
  | some h' =>
    simp only [hr, Option.some.injEq, ResultX.hasherExc.injEq] at hres
    subst hres
    exact key h' hr

/-- **Refinement.**  Without hasher faults the wrapped system is the pipeline model of C03/C04:
    the base component of every run is the run of `Pipeline.step` under the same labels, and no
    hasher is ever dead. -/
theorem C01_hash_fault_off_refines (c : CfgX) (hnf : ∀ i j, c.hashFault i j = false)
    (ls : List Label) :
    (runX c (initX c) ls).map (·.base) = Pipeline.run c.base (Pipeline.init c.base) ls ∧
      ∀ x, runX c (initX c) ls = some x → x.dead = [] ∧ x.lost = [] ∧ x.reraised = none :=
  runX_base_of_noHashFault hnf ls (initX c) ⟨rfl, rfl, rfl⟩

/-- … hence the fault-free wrapped system inherits C01_any_schedule: every terminal state of every
    schedule stored the digests of the consecutive chunks. -/
theorem C01_hash_fault_off_any_schedule (H : List α → δ) (L : Nat) (hL : 0 < L)
    (files : List (List α)) (hne : 0 < (files.map List.length).sum)
    (c : CfgX) (hnf : ∀ i j, c.hashFault i j = false)
    (hitems : c.base.items = List.replicate (readerTasks L files).length .data)
    (hwf : wf c.base = true) (hnofaults : noFaults c.base = true) (hcb : ∀ k d, c.base.cb k d = .pass)
    (x : StateX) (hreach : ReachableX c x) (hterm : terminalX x = true) :
    generateX H L files x = some (.outcome (.stored ((chunks L files.flatten).map H))) := by
  obtain ⟨ls, hls⟩ := hreach
  obtain ⟨h1, h2⟩ := C01_hash_fault_off_refines c hnf ls
  obtain ⟨_, _, hr⟩ := h2 x hls
  rw [hls] at h1
  simp only [Option.map_some] at h1
  have hbase : Reachable c.base x.base := ⟨ls, h1.symm⟩
  have hterm' : terminal x.base = true := by
    simpa [terminalX, hr] using hterm
  obtain ⟨cl, hres, hrun⟩ := C01_any_schedule H L hL files hne c.base hitems hwf hnofaults hcb x.base hbase hterm'
  unfold generateX resultX?
  simp only [hr, hres, Option.map_some, hrun]

/-! ### non-vacuity: the swallowed exception

Two hashers, two pieces, queue capacity 6.  Hasher 2 (`Tid.hasher 1`) takes piece 0 and dies
(fault at its first piece); the janitor's `wait(timeout=1.0)` expires and its house-keeping pass
prunes the dead hasher; hasher 1 hashes piece 1 and passes the sentinel on; main collects one
digest, joins only the tracked hasher — `collect()` returns `[1]` without any exception, and the
count check turns that into "return False, store nothing". -/

private def lH0 : Label := ⟨.hasher 0, false⟩
private def lH1 : Label := ⟨.hasher 1, false⟩
private def lJt : Label := ⟨.janitor, true⟩

private def cfgSwallow : CfgX :=
  { base := { N := 2, cap := 6, items := [.data, .data], readFault := none, refuse := [],
              raiseOnBad := true, cb := fun _ _ => .pass },
    hashFault := fun i j => i == 1 && j == 0 }

private def schedSwallow : List Label :=
  [lM, lM, lM, lM, lM, lM, lM, lM,          -- start reader, hasher1, hasher2, janitor
   lR, lR, lR, lR,                          -- push pieces 0, 1 and the sentinel
   lH1, lH1,                                -- hasher2: begin, take piece 0 — and die
   lJ, lJt, lJ, lJ,                         -- janitor: begin, timeout, prune pass over hasher1, hasher2
   lH0, lH0, lH0, lH0, lH0, lH0,            -- hasher1: begin, take piece 1, deliver, take sentinel, re-queue, set event
   lJ, lJ, lJ,                              -- janitor: event set, hasher1 ended, close the hash queue
   lM, lM, lM, lM, lM]                      -- main: collect piece 1, sentinel, join reader, hasher1, janitor

example : (runX cfgSwallow (initX cfgSwallow) schedSwallow).map
    (fun x => (resultX? x, x.dead, x.lost, x.base.tracked)) =
    some (some (.base (.returned [1])), [1], [0], [0]) := by decide

example : (runX cfgSwallow (initX cfgSwallow) schedSwallow).bind
    (generateX (fun p => p.sum) 2 [[1, 2, 3], [4]]) = some (.outcome .cancelled) := by decide +kernel

end Torf.C01
