/-
  C08, round 6 — keys the model does not know.

  The model of `Torrent.validate()` (and with it `read_stream(validate=True)`, `dump()`, `infohash`) looks at the
  metainfo through a fixed vocabulary: `Validate.topKeys` at the top level, `Validate.infoKeys` in `info`,
  `Validate.fileKeys` in an entry of `info.files`, and integer subscripts.  These theorems say what the model does
  with every *other* key — at any of the three levels, at any position of the mapping, with a value of any type,
  present or absent: nothing.  `UnknownKeys.SameKnown a b` = the two metainfos answer every lookup of the vocabulary
  alike.

  The harness harvests the keys the code under test reads from its source on every run and puts values of every
  bencodable type under each of them at every level; a key outside the vocabulary is judged against the model
  evaluated *without* it (justified by `C08_unknown_key_irrelevant`; the driver evaluates both and the harness checks
  that they agree).  A key the model does not know and the code reacts to is then a difference between model and
  code on a concrete input.
-/
import Torf.Lemmas.UnknownKeys
import Torf.Model.Untrusted
namespace Torf.C08
open Torf Torf.Untrusted Torf.Validate Torf.UnknownKeys

/-- **unknown keys are irrelevant**: `validate()` of two metainfos that agree on the model's vocabulary gives the
    same result (success or the same error) — whatever else they hold; every URL oracle, every environment -/
theorem C08_unknown_key_irrelevant (env : Env) {a b : Validate.Items} (h : SameKnown a b) :
    validateT env a = validateT env b := by
  unfold validateT; rw [validate_sameKnown env.urlOk noPath h]

/-- the same with a content path set (every answer of the file system) -/
theorem C08_unknown_key_irrelevant_fs (urlOk : Export.Bytes → Bool) (fs : FsOracle) {a b : Validate.Items}
    (h : SameKnown a b) : Validate.validate urlOk fs a = Validate.validate urlOk fs b :=
  validate_sameKnown urlOk fs h

/-- a top-level key outside `topKeys`: present with **any** value = absent -/
theorem C08_unknown_top_key (env : Env) (k : String) (hk : k ∉ topKeys) (v : PyVal) (t : Validate.Items) :
    validateT env (Codec.setStr k v t) = validateT env (without k t) :=
  C08_unknown_key_irrelevant env (sameKnown_top hk v t)

/-- a key of `info` outside `infoKeys`: present with any value = absent (the seeded `meta version`, at any
    position of the mapping, with `pieces` there or not) -/
theorem C08_unknown_info_key (env : Env) (k : String) (hk : k ∉ infoKeys) (v : PyVal) (t info : Validate.Items) :
    validateT env (Codec.setStr "info" (.dict (Codec.setStr k v info)) t) =
      validateT env (Codec.setStr "info" (.dict (without k info)) t) :=
  C08_unknown_key_irrelevant env (sameKnown_info hk v t info)

/-- a key of a file entry outside `fileKeys`: setting it to any value changes nothing -/
theorem C08_unknown_file_key (env : Env) (k : String) (hk : k ∉ fileKeys) (v : PyVal) (t info e : Validate.Items)
    (l : List PyVal) (n : Nat) (hf : PyVal.lookupStr "files" info = some (.list l)) (he : l[n]? = some (.dict e)) :
    validateT env (Codec.setStr "info"
        (.dict (Codec.setStr "files" (.list (l.set n (.dict (Codec.setStr k v e)))) info)) t) =
      validateT env (Codec.setStr "info" (.dict info) t) :=
  C08_unknown_key_irrelevant env (sameKnown_file hk v t info e l n hf he)

/-- `infohash` and unknown **top-level** keys: the same bytes to hash or the same error (an unknown key of `info` is
    part of what is hashed, so only its validate() part is independent of it) -/
theorem C08_unknown_top_key_infohash (env : Env) (k : String) (hk : k ∉ topKeys) (v : PyVal) (t : Validate.Items) :
    infohashT env (Codec.setStr k v t) = infohashT env (without k t) := by
  unfold infohashT
  rw [infoBytes_agree env.urlOk noPath (AgreeOn.setStr_without topKeys hk v t)]

example : "meta version" ∉ infoKeys ∧ "meta version" ∉ topKeys ∧ "meta version" ∉ fileKeys := by decide

/-- `dump()` (with validation) of two such metainfos when `validate()` refuses one of them: both raise that error.
    (When both validate, the encoding that follows does look at unknown keys: a value that cannot be encoded, such as a
    dict with a non-UTF-8 key, makes `dump()` fail on the metainfo that holds it and not on the other.) -/
theorem C08_unknown_key_dump (env : Env) {a b : Validate.Items} (h : SameKnown a b) (e : Err)
    (ha : validateT env a = .error e) : dumpT env a true = .error e ∧ dumpT env b true = .error e := by
  have hb : validateT env b = .error e := by rw [← C08_unknown_key_irrelevant env h]; exact ha
  simp [dumpT, ha, hb]

/-- `read_stream(validate=True)`: the step that runs `validate()` on the freshly built torrent (`finish`) accepts or
    refuses two decoded inputs alike, with the same error, when the torrents built from them agree on the vocabulary -/
theorem C08_unknown_key_read (env : Env) (enc enc' : List (Bencode.Bytes × Bencode.BVal)) (md md' : Validate.Items)
    (h : SameKnown (ReadStream.ensureInfo (ReadStream.setPrivate enc md))
                   (ReadStream.ensureInfo (ReadStream.setPrivate enc' md'))) :
    (finish env enc md true).map (fun _ => ()) = (finish env enc' md' true).map (fun _ => ()) := by
  unfold finish
  simp only [if_true]
  rw [C08_unknown_key_irrelevant env h]
  cases validateT env (ReadStream.ensureInfo (ReadStream.setPrivate enc' md')) <;> rfl

/-! ### the vocabulary is not too large: a key *in* it can change the outcome -/

def okInfo : Validate.Items :=
  [(.str "length", .int 5), (.str "name", .str "a"), (.str "piece length", .int 16384),
   (.str "pieces", .bytes (List.replicate 20 120))]

def okSingle : Validate.Items := [(.str "info", .dict okInfo)]

def env0 : Env := { memLimit := 0, decFuel := 0, encFuel := 0, fromTs := fun _ => .valueerror, urlOk := fun _ => false }

example : errIs (validateT env0 okSingle) .metainfo = false ∧
    -- known keys matter: `pieces` absent, `private` a string, `announce` a number
    errIs (validateT env0 [(.str "info", .dict (without "pieces" okInfo))]) .metainfo = true ∧
    errIs (validateT env0 (Codec.setStr "announce" (.int 5) okSingle)) .metainfo = true ∧
    -- unknown ones do not, whatever their value
    errIs (validateT env0 (Codec.setStr "meta version" (.str "2") okSingle)) .metainfo = false ∧
    errIs (validateT env0 [(.str "info", .dict (Codec.setStr "meta version" (.list [.int 2]) okInfo))]) .metainfo = false ∧
    errIs (validateT env0 [(.str "info", .dict (Codec.setStr "meta version" (.str "2") (without "pieces" okInfo)))])
      .metainfo = true := by
  decide +kernel

end Torf.C08
