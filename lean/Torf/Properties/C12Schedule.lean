/-
  C12 — the schedule axis: composition with the pipeline theorems (C03).  In every reachable
  terminal state of a run that was not cancelled and did not raise (passive callback, no faults,
  exceptions are passed to the callback), the collector has seen every piece exactly once — so the
  sequence of results the reporting layer was fed with (`Callbacks.calls … evs`) has length
  `total` and `C12_final` applies: the last call reports `done = total` under every schedule.
-/
import Torf.Properties.C12
import Torf.Lemmas.PipelineOut
namespace Torf.C12
open Torf.Callbacks Torf.Pipeline

/-- Under every schedule a complete run delivers every piece to the collector exactly once:
    the arrival order `seen` is a permutation of all piece indexes. -/
theorem C12_arrival_is_permutation {cfg : Cfg} {s : State} (hnf : noFaults cfg = true)
    (hcb : ∀ k d, cfg.cb k d = .pass) (h : Reachable cfg s) {c : List Nat}
    (hr : result? s = some (.returned c)) :
    s.seen.Perm (List.range cfg.items.length) :=
  have ⟨hi, hc⟩ := InvC.of_reachable hnf hcb h
  (hc.returned hi.a (terminal_of_result hr)).1

/-- … hence, whatever the schedule, the reporting layer of a complete run is fed with exactly
    `total` results, and its last call reports `done = total` for every interval and clock. -/
theorem C12_final_any_schedule {cfg : Cfg} {s : State} (hnf : noFaults cfg = true)
    (hcb : ∀ k d, cfg.cb k d = .pass) (h : Reachable cfg s) {c : List Nat}
    (hr : result? s = some (.returned c))
    (verify : Bool) (interval : Int) (evs : List Ev)
    (hevs : evs.map (·.piece) = s.seen)            -- the results in the order the collector saw them
    (hpos : 0 < cfg.items.length)
    (hexc : ∀ e ∈ evs, e.kind = .exc → verify = true ∧ 1 ≤ e.nexc) :
    ∃ call, (calls verify interval cfg.items.length evs).getLast? = some call ∧
      call.done = cfg.items.length := by
  have hperm := C12_arrival_is_permutation hnf hcb h hr
  have hlen : evs.length = cfg.items.length := by
    have := congrArg List.length hevs
    rw [List.length_map] at this
    rw [this, hperm.length_eq, List.length_range]
  exact C12_final verify interval cfg.items.length evs hlen hpos hexc

end Torf.C12
