/-
  C16 — tracker and seed lists stay in sync with the metainfo under any edit history.
  Property theorems, and `run_three_seeds`, the start state two examples share (helper lemmas live in
  Torf.Lemmas.Lists*).

  Model: `Torf.Lists.step` (Torf/Model/Lists.lean), specification: `Torf.Lists.Spec.holds`
  (Torf/Spec/Lists.lean).  `isUrl` is `utils.is_url`, an arbitrary parameter (no assumption on it:
  `URL()` validates the given AND the stored (space→plus) string, /repo ae2b587).

  Since /repo e62ce6d index and slice assignment on a URL list (`lst[i] = u`, `lst[a:b:st] = us`:
  coerce, assign on a copy, clear, add every item again through the de-duplication filter) are
  inside the theorems, and since /repo 41bec34 `Trackers.replace` validates before it clears.
  Since /repo 3d3793a `reverse()` is part of the operation alphabet: on a URL list it is one slice
  assignment of the reversed list (`C16_reverse*`); on the tiers container it reverses `_tiers` in
  place since /repo f86a28a (`C16_tiers_reverse`; the inherited `MutableSequence.reverse` silently did
  nothing — regression examples below).
  The code still falsifies the full statement in ONE way (open finding D16b: slice assignment on the
  tiers container, `torrent.trackers[a:b] = …`), so the full statement is kept as
  `def …_full : Prop`, the `_partial` theorems are proved for histories without that operation
  (`Op.affected = false`), and the witness of the finding is proved to falsify the full statement
  (the same witness is replayed on the implementation).  The theorems about the three operations
  `replace` / `append` / `clear` on a `Trackers` object that the caller holds have no excluded
  operation (`C16_held_sync*`); the findings D16a and D16d, repaired in /repo, are regression
  examples below.
-/
import Torf.Lemmas.ListsReject
namespace Torf.C16
open Torf.Lists

/-- the property as stated: after EVERY history from the empty torrent the metainfo and the lists
    read back through the getters satisfy `Spec.holds` (announce = first URL of first tier or
    absent; announce-list = tiers iff more than one URL; url-list / httpseeds mirror the seed lists;
    no duplicates; no empty tier; every URL well-formed; the getters do not fail) -/
def C16_inv_reachable_full : Prop :=
  ∀ (isUrl : String → Bool) (ops : List Op),
    Spec.holds isUrl (run isUrl MI.init ops) (readBack isUrl (run isUrl MI.init ops)) = true

/-- one step: the inductive invariant `Inv` (the fields are exactly what the write-back callbacks
    produce for duplicate-free, valid, space-free lists without an empty tier) is preserved by
    every operation other than slice assignment on the tiers container — index and slice assignment
    on the seed lists and on a tier included — whether it succeeds or raises, for every `is_url` -/
theorem C16_inv_step_partial (isUrl : String → Bool) (s : MI) (op : Op)
    (hs : Inv isUrl s) (hop : op.affected = false) :
    Inv isUrl (step isUrl s op).1 ∧
    Spec.holds isUrl (step isUrl s op).1 (readBack isUrl (step isUrl s op).1) = true :=
  ⟨step_inv hs hop, Inv_holds (step_inv hs hop)⟩

/-- every history (any length, any operations other than `trackers[a:b] = …`, failed operations
    included) from the empty torrent ends in a state that satisfies the property -/
theorem C16_inv_reachable_partial (isUrl : String → Bool) (ops : List Op)
    (hops : ∀ op ∈ ops, op.affected = false) :
    Spec.holds isUrl (run isUrl MI.init ops) (readBack isUrl (run isUrl MI.init ops)) = true :=
  Inv_holds (run_inv Inv_init hops)

/-- … and from every state that satisfies the invariant (e.g. the non-trivial start states of
    the correspondence run) -/
theorem C16_inv_from_partial (isUrl : String → Bool) (s : MI) (ops : List Op)
    (hs : Inv isUrl s) (hops : ∀ op ∈ ops, op.affected = false) :
    Spec.holds isUrl (run isUrl s ops) (readBack isUrl (run isUrl s ops)) = true :=
  Inv_holds (run_inv hs hops)

/-- the seed lists have no excluded operation at all: every history of operations on
    `torrent.webseeds` / `torrent.httpseeds` (assignment, every in-place edit, index and slice
    assignment with any step) keeps the property -/
theorem C16_inv_seeds_reachable (isUrl : String → Bool) (ops : List Op)
    (hops : ∀ op ∈ ops, (∃ o, op = .webseeds o) ∨ (∃ o, op = .httpseeds o)) :
    Spec.holds isUrl (run isUrl MI.init ops) (readBack isUrl (run isUrl MI.init ops)) = true := by
  apply C16_inv_reachable_partial
  intro op hop
  rcases hops op hop with ⟨o, rfl⟩ | ⟨o, rfl⟩ <;> rfl

/-- read-back is total on invariant states, and the stored fields are what the write-backs produce
    for the lists read back (nothing is dropped, re-ordered or re-coerced).  For the tiers this is
    stated through `announce-list` only: with at most one URL it says no more than that the key
    is absent, and `announce` is tied to the tiers by `Inv_holds`. -/
theorem C16_readback_total (isUrl : String → Bool) (s : MI) (hs : Inv isUrl s) :
    ∃ rb, readBack isUrl s = some rb ∧
      s.announceList = (if rb.trackers.flatten.length ≤ 1 then none else some rb.trackers) ∧
      s.urlList = writeSeeds rb.webseeds ∧ s.httpseeds = writeSeeds rb.httpseeds := by
  obtain ⟨⟨T, hT, ha, hl⟩, ⟨W, hW, hw⟩, ⟨H, hH, hh⟩⟩ := hs
  refine ⟨⟨T, W, H⟩, ?_, hl, hw, hh⟩
  simp only [readBack, getTrackers_eq hT ⟨ha, hl⟩, hw, hh, getSeeds_writeSeeds hW,
    getSeeds_writeSeeds hH]

/-- an operation that tries to store a URL that `URL()` does not accept — invalid as given OR
    invalid after its spaces were replaced by '+' (`accepts`) — raises the URL error, whatever the
    state, whatever else it was given (index/slice assignment included, also with an index out of
    range or an extended slice of the wrong size: the coercion comes first), and, unless it is
    extend / += (which store value by value), leaves the metainfo untouched.  With
    `C16_inv_step_partial` (every stored URL is valid) the invalid URL is never stored. -/
theorem C16_reject (isUrl : String → Bool) (s : MI) (op : Op) (u : String)
    (hu : u ∈ op.urls) (hinv : accepts isUrl u = false)
    (hti : ∀ T, getTrackers isUrl s = .ok T → op.tierInRange T = true) :
    (step isUrl s op).2 = .error .url ∧ (op.atomic = true → (step isUrl s op).1 = s) := by
  have h : (step isUrl s op).2 = .error .url := by
    cases op with
    | trackers t => exact trackersOp_reject hu hinv hti
    | webseeds o => exact seedsOp_reject (stored := s.urlList) hu hinv
    | httpseeds o => exact seedsOp_reject (stored := s.httpseeds) hu hinv
  exact ⟨h, fun ha => step_atomic ha h⟩

/-- `replace` on a URL list (webseeds, httpseeds, a tier) can only raise while it coerces its
    argument for the first time, i.e. BEFORE the list is cleared: the second coercion (by `insert`,
    callback disabled) of an accepted item cannot fail (this was the second half of D16c/D14g) -/
theorem C16_url_replace_raises_before_clear (isUrl : String → Bool) (known us : List String) (e : Err)
    (hr : urlsReplace isUrl known us = .error e) : coerceAll isUrl us = .error e :=
  urlsReplace_error_before_clear hr

/-- in particular for a URL that `is_url` itself rejects -/
theorem C16_reject_invalid (isUrl : String → Bool) (s : MI) (op : Op) (u : String)
    (hu : u ∈ op.urls) (hinv : isUrl u = false)
    (hti : ∀ T, getTrackers isUrl s = .ok T → op.tierInRange T = true) :
    (step isUrl s op).2 = .error .url ∧ (op.atomic = true → (step isUrl s op).1 = s) :=
  C16_reject isUrl s op u hu (by simp [accepts, hinv]) hti

/-- index / slice assignment on a URL list is all-or-nothing: when it raises (URL error, index out
    of range, extended slice of the wrong size, step 0) the callback is not called — nothing is
    written — and when it succeeds the list handed to the callback is duplicate-free, has only good
    URLs and none that lives in another tier (`known`) -/
theorem C16_setitem_atomic_and_deduplicated (isUrl : String → Bool) (known items : List String)
    (op : UOp) (hop : (∃ i u, op = .setItem i u) ∨ (∃ a b st us, op = .setSlice a b st us))
    (hk : UOK isUrl known items) :
    match urlsOp isUrl known items op with
    | (none, out) => out ≠ .ok
    | (some r, out) => out = .ok ∧ r.Nodup ∧ (∀ u ∈ r, isUrl u = true ∧ u ∉ known) := by
  have ha : op.atomic = true := by
    rcases hop with ⟨i, u, rfl⟩ | ⟨a, b, st, us, rfl⟩ <;> rfl
  have h := urlsOp_atomic (isUrl := isUrl) (known := known) (items := items) ha
  generalize ho : urlsOp isUrl known items op = res at h ⊢
  cases h
  · exact Outcome.noConfusion
  · have := urlsOp_ok hk ho
    exact ⟨rfl, this.1, fun u hu => ⟨(this.2.1 u hu).1, this.2.2 u hu⟩⟩

/-- assigning a good list to itself changes nothing: `l[:] = l`
    (`torrent.webseeds[:] = torrent.webseeds` used to store `None`s — former finding D16a) -/
theorem C16_setslice_self_identity (isUrl : String → Bool) (known items : List String)
    (hk : UOK isUrl known items) :
    urlsOp isUrl known items (.setSlice none none none items) = (some items, .ok) := by
  simp only [urlsOp]
  exact urlsSetSlice_whole hk

/-! ### `reverse()` (in the alphabet since /repo 3d3793a) -/

/-- `MonitoredList.reverse()` on a URL list (webseeds, httpseeds, a tier; `known` = the URLs of the
    other tiers) whose items are good: the callback is called exactly ONCE, with exactly the
    reversed list, and no error is raised -/
theorem C16_reverse (isUrl : String → Bool) (known items : List String) (hk : UOK isUrl known items) :
    urlsOp isUrl known items .reverse = (some items.reverse, .ok) :=
  urlsOp_reverse hk

/-- … on `torrent.webseeds` (and, with the fields exchanged, `httpseeds`) of any state that
    satisfies the invariant: no error, `url-list` is the reversed list (absent when empty), nothing
    else changes, and reading the list back gives exactly the reversed list -/
theorem C16_reverse_seeds (isUrl : String → Bool) (s : MI) (W : List String)
    (hW : UOK isUrl [] W) (hw : s.urlList = writeSeeds W) :
    step isUrl s (.webseeds (.edit .reverse)) = ({ s with urlList := writeSeeds W.reverse }, .ok) ∧
    getSeeds isUrl (writeSeeds W.reverse) = .ok W.reverse := by
  refine ⟨?_, getSeeds_writeSeeds (UOK_reverse hW)⟩
  simp only [step, hw, seedsOp_reverse hW]

theorem C16_reverse_httpseeds (isUrl : String → Bool) (s : MI) (H : List String)
    (hH : UOK isUrl [] H) (hh : s.httpseeds = writeSeeds H) :
    step isUrl s (.httpseeds (.edit .reverse)) = ({ s with httpseeds := writeSeeds H.reverse }, .ok) ∧
    getSeeds isUrl (writeSeeds H.reverse) = .ok H.reverse := by
  refine ⟨?_, getSeeds_writeSeeds (UOK_reverse hH)⟩
  simp only [step, hh, seedsOp_reverse hH]

/-- … on a tier `trackers[ti]` of good tiers: the callback gets the tiers with exactly that tier
    reversed (a tier is never empty, so nothing is removed), no error -/
theorem C16_reverse_tier (isUrl : String → Bool) (T : Tiers) (ti : Int) (k : Nat) (tier : Tier)
    (hT : TiersOK isUrl T) (hpi : pyIndex T.length ti = some k) (hget : T[k]? = some tier) :
    tierOp isUrl T ti .reverse = (some (wOf (splice T k (k + 1) [tier.reverse])), .ok) := by
  have hu := tier_UOK_others hT hget
  have hne : tier.reverse ≠ [] := by
    have := hT.1 tier (List.mem_of_getElem? hget)
    simpa using this
  simp only [tierOp, hpi, hget, urlsOp_reverse hu, Option.map_some, afterTier, hne, if_false]

/-- `torrent.trackers.reverse()` (/repo f86a28a; before, the inherited
    `MutableSequence.reverse` did nothing): whatever the tiers `T` of the
    object are, the callback is called exactly ONCE, with exactly `T.reverse`, and no error is
    raised; on a held object the tiers are `T.reverse` afterwards, the metainfo mirrors them —
    `announce` is the first URL of the NEW first tier (the old last one), `announce-list` the reversed
    tiers iff there is more than one URL — and nothing else changes; good tiers stay good -/
theorem C16_tiers_reverse (isUrl : String → Bool) (s : MI) (T : Tiers) :
    tiersOp isUrl T .reverse = (some (wOf T.reverse), .ok) ∧
    (heldOp isUrl s T .reverse).2 = (T.reverse, .ok) ∧
    Mirrors (heldOp isUrl s T .reverse).1 T.reverse ∧
    (heldOp isUrl s T .reverse).1.announce = T.getLast?.bind List.head? ∧
    (heldOp isUrl s T .reverse).1.urlList = s.urlList ∧
    (heldOp isUrl s T .reverse).1.httpseeds = s.httpseeds ∧
    (TiersOK isUrl T → TiersOK isUrl T.reverse) := by
  refine ⟨rfl, rfl, ⟨rfl, rfl⟩, ?_, rfl, rfl, TiersOK_reverse⟩
  simp [heldOp, tiersOp, writeTrackers, wOf, List.head?_reverse]

/-- … at state level, through a fresh getter call, from any state that mirrors good tiers `T`:
    no error, `announce` / `announce-list` are what the write-back produces for `T.reverse`, and a
    fresh `torrent.trackers` afterwards returns exactly `T.reverse` -/
theorem C16_tiers_reverse_state (isUrl : String → Bool) (s : MI) (T : Tiers)
    (hT : TiersOK isUrl T) (hm : Mirrors s T) :
    step isUrl s (.trackers .reverse) = (writeTrackers s (wOf T.reverse), .ok) ∧
    getTrackers isUrl (writeTrackers s (wOf T.reverse)) = .ok T.reverse :=
  ⟨trackersOp_eq_heldOp (op := .reverse) hT hm nofun, getTrackers_eq (TiersOK_reverse hT) ⟨rfl, rfl⟩⟩

/-- what is LEFT of the old no-op: `tr[i] = v` with a tier value whose URLs are all stored already
    (in any tier, the one that is to be replaced included) assigns nothing — `Trackers.__setitem__`
    de-duplicates the new tier against ALL current URLs, so moving a tier by assignment
    (`tr[0] = tr[1]`) is impossible; no error, the callback runs with the unchanged tiers.  (This
    is why the inherited swap loop did nothing.)  Everything stays in sync. -/
theorem C16_tiers_setitem_stored_noop (isUrl : String → Bool) (T : Tiers) (i : Int) (x : Tier)
    (hT : TiersOK isUrl T) (hx : x ∈ T) :
    tiersOp isUrl T (.setItem i (.list x)) = (some (wOf T), .ok) := by
  simp only [tiersOp, tiersSetItem, tiersSetItemT_stored hT fun c hc => List.mem_flatten.2 ⟨x, hx, hc⟩]

/-- `is_url` restricted to the strings of the witnesses (agrees with the real function there) -/
def wIsUrl (s : String) : Bool :=
  s == "http://a/1" || s == "http://b/2" || s == "udp://c:80/3" || s == "http://a b" || s == "http://a+b"

/-- the hypotheses of the `_partial` theorems are satisfiable by a non-trivial history that
    exercises de-duplication by coercion, a failing operation, tier removal, `+=`, index and slice
    assignment (duplicate among the new items, a URL of another tier, an extended slice, a tier
    emptied by an assignment) -/
def wClean : List Op :=
  [.trackers (.set (.list [.list ["http://a/1", "http://a b"], .str "http://b/2"])),
   .trackers (.tier 0 (.append "http://a+b")),          -- duplicate after coercion: ignored
   .trackers (.tier 1 (.append "foo")),                 -- URL error
   .trackers (.tier 0 (.setItem 1 "http://b/2")),       -- lives in tier 1: dropped, tier 0 = [a]
   .trackers (.tier (-1) (.setSlice none none none ["http://a/1"])),   -- tier 1 emptied: removed
   .webseeds (.edit (.iadd ["http://b/2", "http://a b"])),
   .webseeds (.edit (.insert (-1) "http://a/1")),       -- [b, a, a+b]
   .webseeds (.edit (.setSlice none none (some 2) ["http://a+b", "udp://c:80/3"])),   -- [a+b, a, c]
   .webseeds (.edit (.setSlice (some 0) (some 0) none ["http://b/2", "http://b/2", "http://a/1"])),
   .webseeds (.edit (.setSlice none none (some 2) ["http://b/2"])),    -- wrong size: ValueError
   .webseeds (.edit (.setItem 7 "http://b/2"))]                        -- IndexError

example : (∀ op ∈ wClean, op.affected = false) ∧
    run wIsUrl MI.init wClean =
      { announce := some "http://a/1", announceList := none,
        urlList := some ["http://b/2", "http://a/1", "http://a+b", "udp://c:80/3"], httpseeds := none } := by
  decide +kernel

example : (step wIsUrl MI.init (.webseeds (.set (.list ["http://a/1", "foo"])))) =
    (MI.init, .error .url) := by decide +kernel

private theorem run_three_seeds : run wIsUrl MI.init [.webseeds (.set (.list ["http://a/1", "http://b/2", "udp://c:80/3"]))] =
    { urlList := some ["http://a/1", "http://b/2", "udp://c:80/3"] } := by decide +kernel

/-- the order of the errors of an index / slice assignment: URL error before IndexError /
    ValueError; every one of them leaves the state untouched -/
example :
    let s := run wIsUrl MI.init [.webseeds (.set (.list ["http://a/1", "http://b/2", "udp://c:80/3"]))]
    [step wIsUrl s (.webseeds (.edit (.setItem 9 "foo"))),
     step wIsUrl s (.webseeds (.edit (.setItem 9 "http://a/1"))),
     step wIsUrl s (.webseeds (.edit (.setItem (-4) "http://a/1"))),
     step wIsUrl s (.webseeds (.edit (.setSlice none none (some 2) ["http://a/1", "foo"]))),
     step wIsUrl s (.webseeds (.edit (.setSlice none none (some 2) ["http://a/1"]))),
     step wIsUrl s (.webseeds (.edit (.setSlice none none (some 0) ["http://a/1"]))),
     step wIsUrl s (.webseeds (.edit (.setSlice (some 1) (some 2) none ["http://a/1", "foo", "http://b/2"])))]
    = [(s, .error .url), (s, .error .index), (s, .error .index), (s, .error .url), (s, .error .value),
       (s, .error .value), (s, .error .url)] := by
  rw [run_three_seeds]
  decide +kernel

/-- reversing through an extended slice works (`l[::-1] = list(l)`), a swap through two index
    assignments cannot (the first assignment creates a duplicate, which is dropped) -/
example :
    let s := run wIsUrl MI.init [.webseeds (.set (.list ["http://a/1", "http://b/2", "udp://c:80/3"]))]
    (step wIsUrl s (.webseeds (.edit (.setSlice none none (some (-1)) ["http://a/1", "http://b/2", "udp://c:80/3"])))).1.urlList
      = some ["udp://c:80/3", "http://b/2", "http://a/1"] ∧
    (step wIsUrl s (.webseeds (.edit (.setItem 0 "udp://c:80/3")))).1.urlList
      = some ["udp://c:80/3", "http://b/2"] := by
  rw [run_three_seeds]
  decide +kernel

/-- `reverse()`: on a seed list, on a tier and on the tiers container it reverses (one write-back),
    on an empty list it does nothing, on a tier that does not exist it is the
    IndexError of `trackers[ti]`; `Spec.holds` afterwards -/
example :
    let s := run wIsUrl MI.init [.trackers (.set (.list [.list ["http://a/1", "http://b/2"], .str "udp://c:80/3"])),
      .webseeds (.set (.list ["http://a/1", "http://b/2", "udp://c:80/3"]))]
    (step wIsUrl s (.webseeds (.edit .reverse))) =
      ({ s with urlList := some ["udp://c:80/3", "http://b/2", "http://a/1"] }, .ok) ∧
    (step wIsUrl s (.trackers (.tier 0 .reverse))) =
      ({ s with announce := some "http://b/2",
                announceList := some [["http://b/2", "http://a/1"], ["udp://c:80/3"]] }, .ok) ∧
    (step wIsUrl s (.trackers .reverse)) =
      ({ s with announce := some "udp://c:80/3",
                announceList := some [["udp://c:80/3"], ["http://a/1", "http://b/2"]] }, .ok) ∧
    -- regression: the inherited swap loop left `s` as it was (`reverse()` silently did nothing)
    (step wIsUrl s (.trackers .reverse)).1 ≠ s ∧
    -- … because each half of a swap is an assignment of a stored tier, which still assigns nothing
    (step wIsUrl s (.trackers (.setItem 0 (.list ["udp://c:80/3"])))) = (s, .ok) ∧
    (step wIsUrl MI.init (.webseeds (.edit .reverse))) = (MI.init, .ok) ∧
    (step wIsUrl MI.init (.trackers .reverse)) = (MI.init, .ok) ∧
    (step wIsUrl MI.init (.trackers (.tier 0 .reverse))) = (MI.init, .error .index) ∧
    (∀ op ∈ [Op.webseeds (.edit .reverse), .trackers (.tier 0 .reverse), .trackers .reverse],
      op.affected = false ∧
      Spec.holds wIsUrl (step wIsUrl s op).1 (readBack wIsUrl (step wIsUrl s op).1) = true) := by
  decide +kernel

/-! ### regression: the former finding D16a (repaired in /repo e62ce6d) -/

/-- `webseeds = [a, b]; webseeds[0] = b` (stored 'None', read-back failed): now `[b]` -/
def wD16a : List Op :=
  [.webseeds (.set (.list ["http://a/1", "http://b/2"])),
   .webseeds (.edit (.setItem 0 "http://b/2"))]

/-- `webseeds[0:0] = [b, b]` (stored the duplicate): now `[b]` -/
def wD16aSlice : List Op :=
  [.webseeds (.edit (.setSlice (some 0) (some 0) none ["http://b/2", "http://b/2"]))]

/-- `trackers = a; trackers[0][1:1] = [b, b]` -/
def wD16aTier : List Op :=
  [.trackers (.set (.str "http://a/1")),
   .trackers (.tier 0 (.setSlice (some 1) (some 1) none ["http://b/2", "http://b/2"]))]

example : run wIsUrl MI.init wD16a = { urlList := some ["http://b/2"] } ∧
    run wIsUrl MI.init wD16aSlice = { urlList := some ["http://b/2"] } ∧
    run wIsUrl MI.init wD16aTier =
      { announce := some "http://a/1", announceList := some [["http://a/1", "http://b/2"]] } ∧
    (∀ w ∈ [wD16a, wD16aSlice, wD16aTier],
      Spec.holds wIsUrl (run wIsUrl MI.init w) (readBack wIsUrl (run wIsUrl MI.init w)) = true) := by
  decide +kernel

/-! ### counterexample (open finding D16b; the same history is replayed on the code) -/

/-- D16b: `trackers[0:0] = [[a, b]]` stores the URL strings as tiers -/
def wD16b : List Op :=
  [.trackers (.setSlice (some 0) (some 0) [.list ["http://a/1", "http://b/2"]])]

theorem C16_tiers_setslice_counterexample :
    (run wIsUrl MI.init wD16b).announce = some "h" ∧
    readBack wIsUrl (run wIsUrl MI.init wD16b) = none := by
  decide +kernel

/-- … so the getters raise on a reachable state, which `Spec.holds` counts as a failure -/
theorem C16_inv_reachable_counterexample : ¬ C16_inv_reachable_full := by
  intro h
  have := h wIsUrl wD16b
  rw [C16_tiers_setslice_counterexample.2] at this
  cases this

/-- the excluded operation is exactly that one -/
example : (wD16b.map Op.affected) = [true] ∧ (wD16a ++ wD16aSlice ++ wD16aTier).all (fun o => !o.affected) = true := by
  decide +kernel

/-! ### regression: the former finding D16c (repaired in /repo ae2b587) -/

/-- an `is_url` that accepts a string with leading white space (as urllib does) while its
    space→plus image is not a URL -/
def wIsUrlLead (s : String) : Bool := s == " http://l/" || s == "http://a/1"

/-- `webseeds.append(' http://l/')` (formerly stored as the invalid '+http://l/'): URL error,
    nothing stored; the same on a tier, by assignment, by `replace` (which no longer clears the
    list before it fails) and by index / slice assignment; the property holds after the whole
    history -/
def wLead : List Op :=
  [.webseeds (.edit (.append " http://l/")),
   .webseeds (.set (.list ["http://a/1"])),
   .webseeds (.edit (.replace ["http://a/1", " http://l/"])),
   .webseeds (.edit (.extend ["http://a/1", " http://l/"])),
   .trackers (.set (.str "http://a/1")),
   .trackers (.tier 0 (.append " http://l/")),
   .trackers (.append (.str " http://l/")),
   .webseeds (.edit (.setItem 0 " http://l/")),
   .trackers (.tier 0 (.setSlice none none none ["http://a/1", " http://l/"]))]

example : step wIsUrlLead MI.init (.webseeds (.edit (.append " http://l/"))) = (MI.init, .error .url) := by
  decide +kernel

example : (∀ op ∈ wLead, op.affected = false) ∧
    run wIsUrlLead MI.init wLead = { announce := some "http://a/1", urlList := some ["http://a/1"] } ∧
    Spec.holds wIsUrlLead (run wIsUrlLead MI.init wLead) (readBack wIsUrlLead (run wIsUrlLead MI.init wLead)) = true ∧
    (wLead.map fun op => (step wIsUrlLead (run wIsUrlLead MI.init [.webseeds (.set (.list ["http://a/1"])),
        .trackers (.set (.str "http://a/1"))]) op).2) =
      [.error .url, .ok, .error .url, .error .url, .ok, .error .url, .error .url, .error .url, .error .url] := by
  decide +kernel

/-- no operation — successful or raising — switches the change callback of a held `Trackers`
    object off (or on): `_callback_disabled()` restores it in a `finally` clause (/repo 37d74d0) -/
theorem C16_held_callback_kept (isUrl : String → Bool) (s : MI) (h : HeldTr) (op : HOp) :
    (heldStep isUrl s h op).2.1.cb = h.cb := by
  rw [heldStep_eq]

/-- the loop of `Trackers.replace` that runs after the object was cleared adds the tiers of the
    already validated `Trackers(tiers)` object again: it cannot raise and rebuilds exactly those
    tiers — `replace` is atomic since /repo 41bec34 (it raises before the object is touched, or not
    at all) -/
theorem C16_held_replace_second_pass_total (isUrl : String → Bool) (vs : List TierVal) (T1 : Tiers)
    (h1 : tiersAddAll isUrl [] vs = .ok T1) :
    heldReplaceLoop isUrl [] (T1.map .list) = (T1, .ok) :=
  heldReplaceLoop_rebuild h1

/-- an operation on a held object that raises changes NOTHING: neither the metainfo nor the object
    (`replace` included — this was the open finding D16d) -/
theorem C16_held_error_changes_nothing (isUrl : String → Bool) (s : MI) (h : HeldTr) (op : HOp)
    (e : Err) (herr : (heldStep isUrl s h op).2.2 = .error e) :
    (heldStep isUrl s h op).1 = s ∧ (heldStep isUrl s h op).2.1 = h := by
  obtain ⟨ha, hset, hop⟩ := op.toTOp_plain
  rw [heldStep_eq] at herr ⊢
  rcases heldOp_cases (isUrl := isUrl) (s := s) (T := h.tiers) ha hset hop with ⟨e', he⟩ | ⟨T', he, -⟩ <;>
    rw [he] at herr ⊢
  · exact ⟨ite_self _, rfl⟩
  · cases herr

/-- every operation on a held object (callback set) that SUCCEEDS leaves the metainfo mirroring
    the object — whatever the state was before -/
theorem C16_held_resync_on_success (isUrl : String → Bool) (s : MI) (h : HeldTr) (op : HOp)
    (hcb : h.cb = true) (hok : (heldStep isUrl s h op).2.2 = .ok) :
    Mirrors (heldStep isUrl s h op).1 (heldStep isUrl s h op).2.1.tiers := by
  obtain ⟨ha, hset, hop⟩ := op.toTOp_plain
  rw [heldStep_eq, if_pos hcb] at hok ⊢
  rcases heldOp_cases (isUrl := isUrl) (s := s) (T := h.tiers) ha hset hop with ⟨e, he⟩ | ⟨T', he, -⟩ <;>
    rw [he] at hok ⊢
  · cases hok
  · exact ⟨rfl, rfl⟩

/-- one step on a held object whose callback is set and which the metainfo mirrors: after ANY
    operation — successful or raising, a `replace` that raises included — the metainfo mirrors the
    object again -/
theorem C16_held_sync_step (isUrl : String → Bool) (s : MI) (h : HeldTr) (op : HOp)
    (hcb : h.cb = true) (hm : Mirrors s h.tiers) :
    Mirrors (heldStep isUrl s h op).1 (heldStep isUrl s h op).2.1.tiers := by
  rw [heldStep_eq, if_pos hcb]
  exact (heldOp_mirrors hm op.toTOp_plain.2.2).1

/-- every history of any length of `replace` / `append` / `clear` on a `Trackers` object obtained
    from a state it mirrors ends with the metainfo mirroring the object (failing operations
    included; no operation is excluded) -/
theorem C16_held_sync_reachable (isUrl : String → Bool) (s : MI) (h : HeldTr) (ops : List HOp)
    (hcb : h.cb = true) (hm : Mirrors s h.tiers) :
    Mirrors (heldRun isUrl s h ops).1 (heldRun isUrl s h ops).2.tiers := by
  rw [heldRun_eq s h ops hcb]
  refine (heldOps_mirrors hm fun o ho => ?_).1
  obtain ⟨op, -, rfl⟩ := List.mem_map.1 ho
  exact op.toTOp_plain.2.2

/-- the property for a held `Trackers` object as stated (the code falsified it
    before /repo 41bec34 — D16d): after every history of operations on the object obtained from the
    empty torrent the metainfo mirrors the object -/
theorem C16_held_sync (isUrl : String → Bool) (ops : List HOp) :
    Mirrors (heldRun isUrl MI.init ⟨[], true⟩ ops).1 (heldRun isUrl MI.init ⟨[], true⟩ ops).2.tiers :=
  C16_held_sync_reachable isUrl MI.init ⟨[], true⟩ ops rfl (by decide)

/-- regression of the former finding D16d: `t.trackers = [[a]]; tr = t.trackers;
    tr.replace([[b], ['foo']])` raises the URL error and leaves the object `[[a]]` (it was `[[b]]`),
    the metainfo keeps `a`; a later append writes `[[a], [a+b]]` (it wrote `[[b], [a+b]]`: `a` lost) -/
def wD16d : List HOp :=
  [.append (.list ["http://a/1"]), .replace [.list ["http://b/2"], .list ["foo"]]]

example : heldRun wIsUrl MI.init ⟨[], true⟩ wD16d =
      ({ announce := some "http://a/1" }, ⟨[["http://a/1"]], true⟩) ∧
    (heldStep wIsUrl { announce := some "http://a/1" } ⟨[["http://a/1"]], true⟩
      (.replace [.list ["http://b/2"], .list ["foo"]])).2.2 = .error .url ∧
    heldRun wIsUrl MI.init ⟨[], true⟩ (wD16d ++ [.append (.str "http://a b")]) =
      ({ announce := some "http://a/1", announceList := some [["http://a/1"], ["http://a+b"]] },
       ⟨[["http://a/1"], ["http://a+b"]], true⟩) ∧
    heldRun wIsUrl MI.init ⟨[], true⟩ (wD16d ++ [.replace [.list ["http://b/2", "http://a b"], .str "http://a+b", .str ""]]) =
      ({ announce := some "http://b/2", announceList := some [["http://b/2", "http://a+b"]] },
       ⟨[["http://b/2", "http://a+b"]], true⟩) := by
  decide +kernel

/-- ONE operation of the whole tiers state machine (insert, append, extend, +=, delete, slice
    delete, clear, remove, pop, replace, `tr[i] = v`, every operation on one of its tiers — index /
    slice assignment included — but not `tr[a:b] = …`, D16b) on a held `Trackers` object with good
    tiers that the metainfo mirrors: the object has good tiers again and the metainfo mirrors it,
    whether the operation succeeded or raised -/
theorem C16_held_any_step_partial (isUrl : String → Bool) (s : MI) (T : Tiers) (op : TOp)
    (hT : TiersOK isUrl T) (hm : Mirrors s T) (hop : (Op.trackers op).affected = false) :
    TiersOK isUrl (heldOp isUrl s T op).2.1 ∧ Mirrors (heldOp isUrl s T op).1 (heldOp isUrl s T op).2.1 :=
  ⟨(heldOp_mirrors hm hop).2 hT, (heldOp_mirrors hm hop).1⟩

/-- … and every history of such operations -/
theorem C16_held_any_reachable_partial (isUrl : String → Bool) (s : MI) (T : Tiers) (ops : List TOp)
    (hT : TiersOK isUrl T) (hm : Mirrors s T) (hops : ∀ op ∈ ops, (Op.trackers op).affected = false) :
    TiersOK isUrl (heldOps isUrl s T ops).2 ∧ Mirrors (heldOps isUrl s T ops).1 (heldOps isUrl s T ops).2 :=
  ⟨(heldOps_mirrors hm hops).2 hT, (heldOps_mirrors hm hops).1⟩

/-- the full statement for ANY history of operations on a held `Trackers` object obtained from the
    empty torrent — falsified by the code through `tr[a:b] = …` (D16b) -/
def C16_held_any_reachable_full : Prop :=
  ∀ (isUrl : String → Bool) (ops : List TOp),
    TiersOK isUrl (heldOps isUrl MI.init [] ops).2 ∧
      Mirrors (heldOps isUrl MI.init [] ops).1 (heldOps isUrl MI.init [] ops).2

/-- D16b on a held object: `tr = t.trackers; tr[0:0] = [[a, b]]` leaves the URL strings as tiers in
    the object (its "tiers" are the characters 'h', 't', …) -/
theorem C16_held_any_reachable_counterexample : ¬ C16_held_any_reachable_full := by
  intro h
  -- "h" is among the URLs of the object's tiers, and `TiersOK` would make it a valid URL
  have h1 := (h wIsUrl [.setSlice (some 0) (some 0) [.list ["http://a/1", "http://b/2"]]]).1.2.2 "h"
    (by decide +kernel)
  have h2 := h1.1
  revert h2
  decide +kernel

/-- "callback alive ⇒ same state machine": on a state that mirrors good tiers `T`, an operation on
    the held object (`heldOp`) and the same operation through a fresh getter call
    (`torrent.trackers.<op>`, `trackersOp`) write the same metainfo and return the same outcome, and
    a fresh `torrent.trackers` afterwards returns exactly the tiers of the held object — this is the
    translation the correspondence harness uses for held-object histories -/
theorem C16_held_same_as_fresh_partial (isUrl : String → Bool) (s : MI) (T : Tiers) (op : TOp)
    (hT : TiersOK isUrl T) (hm : Mirrors s T) (hset : ∀ v, op ≠ .set v)
    (hop : (Op.trackers op).affected = false) :
    trackersOp isUrl s op = ((heldOp isUrl s T op).1, (heldOp isUrl s T op).2.2) ∧
    getTrackers isUrl (heldOp isUrl s T op).1 = .ok (heldOp isUrl s T op).2.1 :=
  ⟨trackersOp_eq_heldOp hT hm hset,
   getTrackers_eq ((heldOp_mirrors hm hop).2 hT) (heldOp_mirrors hm hop).1⟩

/-- non-vacuity: a held history with failing operations, an index assignment on a tier that removes
    the tier, and a failing `replace` -/
example :
    let ops : List TOp := [.append (.list ["http://a/1", "http://b/2"]), .append (.str "udp://c:80/3"),
      .replace [.list ["http://a b"], .list ["foo"]], .tier 1 (.setItem 0 "http://b/2"),
      .tier 0 (.setSlice none none (some (-1)) ["http://a/1", "http://a b"]), .tier 5 .clear]
    (∀ op ∈ ops, (Op.trackers op).affected = false) ∧
    heldOps wIsUrl MI.init [] ops =
      ({ announce := some "http://a+b", announceList := some [["http://a+b", "http://a/1"]] },
       [["http://a+b", "http://a/1"]]) := by decide +kernel

end Torf.C16
