/-
  C19 — content-stream objects give history-independent answers: histories in which the DISK
  changes between two operations on the same object, the `content_path` ARGUMENT varies from call
  to call, and operations are hit by transient I/O FAULTS (`Torf.Model.HandlesDisk`).

  `Disk` = inode store + directory (what each path names now; paths are numbered root-major, one
  root per copy of the content); an object's state is its table of (path, inode) handles.
  `specOut c d arg op` is a function of the torrent, the disk as it is NOW and the arguments — it
  has no object in it.  `Row.clean` = the operation carries no fault and, when it started, the
  object held no *stale* handle (a handle on an inode that its path does not name any more) of a
  path the operation reads.  Stale handles arise in exactly one way: a path is renamed over /
  unlinked / replaced while the object has it open (`DiskOp.hitsOpen`); changes made in place — of
  the content AND of the size — never produce one, nor do reads, faults or other content paths.

  All theorems hold for every layout, piece length, cap, geometry function, hash function, disk and
  history; `c.memo = false` says that the model is the one of the code (the switch `memo = true`
  is the per-object size memo of seeded changes C10/a and C11/a, for which the theorems fail).
-/
import Torf.Lemmas.HandlesDisk
namespace Torf.C19
open Torf Torf.HandlesDisk

/-- A fresh object answers the specification — whatever the disk looks like (files missing,
    mis-sized, replaced by directories) and whichever content path is in effect. -/
theorem C19_disk_fresh [BEq δ] [Inhabited α] (c : Cfg α δ) (hm : c.memo = false) (d : Disk α)
    (arg : Option Nat) (op : Handles.Op) : (run c d arg none op {}).out = specOut c d arg op :=
  run_noStale c hm d arg op {} rfl

/-- History independence on the disk as it is now: an object with ANY past whose handles of the
    paths the operation reads are current answers what the specification says (= what a fresh
    object answers with the same arguments).  Handles of other paths do not matter, stale or not:
    other files, and the same files under ANOTHER content path (earlier calls with another
    `content_path` argument leave nothing behind that this call looks at — `_open_files` is keyed
    by the file-system path). -/
theorem C19_disk_independent [BEq δ] [Inhabited α] (c : Cfg α δ) (hm : c.memo = false) (d : Disk α)
    (arg : Option Nat) (op : Handles.Op) (o : Obj) (h : cleanFor c d arg op o.tbl = true) :
    (run c d arg none op o).out = specOut c d arg op ∧
      (run c d arg none op o).out = (run c d arg none op {}).out :=
  have h1 := run_clean c hm d arg op o h
  ⟨h1, h1.trans (C19_disk_fresh c hm d arg op).symm⟩

/-- Operations only ever add current handles: an object without stale handles has none afterwards,
    whatever the operation answered — also when a transient I/O fault made it raise ReadError (the
    handle stays in the table, open and current). -/
theorem C19_disk_run_keeps_current [BEq δ] [Inhabited α] (c : Cfg α δ) (d : Disk α)
    (arg : Option Nat) (fault : Option Fault) (op : Handles.Op) (o : Obj) (h : noStale d o.tbl = true) :
    noStale d (run c d arg fault op o).obj.tbl = true := by
  rw [noStale_iff] at h ⊢
  exact run_keeps (fun _ j => getOpenFile_keeps_okOn c.cap j) (fun _ he => nomatch he) arg fault op o h

/-- A disk change that is made in place (truncate, append, rewrite — any size), or that renames /
    unlinks / replaces a file the object has NOT open, leaves every handle current. -/
theorem C19_disk_change (d : Disk α) (x : DiskOp α) (t : Table) (h : noStale d t = true)
    (hx : x.hitsOpen t = false) : noStale (d.apply x) t = true :=
  (noStale_iff _ t).2 (apply_okOn d x t _ ((noStale_iff d t).1 h) hx)

/-- MAIN.  For every history of operations (each with its own `content_path` argument, possibly
    hit by a transient I/O fault), disk changes and replacements of the stored hashes on one object
    (starting with any table): every fault-free operation that starts without a stale handle of a
    path it reads answers the specification evaluated on the torrent, the disk of that moment and
    its arguments. -/
theorem C19_history_disk [BEq δ] [Inhabited α] (c : Cfg α δ) (hm : c.memo = false) (d : Disk α)
    (ss : List (Step α δ)) (o : Obj) :
    ∀ p ∈ (runAllD c d ss o).zip (specAllD c d ss), p.1.clean = true → p.1.out = p.2 := by
  -- along the recursion of `runAllD`: the three kinds of steps with torrent, disk and object of that
  -- moment; the head of `runAllD`, `specAllD` of a non-empty history is a cons by evaluation, which
  -- is how `List.forall_mem_cons` sees it here and in the histories below
  fun_induction runAllD c d ss o with
  | case1 => exact fun p hp => nomatch hp
  | case2 c d a f x ss o r ih =>
    refine List.forall_mem_cons.2 ⟨fun hc => ?_, ih hm⟩
    simp only [Bool.and_eq_true, Option.isNone_iff_eq_none] at hc
    obtain ⟨rfl, hc⟩ := hc
    exact run_clean c hm d a x o hc
  | case3 c d x ss o ih => exact List.forall_mem_cons.2 ⟨fun _ => rfl, ih hm⟩
  | case4 c d hs ss o ih => exact List.forall_mem_cons.2 ⟨fun _ => rfl, ih hm⟩

/-- … and the specification's answers are the answers of fresh objects created at those moments. -/
theorem C19_history_disk_fresh [BEq δ] [Inhabited α] (c : Cfg α δ) (hm : c.memo = false) (d : Disk α)
    (ss : List (Step α δ)) : specAllD c d ss = freshAllD c d ss := by
  fun_induction specAllD c d ss with
  | case1 => rfl
  | case2 c d a f x ss ih =>
    exact congr (congrArg List.cons (C19_disk_fresh c hm d a x).symm) (ih hm)
  | case3 c d x ss ih => exact congrArg (List.cons _) (ih hm)
  | case4 c d hs ss ih => exact congrArg (List.cons _) (ih hm)

/-- Histories that never rename / unlink / replace a file while the object has it open (in-place
    changes of any size and any change of a closed file are allowed; operations may be hit by
    faults): EVERY fault-free operation answers the specification — in particular every operation
    that follows a faulted one. -/
theorem C19_history_disk_nohit [BEq δ] [Inhabited α] (c : Cfg α δ) (hm : c.memo = false) (d : Disk α)
    (ss : List (Step α δ)) (o : Obj) (h0 : noStale d o.tbl = true) (h : noHit c d ss o = true) :
    ∀ p ∈ ((runAllD c d ss o).zip (freshAllD c d ss)).zip (ss.map Step.faultFree),
      p.2 = true → p.1.1.out = p.1.2 := by
  rw [← C19_history_disk_fresh c hm d ss]
  fun_induction runAllD c d ss o with
  | case1 => exact fun p hp => nomatch hp
  | case2 c d a f x ss o r ih =>
    refine List.forall_mem_cons.2 ⟨fun hf => ?_, ih hm (C19_disk_run_keeps_current c d a f x o h0) h⟩
    cases Option.isNone_iff_eq_none.1 hf
    exact run_noStale c hm d a x o h0
  | case3 c d x ss o ih =>
    simp only [noHit, Bool.and_eq_true, Bool.not_eq_true'] at h
    exact List.forall_mem_cons.2 ⟨fun _ => rfl, ih hm (C19_disk_change d x o.tbl h0 h.1) h.2⟩
  | case4 c d hs ss o ih => exact List.forall_mem_cons.2 ⟨fun _ => rfl, ih hm h0 h⟩

/-- In particular fault-free histories whose disk changes are all made in place — truncation and
    extension included: file sizes are read from the disk by every call, the object remembers none. -/
theorem C19_history_disk_inplace [BEq δ] [Inhabited α] (c : Cfg α δ) (hm : c.memo = false)
    (d : Disk α) (ss : List (Step α δ)) (h : inPlaceOnly ss = true) (hf : ss.all Step.faultFree = true) :
    (runAllD c d ss {}).map (·.out) = freshAllD c d ss := by
  -- no step hits an open file, no operation is faulted: all answers, from any object without stale handles
  suffices ∀ o : Obj, noStale d o.tbl = true → noHit c d ss o = true →
      (runAllD c d ss o).map (·.out) = specAllD c d ss from
    (this {} rfl (noHit_of_inPlaceOnly c d ss {} h)).trans (C19_history_disk_fresh c hm d ss)
  clear h
  intro o h0 h
  fun_induction runAllD c d ss o with
  | case1 => rfl
  | case2 c d a f x ss o r ih =>
    simp only [List.all_cons, Bool.and_eq_true] at hf
    cases Option.isNone_iff_eq_none.1 hf.1
    exact congr (congrArg List.cons (run_noStale c hm d a x o h0))
      (ih hm hf.2 (C19_disk_run_keeps_current c d a none x o h0) h)
  | case3 c d x ss o ih =>
    simp only [noHit, Bool.and_eq_true, Bool.not_eq_true'] at h
    simp only [List.all_cons, Bool.and_eq_true] at hf
    exact congrArg (List.cons _) (ih hm hf.2 (C19_disk_change d x o.tbl h0 h.1) h.2)
  | case4 c d hs ss o ih =>
    simp only [List.all_cons, Bool.and_eq_true] at hf
    exact congrArg (List.cons _) (ih hm hf.2 h0 h)

/-- The handle bound along histories with disk changes, content paths and faults. -/
theorem C19_disk_open_bound [BEq δ] [Inhabited α] (c : Cfg α δ) (d : Disk α) (ss : List (Step α δ))
    (o : Obj) (h : o.tbl.length ≤ c.cap + 1) : ∀ r ∈ runAllD c d ss o, r.nopen ≤ c.cap + 1 := by
  fun_induction runAllD c d ss o with
  | case1 => exact fun r hr => nomatch hr
  | case2 c d a f x ss o r ih =>
    exact List.forall_mem_cons.2 ⟨run_bound c d a f x o h, ih (run_bound c d a f x o h)⟩
  | case3 c d x ss o ih => exact List.forall_mem_cons.2 ⟨h, ih h⟩
  | case4 c d hs ss o ih => exact List.forall_mem_cons.2 ⟨h, ih h⟩

/-- `close()` and leaving the context forget every handle — stale ones included. -/
theorem C19_disk_close [BEq δ] [Inhabited α] (c : Cfg α δ) (d : Disk α) (a : Option Nat) (f : Option Fault)
    (o : Obj) :
    (run c d a f .close o).obj.tbl = [] ∧ (run c d a f .ctxExit o).obj.tbl = [] := ⟨rfl, rfl⟩

/-- What the specification of a complete sequential iteration IS: the items of property C10's
    model on the copy of the content that the effective content path names, as it is now
    (`Disk.view`), so every theorem of C10 (`C10_items`: one item per piece, data iff no byte of a
    bad file, every bad file reported once, …) speaks about it.  Hypothesis `NoDirClash`: C10's view
    stands a directory in as a file of its `st_size`, so no directory may have exactly the recorded
    size of the file whose place it has taken. -/
theorem C19_disk_iter_is_C10 [BEq δ] [Inhabited α] (c : Cfg α δ) (d : Disk α) (arg : Option Nat)
    (hd : NoDirClash c d (c.base arg)) :
    specOut c d arg .iterFull =
      match Missing.iterItems c.L c.sizes (d.view (c.base arg) c.sizes.length) with
      | none => .err .internal
      | some xs => .items xs := by
  -- no byte of the description is unreadable and `NoDirClash` gives its `NoSilent`, so its two
  -- projected disks are one: the view
  rw [specOut_iterFull, VerifyFs.iterItemsFs_eq, VerifyFs.fold_fs_nofault _ _ _ _
      fun j _ => VerifyFs.not_readFails_of_noReadErr _ _ (noReadErr_states d _ _) j,
    ← VerifyFs.statDisk_of_noSilent _ _ (noSilent_states c d _ _ hd), VerifyFs.step2_self,
    VerifyFs.runOf_nofault, ← Verify.iterItems_eq, statDisk_states]
  cases Missing.iterItems c.L c.sizes (d.view (c.base arg) c.sizes.length) <;> rfl

/-- An iteration abandoned after `k` items answers the first `k` items of the complete one. -/
theorem C19_disk_abandon_prefix [BEq δ] [Inhabited α] (c : Cfg α δ) (d : Disk α) (arg : Option Nat)
    (k : Nat) (xs : List (Missing.Item α)) (h : specOut c d arg .iterFull = .items xs) :
    specOut c d arg (.iterAbandon k) = .items (xs.take k) := by
  have hfz := List.foldl_rel (r := Frozen k) (l := List.range c.sizes.length) (a := {}) (b := {})
    (Or.inl rfl) fun j hj g f => specIterStep_frozen c d (c.base arg) k g f j (List.mem_range.1 hj)
  simp only [specOut, iterOut] at h ⊢
  generalize (List.range c.sizes.length).foldl (specIterStep c d (c.base arg) none) {} = f at h hfz
  generalize (List.range c.sizes.length).foldl (specIterStep c d (c.base arg) (some k)) {} = g at hfz
  split at h
  · cases h
  · rename_i hff
    simp only [Out.items.injEq] at h
    rcases hfz with rfl | ⟨hk, hnf, rest, hr⟩
    · simp only [hff, Bool.false_eq_true, ↓reduceIte, Out.items.injEq]
      rw [← h]
    · simp only [hnf, Bool.false_eq_true, ↓reduceIte, Out.items.injEq]
      rw [← h]
      -- both lists start with the `k` items the abandoned iteration had when it froze
      split <;> split <;> simp only [hr, List.append_assoc, List.take_append_of_le_length hk]

/-! ### concrete data: three files of 2, 4, 2 bytes, piece length 3 -/

def cD (memo : Bool) : Cfg Nat Nat :=
  { sizes := [2, 4, 2], L := 3, cap := 10,
    geom := fun i => match i with
      | 0 => .ok ([0, 1], 0)
      | 1 => .ok ([1], 1)
      | _ => .ok ([2], 0),
    H := List.sum, stored := [6, 15, 15], memo := memo }

def dD : Disk Nat := Disk.init [[1, 2], [3, 4, 5, 6], [7, 8]]

/-- The per-object size memo (seeded change C10/a: `_get_file_size_from_fs` remembers each size
    until `close()`) is NOT history independent, already for in-place changes: after
    `get_piece(0)` has looked at files 0 and 1, file 1 is truncated to 3 bytes; the following
    complete iteration reads the short file as it is (shifted pieces, nothing reported) instead of
    reporting it and faking its pieces. -/
theorem C19_size_memo_counterexample :
    ¬ ∀ ss : List (Step Nat Nat), inPlaceOnly ss = true → ss.all Step.faultFree = true →
        (runAllD (cD true) dD ss {}).map (·.out) = freshAllD (cD false) dD ss := by
  intro h
  have := h [.op none none (.getPiece 0), .disk (.truncate 1 3), .op none none .iterFull] rfl rfl
  revert this
  decide +kernel

/-- what the code answers there (file 1 reported with a size error, pieces 0 and 1 carry no data) … -/
example : (runAllD (cD false) dD [.op none none (.getPiece 0), .disk (.truncate 1 3), .op none none .iterFull] {}).map (·.out)
    = [.piece [1, 2, 3], .none,
       .items [⟨none, 1, [(1, .size)]⟩, ⟨none, 1, []⟩, ⟨some [7, 8], 0, []⟩]] := by
  decide +kernel
/-- … and what the variant with the memo answers: the truncated file is read as it is -/
example : (runAllD (cD true) dD [.op none none (.getPiece 0), .disk (.truncate 1 3), .op none none .iterFull] {}).map (·.out)
    = [.piece [1, 2, 3], .none,
       .items [⟨some [1, 2, 3], 0, []⟩, ⟨some [4, 5, 7], 0, []⟩, ⟨some [8], 0, []⟩]] := by
  decide +kernel

/-! ### stale handles: what the hypothesis `clean` excludes -/

/-- non-vacuity of `clean` / necessity of the hypothesis: file 1 is atomically replaced by a file
    of the same size while the object has it open; the object keeps reading the old inode
    (operating-system semantics), a fresh object reads the new one.  The row is not `clean`. -/
example : (runAllD (cD false) dD [.op none none .iterFull, .disk (.replace 1 [13, 14, 15, 16]), .op none none (.getPiece 1)] {}).map
      (fun r => (r.out, r.clean))
    = [(.items [⟨some [1, 2, 3], 0, []⟩, ⟨some [4, 5, 6], 0, []⟩, ⟨some [7, 8], 0, []⟩], true),
       (.none, true), (.piece [4, 5, 6], false)] := by
  decide +kernel
example : freshAllD (cD false) dD [.op none none .iterFull, .disk (.replace 1 [13, 14, 15, 16]), .op none none (.getPiece 1)]
    = [.items [⟨some [1, 2, 3], 0, []⟩, ⟨some [4, 5, 6], 0, []⟩, ⟨some [7, 8], 0, []⟩], .none,
       .piece [14, 15, 16]] := by
  decide +kernel
/-- the same replacement after `close()` (or of a file the object has not opened yet) is seen:
    the history satisfies `noHit` -/
example : noHit (cD false) dD [.op none none .iterFull, .op none none .close, .disk (.replace 1 [13, 14, 15, 16]), .op none none (.getPiece 1)] {}
    = true := by decide +kernel
/-- in-place changes of content and size with the file open: every row is clean -/
example : (runAllD (cD false) dD [.op none none .iterFull, .disk (.rewrite 1 [13, 14, 15, 16]), .op none none (.getPiece 1),
      .disk (.extend 2 [9]), .op none none (.verifyPiece 2), .disk (.truncate 2 2), .op none none (.verifyPiece 2)] {}).map
      (fun r => (r.out, r.clean))
    = [(.items [⟨some [1, 2, 3], 0, []⟩, ⟨some [4, 5, 6], 0, []⟩, ⟨some [7, 8], 0, []⟩], true),
       (.none, true), (.piece [14, 15, 16], true), (.none, true), (.err .size, true), (.none, true),
       (.bool true, true)] := by
  decide +kernel

/-! ### documented outcomes only?  Not with a stale handle (D19e) -/

/-- "Every error answer of a fault-free history is one of the documented errors (ValueError,
    ReadError, VerifyFileSizeError)": FALSE for the code as it is (since 685c3fc the TypeError of
    finding D19c is gone; what remains is `get_piece`'s own length assertion). -/
def C19_disk_documented_errors_full : Prop :=
  ∀ ss : List (Step Nat Nat), ss.all Step.faultFree = true →
    ∀ r ∈ runAllD (cD false) dD ss {}, ∀ e, r.out = .err e → e.documented = true

/-- File 1 is one byte short (a partial download); `get_piece(1)` reports the size — and caches the
    handle it has opened before the check; the complete file is moved in place (`os.replace`); the
    next `get_piece(1)` finds the cached handle, the size of the PATH is right, the old inode
    yields 2 bytes instead of 3: AssertionError (finding D19e). -/
theorem C19_disk_documented_errors_counterexample : ¬ C19_disk_documented_errors_full := by
  intro h
  have := h [.disk (.truncate 1 3), .op none none (.getPiece 1), .disk (.replace 1 [13, 14, 15, 16]),
    .op none none (.getPiece 1)] rfl ⟨.err .assertion, 1, false⟩ (by decide) .assertion rfl
  exact absurd this (by decide)

/-- the answers of that history: size error, then the assertion; a fresh object reads the new file -/
example : (runAllD (cD false) dD [.disk (.truncate 1 3), .op none none (.getPiece 1),
      .disk (.replace 1 [13, 14, 15, 16]), .op none none (.getPiece 1)] {}).map (fun r => (r.out, r.clean))
    = [(.none, true), (.err .size, true), (.none, true), (.err .assertion, false)] := by decide +kernel
example : freshAllD (cD false) dD [.disk (.truncate 1 3), .op none none (.getPiece 1),
      .disk (.replace 1 [13, 14, 15, 16]), .op none none (.getPiece 1)]
    = [.none, .err .size, .none, .piece [14, 15, 16]] := by decide +kernel

/-- … but only then: a fault-free operation that starts without a stale handle of a path it reads
    answers with documented errors only (for every torrent whose geometry helpers are consistent —
    property C11 —, every disk and history); `internal` = an exception escaping the missing-file
    loop of `iter_pieces`, excluded by `C10_no_internal_error` under C10's hypothesis via
    `C19_disk_iter_is_C10`. -/
theorem C19_disk_documented_errors_partial [BEq δ] [Inhabited α] (c : Cfg α δ) (hm : c.memo = false)
    (hg : GeomConsistent c) (d : Disk α) (arg : Option Nat) (op : Handles.Op) (o : Obj)
    (h : cleanFor c d arg op o.tbl = true) (e : Err) (he : (run c d arg none op o).out = .err e) :
    e.documented = true ∨ e = .internal := by
  rw [run_clean c hm d arg op o h] at he
  exact specOut_documented c hg d arg op e he

/-- non-vacuity: the geometry of the concrete torrent is consistent -/
example : GeomConsistent (cD false) := by
  intro n
  match n with
  | 0 => show readLen [2, 4, 2] [0, 1] 0 3 = Handles.expLen 3 8 0; decide
  | 1 => show readLen [2, 4, 2] [1] 1 3 = Handles.expLen 3 8 1; decide
  | n + 2 =>
    -- every later index is mapped to file 2, which ends the torrent: 2 bytes, the short last piece
    show 2 = Handles.expLen 3 8 (n + 2)
    have h : min ((n + 2) * 3 + 3 - 1) (8 - 1) = 8 - 1 := by omega
    simp only [Handles.expLen, h, ↓reduceIte]
    rfl

/-- regression, finding D19c (repaired by 685c3fc): `iter_pieces(); unlink file 0; get_piece(0)` on
    one object reads the old inode through the cached handle — no TypeError; the row is not clean
    (a fresh object reports the missing file) -/
example : (runAllD (cD false) dD [.op none none .iterFull, .disk (.unlink 0), .op none none (.getPiece 0),
      .op none none (.getPieceHash 0)] {}).map (fun r => (r.out, r.clean))
    = [(.items [⟨some [1, 2, 3], 0, []⟩, ⟨some [4, 5, 6], 0, []⟩, ⟨some [7, 8], 0, []⟩], true),
       (.none, true), (.piece [1, 2, 3], false), (.digest 6, false)] := by decide +kernel
example : freshAllD (cD false) dD [.op none none .iterFull, .disk (.unlink 0), .op none none (.getPiece 0),
      .op none none (.getPieceHash 0)]
    = [.items [⟨some [1, 2, 3], 0, []⟩, ⟨some [4, 5, 6], 0, []⟩, ⟨some [7, 8], 0, []⟩], .none,
       .err .readNoent, .none] := by decide +kernel

/-- Every transient OSError — from the first `seek()` or the first `read()` on any file, inside any
    reading operation (`iter_pieces` complete or abandoned, `get_piece`, `get_piece_hash`,
    `verify_piece`), on any torrent, disk and object — surfaces as ReadError; or the operation never
    gets to the faulty call, and then it answers and leaves the object exactly as without the fault.
    (Before ac0b377 the `fh.seek(skip_bytes)` of `_iter_from_file_handle` stood outside the try
    block and the raw OSError escaped from `iter_pieces`: finding D19d.)  That the object stays
    usable afterwards is `C19_disk_run_keeps_current` + `C19_history_disk_nohit`. -/
theorem C19_fault_is_read_error [BEq δ] [Inhabited α] (c : Cfg α δ) (d : Disk α) (arg : Option Nat)
    (f : Fault) (op : Handles.Op) (o : Obj) :
    (run c d arg (some f) op o).out = .err .readOther ∨
      ((run c d arg (some f) op o).out = (run c d arg none op o).out ∧
       (run c d arg (some f) op o).obj = (run c d arg none op o).obj) :=
  run_fault c d arg f op o

/-- two copies of the content: root 0 intact, root 1 with file 1 corrupted (same size) -/
def dTwo : Disk Nat :=
  { inodes := [[1, 2], [3, 4, 5, 6], [7, 8], [1, 2], [3, 4, 0, 6], [7, 8]],
    dir := [.file 0, .file 1, .file 2, .file 3, .file 4, .file 5] }

/-- `verify_piece(1, content_path=good)`, then `verify_piece(1, content_path=corrupt copy)`, then the
    default again, on ONE object: True, False, True (a memo of the path translation keyed by the
    torrent's file — seeded change C19/b of round 3 — would answer True, True, True) -/
example : (runAllD (cD false) dTwo [.op (some 0) none (.verifyPiece 1), .op (some 1) none (.verifyPiece 1),
      .op none none (.verifyPiece 1), .op (some 1) none (.getPiece 1)] {}).map (fun r => (r.out, r.nopen, r.clean))
    = [(.bool true, 1, true), (.bool false, 2, true), (.bool true, 2, true), (.piece [4, 0, 6], 2, true)] := by
  decide +kernel

/-- transient faults: the read of file 1 fails once inside `get_piece(0)` → ReadError; the handles
    of files 0 and 1 stay; the same call again answers as a fresh object; read fault in `iter_pieces`
    and seek fault in `verify_piece` → ReadError; seek fault in `iter_pieces` → ReadError (regression, D19d);
    afterwards a complete iteration answers as a fresh object -/
example : (runAllD (cD false) dD [.op none (some ⟨1, false⟩) (.getPiece 0), .op none none (.getPiece 0),
      .op none (some ⟨1, false⟩) .iterFull, .op none (some ⟨1, true⟩) (.verifyPiece 1),
      .op none (some ⟨2, true⟩) .iterFull, .op none none .iterFull] {}).map (fun r => (r.out, r.nopen, r.clean))
    = [(.err .readOther, 2, false), (.piece [1, 2, 3], 2, true), (.err .readOther, 2, false),
       (.err .readOther, 2, false), (.err .readOther, 3, false),
       (.items [⟨some [1, 2, 3], 0, []⟩, ⟨some [4, 5, 6], 0, []⟩, ⟨some [7, 8], 0, []⟩], 3, true)] := by
  decide +kernel

end Torf.C19
