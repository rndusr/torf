/-
  C18 — the search part: `find_torrent_files` over a file system whose path resolution is the
  operating system's (Torf.Model.ReuseSearch), and `Torrent.reuse(paths, …)` end to end.

  Reading guide: a search path is a *spelling* `p : PPath` (absolute flag + the raw text between
  the slashes).  `resolve w p` is what the OS makes of it (symbolic links are followed when met,
  `..` is taken where the walk has arrived, at most 40 links).  `Below w d p q` says: `q` is `p`
  followed by `d` names, each of which the OS lists in the directory the spelling so far resolves
  to — "q lies under the search path p, as the OS resolves it".
-/
import Torf.Properties.C18
import Torf.Lemmas.ReuseSearch
namespace Torf.C18
open Torf Torf.Reuse Torf.Paths

/-- `q` lies `d` levels under `p`: `p` itself, or `n` is listed in the directory `p` resolves to
    and `q` lies under `p/n` -/
inductive Below (w : World) : Nat → PPath → PPath → Prop
  | here (p : PPath) : Below w 0 p p
  | step {d : Nat} {p q : PPath} {n : String} {names : List String} :
      listdir w p = .ok names → n ∈ names → Below w d (push p n) q → Below w (d + 1) p q

/-- the spelling of everything under a search path: the search path as given, then listed names -/
theorem C18_search_spelling {w : World} {d : Nat} {p q : PPath} (h : Below w d p q) :
    q.abs = p.abs ∧ ∃ names : List String, names.length = d ∧ q.comps = p.comps ++ names := by
  induction h with
  | here p => exact ⟨rfl, [], rfl, by simp⟩
  | @step d p q n names _ _ _ ih =>
    obtain ⟨h1, ns, h2, h3⟩ := ih
    refine ⟨h1, n :: ns, by simp [h2], ?_⟩
    rw [h3]; simp [push]

/-- **Completeness of the search.** A spelling `q` under the search path `p` (every directory on
    the way is one the OS resolves and lists), not deeper than the recursion can go, whose last
    component ends in `.torrent` (any case), which the OS resolves to a non-directory of at most
    the maximal size, is yielded as a torrent file — under exactly that spelling. -/
theorem C18_search_complete (w : World) (fuel d : Nat) (p q : PPath) (hb : Below w d p q)
    (hfuel : d < fuel) (hname : isTorrentName (basename q) = true) (hnd : isdir w q = false)
    (sz : Nat) (hsz : getsize w q = some sz) (hmax : sz ≤ w.maxSize) :
    Found.tfile q true ∈ find w fuel p := by
  induction hb generalizing fuel with
  | here p =>
    cases fuel with
    | zero => omega
    | succ f => rw [find_file hnd hname hsz hmax]; exact List.mem_singleton.mpr rfl
  | @step d p q n names hl hn _ ih =>
    cases fuel with
    | zero => omega
    | succ f =>
      rw [find_dir hl]
      exact List.mem_flatMap.mpr ⟨n, hn, ih f (by omega) hname hnd hsz⟩

/-- **Soundness of the search / what is reported.** Everything `_find` yields is spelled "search
    path, then listed names" (`Below`); a yielded torrent file has a `.torrent` name, is not a
    directory, and either could be stat'ed and is small enough, or could not be stat'ed (it is
    then reported as unreadable); an error without path is reported only for a directory that
    cannot be listed or a spelling that does not resolve (does not exist, dangling or looping
    link, no permission). -/
theorem C18_search_sound (w : World) (fuel : Nat) (p : PPath) (x : Found) (hx : x ∈ find w fuel p) :
    match x with
    | .tfile q ok => ∃ d, Below w d p q ∧ isTorrentName (basename q) = true ∧ isdir w q = false ∧
        (ok = true → ∃ sz, getsize w q = some sz ∧ sz ≤ w.maxSize) ∧ (ok = false → getsize w q = none)
    | .pathError q => ∃ d, Below w d p q ∧
        ((isdir w q = true ∧ ∃ e, listdir w q = .error e) ∨ (isdir w q = false ∧ pexists w q = false))
    | .overflow => True := by
  induction fuel generalizing p with
  | zero => cases List.mem_singleton.mp hx; trivial
  | succ f ih =>
    have hk := kind_spec w p
    rw [find_succ] at hx
    cases h : kind w p with simp only [h] at hx hk
    | dir names =>
      -- what lies under a listed name lies under `p`
      obtain ⟨n, hn, hx⟩ := List.mem_flatMap.mp hx
      have := ih (push p n) hx
      cases x with
      | tfile q ok => obtain ⟨d, hb, rest⟩ := this; exact ⟨d + 1, .step hk hn hb, rest⟩
      | pathError q => obtain ⟨d, hb, rest⟩ := this; exact ⟨d + 1, .step hk hn hb, rest⟩
      | overflow => trivial
    | unlistable => cases List.mem_singleton.mp hx; exact ⟨0, .here p, .inl hk⟩
    | torrent sz =>
      split at hx
      · next hm =>
        cases List.mem_singleton.mp hx
        exact ⟨0, .here p, hk.2.1, hk.1, fun _ => ⟨sz, hk.2.2, hm⟩, nofun⟩
      · cases hx
    | nostat => cases List.mem_singleton.mp hx; exact ⟨0, .here p, hk.2.1, hk.1, nofun, fun _ => hk.2.2⟩
    | missing => cases List.mem_singleton.mp hx; exact ⟨0, .here p, .inr hk⟩
    | other => cases hx

/-- **Completeness, end to end.** Take any search path spelling `p` among the paths given to
    `reuse()` and any spelling `q` under it — as the OS resolves them: through symbolic links,
    `..` after a link, relative to the working directory — with a `.torrent` name, which the OS
    resolves to a readable regular file of admissible size whose content is a torrent `c` that
    passes the file match, whose hashes the local content meets at every sampled piece and that
    `copy` takes; the recursion is deep enough; the items yielded before the first occurrence of
    that file do not raise (`NoRaise`: errors meet a callback, earlier candidates get through
    without exception); no callback or one that never cancels.  Then `reuse()` returns `True`. -/
theorem C18_complete_search (t : Tor) (w : World) (fuel : Nat) (paths : List PPath) (cb : Callback)
    (elapsed : Bool) (hp : ∀ g, cb = some g → ∀ call, g call = false)
    (hover : Found.overflow ∉ searchFound w fuel paths)
    (p q : PPath) (hpaths : p ∈ paths) (d : Nat) (hb : Below w d p q) (hfuel : d < fuel)
    (hname : isTorrentName (basename q) = true)
    (ino sz cid : Nat) (hres : resolve w q = .ok (.file ino))
    (hnode : w.fs[ino]? = some (.file sz true cid)) (hmax : sz ≤ w.maxSize)
    (c : Cand) (loc : Nat → LocalPiece) (hcont : w.content cid = (.torrent c, loc))
    (hpre : ∀ pre post, searchItems w fuel paths = pre ++ Item.file (.torrent c) loc :: post →
      Item.file (.torrent c) loc ∉ pre → ∀ it ∈ pre, NoRaise t cb it)
    (hfm : isFileMatch t c = .ok true)
    (s : List Nat) (hs : samples t c = .ok s)
    (hloc : ∀ i ∈ s, ∃ dg, c.hashes[i]? = some dg ∧ loc i = .hash dg)
    (hcopy : ∃ t', copy c t = .ok t') :
    (reusePaths t w fuel paths cb elapsed).1 = .ok true := by
  have hnd : isdir w q = false := by simp [isdir, hres]
  have hsz : getsize w q = some sz := by simp [getsize, hres, hnode]
  have hitem : Item.file (.torrent c) loc ∈ searchItems w fuel paths :=
    mem_searchItems.mpr ⟨p, hpaths, q, true, C18_search_complete w fuel d p q hb hfuel hname hnd sz hsz hmax,
      readAt_torrent.mpr ⟨ino, sz, cid, hres, hnode, hcont⟩⟩
  obtain ⟨pre, post, hsplit, hfirst⟩ := List.eq_append_cons_of_mem hitem
  unfold reusePaths
  rw [if_neg hover, hsplit]
  exact C18_complete t cb elapsed hp pre c loc post (hpre pre post hsplit hfirst) hfm s hs hloc hcopy

/-- **Soundness, end to end.** If `reuse(paths)` returns `True`, the accepted candidate is the
    content of a readable regular file that a spelling under one of the given search paths
    resolves to, and it satisfies everything `C18_sound` lists. -/
theorem C18_sound_search (t : Tor) (w : World) (fuel : Nat) (paths : List PPath) (cb : Callback)
    (elapsed : Bool) (h : (reusePaths t w fuel paths cb elapsed).1 = .ok true) :
    ∃ p ∈ paths, ∃ d q ino sz cid c loc, Below w d p q ∧ isTorrentName (basename q) = true ∧
      resolve w q = .ok (.file ino) ∧ w.fs[ino]? = some (.file sz true cid) ∧
      w.content cid = (.torrent c, loc) ∧
      copy c t = .ok (reusePaths t w fuel paths cb elapsed).2.1 ∧
      isFileMatch t c = .ok true ∧ isContentMatch t c loc = .ok true := by
  unfold reusePaths at h ⊢
  by_cases hover : Found.overflow ∈ searchFound w fuel paths
  · simp [hover] at h
  · rw [if_neg hover] at h ⊢
    rcases (reuse_ends t (searchItems w fuel paths) cb elapsed).cases with
      ⟨hne, _⟩ | ⟨_, c, loc, hmem, hfm, hcm, hcopy⟩
    · exact absurd h hne
    · obtain ⟨p, hpp, q, ok, hxp, hread⟩ := mem_searchItems.mp hmem
      obtain ⟨d, hb, hname, _⟩ := C18_search_sound w fuel p _ hxp
      obtain ⟨ino, sz, cid, hres, hnode, hcont⟩ := readAt_torrent.mp hread
      exact ⟨p, hpp, d, q, ino, sz, cid, c, loc, hb, hname, hres, hnode, hcont, hcopy, hfm, hcm⟩

/-- **Atomicity, end to end**: also when the search itself fails. -/
theorem C18_atomic_search (t : Tor) (w : World) (fuel : Nat) (paths : List PPath) (cb : Callback)
    (elapsed : Bool) (h : (reusePaths t w fuel paths cb elapsed).1 ≠ .ok true) :
    (reusePaths t w fuel paths cb elapsed).2.1 = t := by
  unfold reusePaths at h ⊢
  by_cases hover : Found.overflow ∈ searchFound w fuel paths
  · simp [hover]
  · rw [if_neg hover] at h ⊢
    exact C18_atomic t _ cb elapsed h

/-- **What `p/c` denotes depends only on where `p` leads** (and on how many links may still be
    followed): resolving the spelling `p` followed by one more component is looking that
    component up in the directory `p` resolves to. -/
theorem C18_resolve_push (w : World) (p : PPath) (c : String) (st : List Nat)
    (h : resolve w p = .ok (.dir st)) :
    ∃ k, k ≤ maxLinks ∧ resolve w (push p c) = walk w.fs k st [c] :=
  let ⟨k, hk, hkk⟩ := resolve_append h
  ⟨k, hk, hkk [c]⟩

/-- **`..` is taken where the walk has arrived**: if the spelling `p` resolves to a directory
    that may be searched, `p/..` is that directory's real parent — whatever `p` looks like, in
    particular when `p` ends in a symbolic link (whose own directory is somewhere else). -/
theorem C18_dotdot_physical (w : World) (p : PPath) (st : List Nat) (r : Bool) (es : List (String × Nat))
    (h : resolve w p = .ok (.dir st)) (hx : w.fs[curIno st]? = some (.dir r true es)) :
    resolve w (push p "..") = .ok (.dir st.tail) := by
  obtain ⟨k, _, hk⟩ := C18_resolve_push w p ".." st h
  rw [hk]
  cases k <;> simp [walk, walk1, hx]

/-! ### Why the spellings must reach the OS untouched

`/home/cur -> /data/v2` (inode 4), `/data/torrents` (inode 6): the OS resolves
`/home/cur/../torrents` to `/data/torrents`; `os.path.normpath` makes `/home/torrents` of it,
which does not exist. -/

def exFS : FS :=
  [ .dir true true [("home", 1), ("data", 2)],           -- 0  /
    .dir true true [("cur", 3)],                          -- 1  /home
    .dir true true [("v2", 4), ("torrents", 6)],          -- 2  /data
    .link ⟨true, ["data", "v2"]⟩,                         -- 3  /home/cur -> /data/v2
    .dir true true [],                                    -- 4  /data/v2
    .file 100 true 0,                                     -- 5  /data/torrents/x.torrent
    .dir true true [("x.torrent", 5)] ]                   -- 6  /data/torrents

def exWorld : World := ⟨exFS, [], 1000, fun _ => (.undecodable, fun _ => .missing)⟩
def exSpelling : PPath := ⟨true, ["home", "cur", "..", "torrents"]⟩

/-- lexical normalisation (`os.path.normpath`, hence also `abspath`) is *not* path resolution -/
theorem C18_lexical_normalisation_unsound :
    resolve exWorld exSpelling = .ok (.dir [6, 2]) ∧
    normpath true exSpelling.comps = ["home", "torrents"] ∧
    resolve exWorld ⟨true, normpath true exSpelling.comps⟩ = .error .noent ∧
    find exWorld 5 exSpelling = [.tfile ⟨true, ["home", "cur", "..", "torrents", "x.torrent"]⟩ true] ∧
    find exWorld 5 ⟨true, normpath true exSpelling.comps⟩ = [.pathError ⟨true, ["home", "torrents"]⟩] := by
  decide +kernel

example : Below exWorld 1 exSpelling (push exSpelling "x.torrent") :=
  .step (names := ["x.torrent"]) rfl (by simp) (.here _)
example : isTorrentName "x.TorRent" = true ∧ isTorrentName "x.torrent.txt" = false ∧
    isTorrentName ".torrent" = true ∧ isTorrentName "torrent" = false := by decide +kernel
/-- relative spelling from the working directory `/home`, a doubled and a trailing slash -/
example : resolve { exWorld with cwd := [1] } ⟨false, ["cur", "..", "", "torrents", ""]⟩ = .ok (.dir [6, 2]) := by decide +kernel
example : resolve exWorld ⟨false, [""]⟩ = .error .noent := by decide +kernel
example : resolve exWorld ⟨true, ["data", "torrents", "x.torrent", ""]⟩ = .error .notdir := by decide +kernel

end Torf.C18
