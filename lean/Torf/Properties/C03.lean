/-
  C03 — hashing is schedule-independent and always terminates.

  Theorems about the labelled transition system `Torf.Pipeline` (Model/Pipeline.lean: main,
  reader, N hashers, janitor; one label = one synchronisation operation of one thread; timeouts
  are nondeterministic), for every configuration: any number of hashers, any queue capacity, any
  item list, fault plan and callback.  `Reachable cfg s` = some label sequence leads from
  `init cfg` to `s`, i.e. every schedule and every timing is covered.

  Proof: an inductive invariant, checked step by step (Lemmas/Pipeline*.lean).
  * `InvA` (PipelineCons; every cfg): the pieces in flight (`seen ++ hq ++ held ++ pq`) are a
    permutation of `range n`, `n` = their number = the reader's position while it is `putting`;
    nothing is in flight before the reader begins; `n ≤ #items`, and `n = #items` once an
    unstopped, fault-free reader has left its loop; main's pending exception is never the
    duplicate-assertion or an IndexError; `collected = seen.filter isHashed`; the reader is
    `notStarted` while main is before/at `startReader`; hashers at or above main's start
    position are `notStarted`.
  With `cfg.refuse = []` (`Inv` = `InvA ∧ InvB1 ∧ InvB2 ∧ InvB3`, PipelineInv):
  * `InvB1` (PipelineCtl): `hs.length = N`, `tracked.length ≤ N`, nothing is `refused`; the reader
    is `notStarted` iff main is before/at `startReader`; hashers below main's start position are
    started; the janitor is `notStarted` iff main is before/at `startJanitor`, and then
    `tracked = range N`; after `reader.join()` the reader is `done`.
  * `InvB2` (PipelineSent): while the reader is not `done` there is no sentinel in `pq`, no
    hasher at `requeue`/`setEv`, and `fin = false`; once it is `done` a sentinel is in `pq` or a
    hasher is at `requeue`; a hasher at `requeue` ⇒ `pq = []` (so re-queueing never blocks) and
    it is the only one; a sentinel can only be the last element of `pq`; `fin` or a hasher at
    `setEv` ⇒ `pq` holds sentinels only; hasher 0 `done` ⇒ `fin` (the vital hasher only leaves
    through `setEv`).
  * `InvB3` (PipelineJan): every running hasher is in `tracked`; `prune`/`spin` lists are
    non-empty and no longer than N; `spin rest` ⇒ `fin` and every running tracked hasher is
    still in `rest`; janitor `closing`/`done` ⇒ `fin` and no hasher is running; main `finished`
    ⇒ janitor `done`; janitor `done` and main still collecting ⇒ the sentinel is in `hq`; the
    sentinel is in `hq` only if the janitor is `done`, and only as the last element.
  With `noFaults` and a passive callback additionally
  * `InvC` (PipelineOut): `rexc = false`; while main has not left the collect loop, `stop = false`
    and no seen piece raises; main's join phase without pending exception ⇒ `seen` is a
    permutation of all pieces and none raises; a pending exception is `.item k` of a raising
    piece `k`; a returned result is `collected`.
  Deadlock freedom (PipelineProg, PipelineLive): an enabled step of main is a progress step (it
  lowers the measure below); when main is blocked (empty hash queue, `join` of a running thread),
  `workers_progress` finds a hasher or the reader that can move (the vital hasher
  is alive as long as the reader runs; a full queue has a taker), and when the reader and all
  hashers are done the event is set and the janitor reaches a progress step within its round.
  Termination (PipelineMeasure, PipelineCore, PipelineFair): the measure `mu` (thread ranks + 3 per
  piece-queue entry + 1 per hash-queue entry + 1 per tracked hasher) strictly decreases with
  every progress step, so executions have at most `14·N + 4·#items + 27` of them; in the idle
  suffix of an infinite execution the core state is constant, the steps of main/reader/hashers
  commute with `core`, each thread has at most one enabled label, and weak fairness forces the
  progress step that deadlock freedom provides (the scheduling argument, for any transition system
  with a bounded number of marked steps: `no_fair_run` in Lemmas/Justice).
-/
import Torf.Lemmas.PipelineLive
import Torf.Lemmas.PipelineOut
import Torf.Lemmas.PipelineMeasure
import Torf.Lemmas.PipelineFair
namespace Torf.C03
open Torf.Pipeline

/-- No piece is lost or duplicated, ever: the pieces collected by main, in the hash queue, in
    the hands of hashers and in the piece queue are exactly the pieces pushed so far, each once. -/
theorem C03_conservation {cfg : Cfg} {s : State} (h : Reachable cfg s) : Conserved s = true :=
  (InvA.of_reachable h).conserved

/-- `assert piece_index not in self._pieces_seen` never fires and no IndexError is raised. -/
theorem C03_no_internal {cfg : Cfg} {s : State} (h : Reachable cfg s) : noInternalError s = true :=
  (InvA.of_reachable h).noInternalError

/-- When `generate()`/`verify()` returns or raises, no worker thread is left running — for every
    schedule, with cancelling or raising callbacks and with read faults as well. -/
theorem C03_threads_done {cfg : Cfg} {s : State} (_hwf : wf cfg = true) (hrf : cfg.refuse = [])
    (h : Reachable cfg s) (ht : terminal s = true) : allThreadsDone s = true :=
  (Inv.of_reachable hrf h).threads_done ht

/-- Deadlock freedom: in every reachable state in which main has not returned, some thread can
    take a progress step (a step that changes the core state; the janitor possibly after the
    idle steps of its current polling round). -/
theorem C03_deadlock_free {cfg : Cfg} {s : State} (hwf : wf cfg = true) (hrf : cfg.refuse = [])
    (h : Reachable cfg s) (ht : terminal s = false) : canProgress cfg s = true :=
  (Inv.of_reachable hrf h).deadlock_free hwf hrf ht

/-- The outcome is schedule-independent: without faults and with a passive callback, every
    terminal state carries the result of the sequential reference — all digests collected (in
    some arrival order) if no piece raises, otherwise the exception of one of the raising
    pieces. -/
theorem C03_outcome {cfg : Cfg} {s : State} (_hwf : wf cfg = true) (hnf : noFaults cfg = true)
    (hcb : ∀ k d, cfg.cb k d = .pass) (h : Reachable cfg s) (ht : terminal s = true) :
    ∃ r, result? s = some r ∧ outcomeOk cfg r = true :=
  have ⟨hi, hc⟩ := InvC.of_reachable hnf hcb h
  hc.outcome hi ht

/-- `C03_outcome` with `outcomeOk` spelled out: a complete result and no raising piece, or the
    exception of a raising piece -/
theorem outcome_cases {cfg : Cfg} {s : State} (hwf : wf cfg = true) (hnf : noFaults cfg = true)
    (hcb : ∀ k d, cfg.cb k d = .pass) (h : Reachable cfg s) (ht : terminal s = true) :
    (∃ c, result? s = some (.returned c) ∧ badItems cfg = [] ∧
        c.mergeSort (fun a b => decide (a ≤ b)) = hashedItems cfg) ∨
      ∃ k, result? s = some (.raised (.item k)) ∧ k ∈ badItems cfg := by
  obtain ⟨r, hr, hok⟩ := C03_outcome hwf hnf hcb h ht
  cases r with
  | returned c => exact .inl ⟨c, hr, by simpa [outcomeOk] using hok⟩
  | raised x =>
    cases x with
    | item k => exact .inr ⟨k, hr, by simpa [outcomeOk] using hok⟩
    | _ => simp [outcomeOk] at hok

theorem returned_ok {cfg : Cfg} {s : State} {c : List Nat} (hwf : wf cfg = true)
    (hnf : noFaults cfg = true) (hcb : ∀ k d, cfg.cb k d = .pass) (h : Reachable cfg s)
    (hr : result? s = some (.returned c)) :
    badItems cfg = [] ∧ c.mergeSort (fun a b => decide (a ≤ b)) = hashedItems cfg := by
  have ht : terminal s = true := by rw [terminal, terminal_of_result hr]
  rcases outcome_cases hwf hnf hcb h ht with ⟨c', hr', hok⟩ | ⟨k, hr', -⟩
  · cases hr.symm.trans hr'; exact hok
  · cases hr.symm.trans hr'

/-- Digests end up in piece order whatever the arrival order: sorting the collected indexes of a
    returned result gives exactly the data pieces. -/
theorem C03_sorted_result {cfg : Cfg} {s : State} {c : List Nat} (hwf : wf cfg = true)
    (hnf : noFaults cfg = true) (hcb : ∀ k d, cfg.cb k d = .pass) (h : Reachable cfg s)
    (hr : result? s = some (.returned c)) :
    c.mergeSort (fun a b => decide (a ≤ b)) = hashedItems cfg :=
  (returned_ok hwf hnf hcb h hr).2

/-- A returned result is complete: no piece raised and every data piece has a digest. -/
theorem C03_returned_complete {cfg : Cfg} {s : State} {c : List Nat} (hwf : wf cfg = true)
    (hnf : noFaults cfg = true) (hcb : ∀ k d, cfg.cb k d = .pass) (h : Reachable cfg s)
    (hr : result? s = some (.returned c)) : badItems cfg = [] ∧ c.Perm (hashedItems cfg) := by
  obtain ⟨h1, h2⟩ := returned_ok hwf hnf hcb h hr
  exact ⟨h1, h2 ▸ (List.mergeSort_perm c _).symm⟩

/-- No livelock among progress steps: every execution, under any schedule and any timing of the
    timeouts, contains at most `14·N + 4·#items + 27` steps that change the core state.  Together
    with `C03_deadlock_free`: the only way not to terminate is to repeat idle steps (the vital
    hasher's idle timeout, janitor rounds that prune nothing, the janitor's busy wait) forever
    while a progress step stays enabled, which a fair scheduler does not do. -/
theorem C03_progress_bound {cfg : Cfg} {s : State} {ls : List Label} (hrf : cfg.refuse = [])
    (h : run cfg (init cfg) ls = some s) : progressSteps cfg (init cfg) ls ≤ progressBound cfg := by
  have := progressSteps_le hrf ls (init cfg) s (Inv.init cfg) h
  rw [mu_init] at this
  omega

/-- an idle step leaves the core state — and with it the enabledness of every other thread's
    steps — unchanged; a progress step strictly decreases the measure `mu` -/
theorem C03_progress_measure {cfg : Cfg} {s s' : State} {l : Label} (hrf : cfg.refuse = [])
    (h : Reachable cfg s) (hs : step cfg s l = some s') :
    (isProgress s s' = true → mu cfg s' < mu cfg s) ∧ (isProgress s s' = false → core s' = core s) := by
  constructor
  · intro hp
    have := mu_progress hrf (Inv.of_reachable hrf h) hs
    rw [hp] at this
    simp only [↓reduceIte] at this
    omega
  · exact fun hp => (core_eq_of_idle hp).symm

/-- Deadlock freedom in its plain form: a reachable state in which no thread can take any step
    is a state in which main has returned (and then all threads are done, `C03_threads_done`). -/
theorem C03_stuck_is_terminal {cfg : Cfg} {s : State} (hwf : wf cfg = true) (hrf : cfg.refuse = [])
    (h : Reachable cfg s) (hstuck : ∀ l, step cfg s l = none) : terminal s = true := by
  cases ht : terminal s with
  | true => rfl
  | false =>
    rcases canProgress_cases (C03_deadlock_free hwf hrf h ht) with ⟨l, s', hs, _⟩ | hj
    · rw [hstuck l] at hs; cases hs
    · obtain ⟨s', hs, _⟩ := janitorReachesProgress_succ.1 hj
      rw [hstuck] at hs; cases hs

/-- Termination: there is no infinite execution under a weakly fair scheduler (one that does not
    ignore a thread that stays enabled) — whatever the schedule and the timing of the timeouts,
    with cancelling or raising callbacks and read faults as well.  With `C03_stuck_is_terminal`:
    every fair execution is finite and ends with main returned and all threads done. -/
theorem C03_termination {cfg : Cfg} (hwf : wf cfg = true) (hrf : cfg.refuse = []) (e : Exec cfg) :
    ¬ e.Fair :=
  fun hfair => e.not_fair hwf hrf hfair

/-! ### the hypotheses are satisfiable: concrete schedules -/

private def cfgOk : Cfg :=
  { N := 1, cap := 1, items := [.data], readFault := none, refuse := [], raiseOnBad := false,
    cb := fun _ _ => .pass }

/-- one hasher, queue capacity 1, one piece that makes the callback raise -/
private def cfgBad : Cfg :=
  { N := 1, cap := 1, items := [.exc], readFault := none, refuse := [], raiseOnBad := true,
    cb := fun _ _ => .pass }

/-- a complete schedule of `cfgOk` -/
private def schedOk : List Label :=
  [lM, lM, lM, lM, lM, lM, lR, lR, lH, lH, lR, lH, lH, lH, lH, lJ, lJ, lJ, lJ, lM, lM, lM, lM, lM]

/-- a complete schedule of `cfgBad` -/
private def schedBad : List Label :=
  [lM, lM, lM, lM, lM, lM, lR, lR, lH, lH, lR, lH, lM, lM, lM, lH, lH, lH, lM, lM, lJ, lJ, lJ, lJ, lM]

private def after (cfg : Cfg) (ls : List Label) : State := (run cfg (init cfg) ls).getD (init cfg)

private theorem reach_after {cfg : Cfg} {ls : List Label}
    (h : (run cfg (init cfg) ls).isSome = true) : Reachable cfg (after cfg ls) :=
  .of_isSome h

/-- conservation and absence of internal errors are stated for every reachable state; here is a
    reachable state with a piece in the hands of the hasher and one with a piece in each queue -/
example : Reachable cfgOk (after cfgOk (schedOk.take 10)) ∧ held (after cfgOk (schedOk.take 10)) = [0] :=
  ⟨reach_after (by decide +kernel), by decide +kernel⟩

example : Conserved (after cfgOk (schedOk.take 10)) = true :=
  C03_conservation (reach_after (by decide +kernel))

example : Reachable cfgOk (after cfgOk (schedOk.take 12)) ∧ (after cfgOk (schedOk.take 12)).hq = [some 0] ∧
    (after cfgOk (schedOk.take 12)).pq = [none] ∧ noInternalError (after cfgOk (schedOk.take 12)) = true :=
  ⟨reach_after (by decide +kernel), by decide +kernel⟩

/-- the hypotheses of `C03_threads_done` and `C03_outcome` hold for a run that returns … -/
example : wf cfgOk = true ∧ noFaults cfgOk = true ∧ Reachable cfgOk (after cfgOk schedOk) ∧
    terminal (after cfgOk schedOk) = true ∧
    result? (after cfgOk schedOk) = some (.returned [0]) ∧ allThreadsDone (after cfgOk schedOk) = true :=
  ⟨by decide, by decide, reach_after (by decide +kernel), by decide +kernel⟩

/-- … and for a run that raises the exception of a bad piece -/
example : wf cfgBad = true ∧ noFaults cfgBad = true ∧ Reachable cfgBad (after cfgBad schedBad) ∧
    terminal (after cfgBad schedBad) = true ∧
    result? (after cfgBad schedBad) = some (.raised (.item 0)) ∧
    allThreadsDone (after cfgBad schedBad) = true :=
  ⟨by decide, by decide, reach_after (by decide +kernel), by decide +kernel⟩

/-- `outcomeOk` of these results, via the theorem -/
example : outcomeOk cfgOk (.returned [0]) = true := by
  obtain ⟨r, hr, hok⟩ := C03_outcome (cfg := cfgOk) (s := after cfgOk schedOk) (by decide) (by decide)
    (fun _ _ => rfl) (reach_after (by decide +kernel)) (by decide)
  have h2 : result? (after cfgOk schedOk) = some (Result.returned [0]) := by decide
  rw [h2] at hr
  exact (Option.some.inj hr) ▸ hok

example : outcomeOk cfgBad (.raised (.item 0)) = true := by decide

/-- the complete schedule of `cfgOk` consists of 24 progress steps; the bound is 45 -/
example : progressSteps cfgOk (init cfgOk) schedOk = 24 ∧ progressBound cfgOk = 45 := by decide

/-- infinite executions exist (so `C03_termination` is about something) and fairness is needed:
    with main descheduled after starting the vital hasher, the hasher's idle timeout can repeat
    forever -/
private def idleLab (n : Nat) : Label := [lM, lM, lM, lM, lH].getD n ⟨.hasher 0, true⟩

private def idleSt : Nat → State
  | 0 => init cfgOk
  | n + 1 => (step cfgOk (idleSt n) (idleLab n)).getD (idleSt n)

private theorem idleSt_const (n : Nat) : idleSt (n + 5) = idleSt 5 := by
  induction n with
  | zero => rfl
  | succ n ih =>
    have hl : idleLab (n + 5) = ⟨.hasher 0, true⟩ := by simp [idleLab]
    have hs : step cfgOk (idleSt 5) ⟨.hasher 0, true⟩ = some (idleSt 5) := by decide
    show (step cfgOk (idleSt (n + 5)) (idleLab (n + 5))).getD (idleSt (n + 5)) = idleSt 5
    rw [ih, hl, hs]; rfl

private def idleExec : Exec cfgOk where
  st := idleSt
  lab := idleLab
  start := rfl
  next := by
    intro n
    match n with
    | 0 | 1 | 2 | 3 | 4 => decide
    | n + 5 =>
      have hl : idleLab (n + 5) = ⟨.hasher 0, true⟩ := by simp [idleLab]
      have hs : step cfgOk (idleSt 5) ⟨.hasher 0, true⟩ = some (idleSt 5) := by decide
      rw [show n + 5 + 1 = (n + 1) + 5 by omega, idleSt_const n, idleSt_const (n + 1), hl, hs]

example : ¬ idleExec.Fair := C03_termination (by decide) rfl idleExec

/-- the hypotheses of `C03_deadlock_free` hold in non-terminal reachable states, e.g. while main
    is blocked on the empty hash queue and while it is blocked in `join` -/
example : wf cfgOk = true ∧ cfgOk.refuse = [] ∧ Reachable cfgOk (after cfgOk (schedOk.take 8)) ∧
    terminal (after cfgOk (schedOk.take 8)) = false ∧
    (after cfgOk (schedOk.take 8)).main = .collect ∧ (after cfgOk (schedOk.take 8)).hq = [] :=
  ⟨by decide, rfl, reach_after (by decide +kernel), by decide +kernel⟩

example : wf cfgBad = true ∧ cfgBad.refuse = [] ∧ Reachable cfgBad (after cfgBad (schedBad.take 15)) ∧
    terminal (after cfgBad (schedBad.take 15)) = false ∧
    (after cfgBad (schedBad.take 15)).main = .joinHasher 0 0 (some (.item 0)) :=
  ⟨by decide, rfl, reach_after (by decide +kernel), by decide +kernel⟩

end Torf.C03
