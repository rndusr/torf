/-
  C08 — untrusted input only ever produces documented errors.  Property theorems (and
  `firstRaise_append` for the one that needs it).

  Model: Torf/Model/Untrusted.lean (`read`, `readStreamObj`, `readFile`, `dumpT`, `validateT`,
  `fromString`, `parseSteps`), wrapping the models of C05 (`Bencode.step/run/parse`,
  `ReadStream.decodeTop/assertInfo/setPrivate`) and C07 (`Validate.validate/dumpNoValidate`).

  What is proved for all inputs and all environments (allocation limit, recursion fuel,
  `fromtimestamp`, URL oracle, `urlparse`/`parse_qs`/`int()` oracles):
  * `C08_read_total`            read_stream on bytes up to the limit: ok (validated if asked),
                                BdecodeError, MetainfoError — or exactly what `validate()` raised on
                                the torrent that was built; under the hypothesis that no length
                                prefix in the MemoryError window is reached (finding D08f).
  * `C08_read_total_counterexample`  the full statement (no memory hypothesis) is false: D08f.
  * `C08_no_memory_window`      the hypothesis holds whenever the allocator grants every size a bytes
                                object can have.
  * `C08_read_stream_obj_total`, `C08_read_file_total`   stream objects and `Torrent.read`.
  * `C08_parse_fuel`, `C08_parse_wrap`   the wrapped decoder never runs out of loop fuel and returns
                                only what C05's `parse` returns.
  * `C08_validate_documented`   C07's theorem `C07_validate_only_metainfo_error` (imported from
                                Torf.Properties.C07) at `fs = noPath` *is* `ValidateDocumented`.
  * `C08_returned_validate`, `C08_returned_dump`, `C08_returned_dump_novalidate`   validate()/dump()
                                of any torrent, with any number of frames left: ok or MetainfoError.
                                The only hypothesis of the first two is `filesNotMapping t` (the
                                class of the open finding D07f: `info['files']` is a mapping);
                                `dump(validate=False)` needs no hypothesis at all.
  * `C08_read_documented`       read_stream ∈ {ok (validated if asked), BdecodeError, MetainfoError}
                                under the memory hypothesis (D08f) and `filesNotMapping` of the
                                torrent that is built (D07f) — no fourth alternative.
  * `C08_returned_dump_deep`    too deep for the frames left ⇒ MetainfoError (fix 19d011f, ex-D08g).
  * `C08_magnet_total`          from_string: ok, MagnetError or URLError for every string and oracle
                                (`parse_qs` an oracle that yields no empty value list).
  Round 2 (`parse_qs` modelled in Model/QueryString.lean; hostile strings in validated fields):
  * `C08_parse_qs_total`, `C08_parse_qs_nonempty`, `C08_parse_qs_field_count`,
    `C08_parse_qs_raises_value`   the modelled `parse_qs`: total with the arguments the code passes,
                                for any number of fields; no empty value list; the field count of
                                the `max_num_fields` test is the number of fields of the loop.
  * `C08_magnet_documented`     from_string with the modelled `parse_qs`: ok, MagnetError or URLError
                                for every string — no hypothesis.  `C08_magnet_modelled_qs` links it
                                to `fromString`.
  * `C08_magnet_field_limit_irrelevant`, `C08_magnet_field_limit_raises`, `C08_magnet_strict_raises`
                                a field limit that is not exceeded changes nothing; every finite
                                limit and strict parsing make from_string raise a bare ValueError on
                                some URI (why the code must keep the defaults).
  * `C08_md5sum_iff`, `C08_md5sum_rejects`, `C08_isHex_ascii`, `C08_md5sum_branch`,
    `C08_md5sum_branch_non_ascii`, `C08_md5sum_single`, `C08_md5sum_file`
                                `is_md5sum` over code points; the md5sum rule of validate() answers
                                pass or MetainfoError for every value, MetainfoError for every
                                string with a non-ASCII character.
  * `C08_returned_infohash`     infohash of any torrent: bytes or MetainfoError (hyp. D07f).
  Round 3 (numbers of any size; `str.strip()` modelled in Model/PyStrip.lean):
  * `C08_single_numbers`, `C08_multi_numbers`, `C08_single_one_piece`
                                validate() of a torrent that is well-formed apart from its numbers is
                                decided by exact integer arithmetic, for all integers at once
                                (2^53, 2^63, 2^1024, 10^4299 are nothing special).
  * `C08_file_length_int`, `C08_piece_length_int`, `C08_length_branch`, `C08_length_branch_int`
                                the two numeric check predicates on integers of any size; the length
                                rule answers pass or MetainfoError for every value.
  * `C08_strip_steps`, `C08_strip_decomp`, `C08_strip_ends`, `C08_magnet_documented_strip`
                                `uri.strip()` as CPython's two scanning loops: at most |s| + 2
                                iterations wherever the white space sits; what it returns; from_string
                                with it.
  * `C08_read_steps`            steps of the decoder ≤ 3·|bs| + 2.
  Round 4 (numbers stored as text, Model/PyInt.lean; exact topics of every URN namespace):
  * `C08_int_digit_limit`       `int()` on an ASCII string with more than 4300 digit characters: ValueError.
  * `C08_xl_documented`, `C08_xl_digit_limit`   the `xl` setter: a length or MagnetError.
  * `C08_creation_date_not_int` a creation date that is not a bencoded integer (digit strings of any
                                length included) is never converted: MetainfoError if truthy.
  * `C08_xt_foreign`, `C08_xt_multiple`, `C08_xt_single_foreign`
                                topics outside btih (urn:btmh: …), several topics of any kinds, a
                                v2-only link: MagnetError — never an index error.
  Round 5 (lazily validated attributes of the parsed URI, Model/UrlAttrs.lean):
  * `C08_attr_reads_safe`       from_string reads only `scheme`/`query` outside its try; is_url reads
                                the lazily validated `port` inside `try … except Exception`.
  * `C08_magnet_no_extra_reads`, `C08_magnet_reads_documented`, `C08_magnet_port_read_raises`
                                from_string with additional attribute reads after the scheme test:
                                none, or only non-raising ones ⇒ documented; a `port` read there ⇒
                                bare ValueError on every magnet URI with an invalid port.
  Partial: CPython's actual time and memory are measured by the harness, not proved.
-/
import Torf.Lemmas.Untrusted
import Torf.Lemmas.QueryString
import Torf.Lemmas.PyStrip
import Torf.Lemmas.PyInt
import Torf.Lemmas.HexDigit
import Torf.Lemmas.Need
import Torf.Model.UrlAttrs
import Torf.Lemmas.ValidateSingle
import Torf.Properties.C07
namespace Torf.C08
open Torf Torf.Bencode Torf.Untrusted

/-- the decoder raises MemoryError on this input in this environment (D08f) -/
def HitsMemoryWindow (env : Env) (bs : Bytes) : Prop := isMemoryError (parseU env bs) = true

instance (env : Env) (bs : Bytes) : Decidable (HitsMemoryWindow env bs) := by
  unfold HitsMemoryWindow; exact inferInstance

/-- Reading arbitrary bytes up to the read limit, with or without validation, returns a torrent
    (which validates if validation was asked for) or raises BdecodeError or MetainfoError; the only
    other possibility is that `validate()` itself, run on the torrent that `validate=False` returns,
    raised something else (C07's matter: `C08_returned_validate`). -/
theorem C08_read_total (env : Env) (bs : Bytes) (validate : Bool)
    (hlen : bs.length ≤ env.maxSize) (hmem : ¬ HitsMemoryWindow env bs) :
    (∃ t, Untrusted.read env bs validate = .ok t ∧ (validate = true → validateT env t = .ok ())) ∨
    Untrusted.read env bs validate = .error .bdecode ∨
    Untrusted.read env bs validate = .error .metainfo ∨
    (validate = true ∧ ∃ t e, read env bs false = .ok t ∧ validateT env t = .error e ∧
      Untrusted.read env bs true = .error e) := by
  have hr : ∀ v, Untrusted.read env bs v = readCore env bs v := by
    intro v; unfold Untrusted.read; rw [if_neg (by omega)]
  simp only [hr]
  exact readCore_cases env bs validate fun h => hmem ((isMemoryError_iff _).2 h)

/-- the full statement: no hypothesis about the allocator -/
def C08_read_total_full : Prop :=
  ∀ (env : Env) (bs : Bytes) (validate : Bool), bs.length ≤ env.maxSize →
    ∀ e, Untrusted.read env bs validate = .error e →
      e = .bdecode ∨ e = .metainfo ∨ e = .read ∨
      (∃ t, Untrusted.read env bs false = .ok t ∧ validateT env t = .error e)

/-- an environment whose allocator refuses more than 16 GiB -/
def envSmallMem : Env :=
  { memLimit := 2 ^ 34, decFuel := 997, encFuel := 998, fromTs := fun _ => .valueerror,
    urlOk := fun _ => false }

/-- `b'd4:name223372036854775807:xe'` -/
def d08fWitness : Bytes :=
  [100, 52, 58, 110, 97, 109, 101,
   50, 50, 51, 51, 55, 50, 48, 51, 54, 56, 53, 52, 55, 55, 53, 56, 48, 55, 58, 120, 101]

theorem C08_d08f_reads (v : Bool) :
    Untrusted.read envSmallMem d08fWitness v = .error (.internal "MemoryError") := by
  apply errIs_eq
  cases v <;> decide +kernel

/-- Finding D08f: a length prefix between the allocator's limit and `sys.maxsize` escapes as
    MemoryError. -/
theorem C08_read_total_counterexample : ¬ C08_read_total_full := by
  intro h
  rcases h envSmallMem d08fWitness true (by decide) _ (C08_d08f_reads true) with h | h | h | ⟨t, h, _⟩
  · cases h
  · cases h
  · cases h
  · rw [C08_d08f_reads false] at h; cases h

/-- non-vacuity of `C08_read_total`: the witness of D08f does *not* hit the window when the
    allocator is generous -/
example : ¬ HitsMemoryWindow { envSmallMem with memLimit := 2 ^ 63 } d08fWitness := by decide +kernel

/-- The memory hypothesis holds for every input when the allocator grants whatever a bytes object
    can hold. -/
theorem C08_no_memory_window (env : Env) (bs : Bytes) (hm : env.ssizeMax ≤ env.memLimit) :
    ¬ HitsMemoryWindow env bs :=
  fun h => parseU_no_memory env hm bs ((isMemoryError_iff _).1 h)

/-- The loop fuel of the decoder model is never what stops it. -/
theorem C08_parse_fuel (env : Env) (bs : Bytes) : parseU env bs ≠ .error .fuel :=
  parseU_fuel env bs

/-- The wrapper adds exceptions only: a value it returns is the value C05's model returns. -/
theorem C08_parse_wrap (env : Env) (bs : Bytes) (v : BVal) (h : parseU env bs = .ok v) :
    parse env.lim bs = some v :=
  parseU_ok env bs v h

/-- A readable object: ReadError if `read()` raises OSError, else as for the bytes it delivers
    (at most the limit). -/
theorem C08_read_stream_obj_total (env : Env) (s : StreamOutcome) (validate : Bool) :
    readStreamObj env s validate = .error .read ∨
    ∃ bs, bs.length ≤ env.maxSize ∧ readStreamObj env s validate = Untrusted.read env bs validate := by
  cases s with
  | raisesOS => left; rfl
  | data bs =>
    have h : (bs.take env.maxSize).length ≤ env.maxSize := List.length_take_le _ _
    refine .inr ⟨_, h, ?_⟩
    unfold readStreamObj Untrusted.read
    rw [if_neg (Nat.not_lt.2 h)]

/-- `Torrent.read(filepath)`: ReadError if the file cannot be opened or read, else as for the
    stream. -/
theorem C08_read_file_total (env : Env) (f : FileOutcome) (validate : Bool) :
    readFile env f validate = .error .read ∨
    ∃ s, readFile env f validate = readStreamObj env s validate := by
  cases f with
  | openFails => left; rfl
  | opened s =>
    right
    refine ⟨s, ?_⟩
    unfold readFile
    dsimp only
    split <;> simp_all

/-- what `read_stream(b'd4:infod6:piecesllleeeee', validate=False)` returns: `pieces` is not decoded,
    so its nesting is never checked on read -/
def deepWitness : Items := [(.str "info", .dict [(.str "pieces", .list [.list [.list []]])])]

/-- What C08 needs from C07 — `validate()` without a content path raises MetainfoError and nothing
    else unless `info['files']` is a mapping — is C07's theorem `C07_validate_only_metainfo_error`
    at `fs = noPath` (there `outsideD07f noPath md = filesNotMapping md`: the second half of D07f
    needs a content path, and since /repo 3420ff7 there is no bound on numbers).  No hypothesis. -/
theorem C08_validate_documented : ValidateDocumented := by
  intro urlOk md e hf h
  rcases C07.C07_validate_only_metainfo_error urlOk Validate.noPath md
      ((Validate.outsideD07f_noPath md).trans hf) with h' | h'
  · rw [h'] at h; cases h
  · rw [h'] at h; cases h; rfl

/-- `validate()` of a torrent (in particular of every returned one): ok or MetainfoError, for
    every metainfo, URL oracle and environment.  **Only hypothesis:**
    `filesNotMapping t` — `info['files']` is not a mapping, the class of the open finding D07f
    (a mapping with `int` keys makes `validate` raise TypeError; a torrent that comes out of
    `read_stream` can have a `files` mapping, but only with `str`/`bytes` keys, for which the code
    answers MetainfoError — that case is evaluated by the driver on every run, not proved).
    C07's statement about `validate` is not a hypothesis: it is `C08_validate_documented`. -/
theorem C08_returned_validate (env : Env) (t : Items)
    (hf : Validate.filesNotMapping t = true) :
    validateT env t = .ok () ∨ validateT env t = .error .metainfo :=
  validateT_doc C08_validate_documented env t hf

/-- `dump()` of a torrent: bytes or MetainfoError, however few frames are left (`env.encFuel`
    arbitrary).  **Only hypothesis:** `filesNotMapping t` (finding D07f), as for
    `C08_returned_validate`. -/
theorem C08_returned_dump (env : Env) (t : Items)
    (hf : Validate.filesNotMapping t = true) :
    (∃ b, dumpT env t true = .ok b) ∨ dumpT env t true = .error .metainfo :=
  dumpT_validate C08_validate_documented env t hf

/-- the hypothesis of `C08_returned_validate` / `C08_returned_dump` is necessary: on C07's D07f
    witness (`files = {0: {…}}`) `validate()` raises TypeError -/
example : Validate.filesNotMapping C07.d07fWitness = false ∧
    errIs (validateT envSmallMem C07.d07fWitness) (.internal "TypeError") = true := by
  decide +kernel

/-- non-vacuity: a valid torrent and one that fails validation satisfy the hypothesis -/
example : Validate.filesNotMapping C07.validWitness = true ∧
    Validate.filesNotMapping deepWitness = true ∧
    errIs (validateT envSmallMem deepWitness) .metainfo = true := by decide +kernel

/-- **Reading untrusted bytes raises only documented errors**: `C08_read_total` with C07's theorem
    plugged in.  For every environment, every byte string up to the read limit and both values of
    `validate`: a torrent (which validates if validation was asked for), BdecodeError or
    MetainfoError.  Hypotheses, both classes of open findings:
    * `¬ HitsMemoryWindow env bs` — the decoder does not reach a length prefix between the
      allocator's limit and 2^63−34 (finding D08f; `C08_read_total_counterexample`);
    * `filesNotMapping` of the torrent that `validate=False` returns for the same bytes (finding
      D07f; only needed for `validate = true`). -/
theorem C08_read_documented (env : Env) (bs : Bytes) (validate : Bool)
    (hlen : bs.length ≤ env.maxSize) (hmem : ¬ HitsMemoryWindow env bs)
    (hf : ∀ t, Untrusted.read env bs false = .ok t → Validate.filesNotMapping t = true) :
    (∃ t, Untrusted.read env bs validate = .ok t ∧ (validate = true → validateT env t = .ok ())) ∨
    Untrusted.read env bs validate = .error .bdecode ∨
    Untrusted.read env bs validate = .error .metainfo := by
  rcases C08_read_total env bs validate hlen hmem with h | h | h | ⟨hv, t, e, h1, h2, h3⟩
  · exact .inl h
  · exact .inr (.inl h)
  · exact .inr (.inr h)
  · subst hv
    rcases C08_returned_validate env t (hf t h1) with h' | h'
    · rw [h'] at h2; cases h2
    · rw [h'] at h2; cases h2; exact .inr (.inr h3)

/-- `dump(validate=False)`: bytes or MetainfoError for every metainfo (non-UTF-8 keys, any types,
    any nesting) and every number of frames — no hypothesis about `validate`. -/
theorem C08_returned_dump_novalidate (env : Env) (t : Items) :
    (∃ b, dumpT env t false = .ok b) ∨ dumpT env t false = .error .metainfo :=
  dumpT_novalidate env t

/-- Nesting beyond the frames that are left is reported as MetainfoError (fix 19d011f; before it
    the RecursionError escaped: former finding D08g). -/
theorem C08_returned_dump_deep (env : Env) (t : Items)
    (hdeep : env.encFuel < 3 + encFramesKvs (Validate.ensureInfo t)) :
    dumpT env t false = .error .metainfo :=
  dumpT_deep env t hdeep

/-- non-vacuity: the witness is too deep for 8 frames and fits into the default frames -/
example : ({ envSmallMem with encFuel := 8 } : Env).encFuel < 3 + encFramesKvs (Validate.ensureInfo deepWitness) := by
  decide
example : 3 + encFramesKvs (Validate.ensureInfo deepWitness) ≤ envSmallMem.encFuel := by decide

/-- Parsing an arbitrary string as a magnet URI returns a magnet or raises MagnetError or URLError,
    whatever `urlparse`, `parse_qs`, `int()` and `is_url` answer (`parse_qs` yields no empty value
    list). -/
theorem C08_magnet_total (o : MagnetOracle) (uri : String)
    (hq : ∀ s q, o.urlparse uri = some (s, q) → QsNonempty (o.parseQs q)) :
    (∃ m, fromString o uri = .ok m) ∨ fromString o uri = .error .magnet ∨
    fromString o uri = .error .url :=
  shell_doc fun q hu => afterQs_doc (hq _ q hu)

/-- `parse_qs(query)` as `from_string` calls it (no `max_num_fields`, no `strict_parsing`) returns
    for **every** query, whatever its number of fields, separators, blank values and escapes. -/
theorem C08_parse_qs_total (pct : String → String) (qs : String) :
    parseQsE pct {} qs = .ok (parseQs pct qs) :=
  parseQsE_default pct qs

/-- What `parse_qs` returns has no empty value list, under every option: the hypothesis
    `QsNonempty` of `C08_magnet_total` is a property of the modelled function. -/
theorem C08_parse_qs_nonempty (pct : String → String) (o : QsOpts) (qs : String)
    (q : List (String × List String)) (h : parseQsE pct o qs = .ok q) : QsNonempty q :=
  parseQsE_nonempty h

/-- The number the `max_num_fields` test compares is the number of fields the loop of `parse_qsl`
    iterates over — blank fields and blank values included. -/
theorem C08_parse_qs_field_count (qs : List Char) : (fields qs).length = numFields qs :=
  fields_length qs

/-- `from_string` with the modelled `parse_qs` is `from_string` with that function as oracle. -/
theorem C08_magnet_modelled_qs (o : MagnetOracle) (pct : String → String) (uri : String)
    (hq : o.parseQs = parseQs pct) : fromStringQ o pct {} uri = fromString o uri :=
  shell_congr fun q _ => by rw [C08_parse_qs_total, hq]

/-- **`Magnet.from_string` on an arbitrary string: a magnet, MagnetError or URLError** — for every
    number of `&`-separated fields, with `parse_qs` modelled; no hypothesis
    (`C08_magnet_total`'s `QsNonempty` is discharged by `C08_parse_qs_nonempty`). -/
theorem C08_magnet_documented (o : MagnetOracle) (pct : String → String) (uri : String) :
    (∃ m, fromStringQ o pct {} uri = .ok m) ∨ fromStringQ o pct {} uri = .error .magnet ∨
    fromStringQ o pct {} uri = .error .url :=
  shell_doc fun q _ => by rw [C08_parse_qs_total]; exact afterQs_doc (parseQs_nonempty pct q)

/-- A field limit that the query does not exceed changes nothing: below the limit the result of
    `from_string` does not depend on it. -/
theorem C08_magnet_field_limit_irrelevant (o : MagnetOracle) (pct : String → String) (n : Nat)
    (strict : Bool) (uri : String)
    (hn : ∀ s q, o.urlparse uri = some (s, q) → numFields q.toList ≤ n) :
    fromStringQ o pct { maxNumFields := some n, strictParsing := strict } uri =
    fromStringQ o pct { maxNumFields := none, strictParsing := strict } uri :=
  shell_congr fun q hu => by
    have := hn _ q hu
    unfold parseQsE parseQsl
    dsimp only
    rw [if_neg (by omega)]

/-- **Any finite field limit breaks the property**: a magnet URI whose query has more fields than
    `max_num_fields` makes `parse_qs` raise a bare ValueError outside every `try` of
    `from_string`.  (Why the code must not pass `max_num_fields`; the harness generates queries
    of 0, 1, 10, 100, 999…1002 and several thousand fields.) -/
theorem C08_magnet_field_limit_raises (o : MagnetOracle) (pct : String → String) (n : Nat)
    (strict : Bool) (uri query : String) (hu : o.urlparse uri = some ("magnet", query))
    (hn : n < numFields query.toList) :
    fromStringQ o pct { maxNumFields := some n, strictParsing := strict } uri =
      .error (.internal "ValueError") := by
  refine (shell_magnet hu).trans ?_
  unfold parseQsE parseQsl
  dsimp only
  rw [if_pos hn]
  rfl

/-- non-vacuity: `'&' * n` (n ≥ 1) has n + 1 fields — 1000 ampersands exceed a limit of 1000 -/
example (n : Nat) (h : 0 < n) : n < numFields (String.ofList (List.replicate n '&')).toList := by
  rw [String.toList_ofList, numFields_replicate n h]; omega

/-- **Strict parsing breaks the property**: a field without `=` (here the whole query `xt`)
    raises ValueError. -/
theorem C08_magnet_strict_raises (o : MagnetOracle) (pct : String → String) (uri query : String)
    (hu : o.urlparse uri = some ("magnet", query))
    (hq : ∃ nv rest, fields query.toList = nv :: rest ∧ splitFirst '=' nv [] = none) :
    fromStringQ o pct { strictParsing := true } uri = .error (.internal "ValueError") := by
  obtain ⟨nv, rest, hf, hnv⟩ := hq
  refine (shell_magnet hu).trans ?_
  unfold parseQsE parseQsl
  dsimp only
  rw [hf, qslLoop_error_head pct _ nv rest [] .value (qslField_strict_noeq pct nv hnv)]
  rfl

example : ∃ nv rest, fields "xt".toList = nv :: rest ∧ splitFirst '=' nv [] = none :=
  ⟨['x', 't'], [], by decide, by decide⟩

/-- Whatever options are passed, the only thing `parse_qs` raises is ValueError. -/
theorem C08_parse_qs_raises_value (pct : String → String) (o : QsOpts) (qs : String) (r : Raise)
    (h : parseQsE pct o qs = .error r) : r = .value := by
  unfold parseQsE at h
  split at h
  · cases h; exact parseQsl_err (by assumption)
  · cases h

/-- `is_md5sum` on a `str`, over code points: exactly 32 characters `[0-9a-fA-F]`, optionally
    followed by one newline (`$` of the regular expression). -/
theorem C08_md5sum_iff (s : String) :
    Validate.isMd5sum (.str s) = true ↔
      (s.toList.take 32).length = 32 ∧ (∀ c ∈ s.toList.take 32, Validate.isHex c = true) ∧
      (s.toList.drop 32 = [] ∨ s.toList.drop 32 = ['\n']) := by
  simp [Validate.isMd5sum, List.all_eq_true, and_assoc]

/-- a character that is neither a hexadecimal digit nor a newline — every non-ASCII character,
    full-width digits, NUL — anywhere in the string makes `is_md5sum` false -/
theorem C08_md5sum_rejects (s : String) (c : Char) (hc : c ∈ s.toList)
    (hx : Validate.isHex c = false) (hn : c ≠ '\n') : Validate.isMd5sum (.str s) = false := by
  cases h : Validate.isMd5sum (.str s) with
  | false => rfl
  | true =>
    exfalso
    obtain ⟨_, hall, hrest⟩ := (C08_md5sum_iff s).1 h
    rw [← List.take_append_drop 32 s.toList] at hc
    rcases List.mem_append.1 hc with h1 | h2
    · rw [hall c h1] at hx; cases hx
    · rcases hrest with h' | h'
      · rw [h'] at h2; cases h2
      · rw [h'] at h2; simp at h2; exact hn h2

/-- no character outside ASCII is a hexadecimal digit -/
theorem C08_isHex_ascii (c : Char) (h : Validate.isHex c = true) : c.toNat < 128 := by
  simp only [Validate.isHex_toNat, Bool.or_eq_true, Bool.and_eq_true, decide_eq_true_eq] at h
  omega

/-- **the md5sum branch of `validate()`**: whatever value sits at `md5sum` — any decoded type, any
    string — the check answers "passes" or MetainfoError, nothing else … -/
theorem C08_md5sum_branch (v : PyVal) :
    Validate.checkVal md5Rule v = .ok () ∨ Validate.checkVal md5Rule v = .error .metainfo :=
  Validate.checkVal_cases _ v

/-- … and it is MetainfoError for every string with a character outside ASCII. -/
theorem C08_md5sum_branch_non_ascii (s : String) (c : Char) (hc : c ∈ s.toList) (hn : 128 ≤ c.toNat) :
    Validate.checkVal md5Rule (.str s) = .error .metainfo := by
  have hx : Validate.isHex c = false := by
    cases h : Validate.isHex c with
    | false => rfl
    | true => have := C08_isHex_ascii c h; omega
  have hnl : c ≠ '\n' := by
    intro h; subst h
    have : ('\n' : Char).toNat = 10 := rfl
    omega
  have := C08_md5sum_rejects s c hc hx hnl
  simp [Validate.checkVal, Validate.passes, md5Rule, this]
  rfl

/-- the value `validate()` hands to the check in the single-file branch is `info['md5sum']` -/
theorem C08_md5sum_single (items info : Items) (v : PyVal)
    (hi : PyVal.lookupStr "info" items = some (.dict info))
    (hv : PyVal.lookupStr "md5sum" info = some v) :
    Validate.assertType (.dict items) [.s "info", .s "md5sum"] md5Rule = Validate.checkVal md5Rule v := by
  rw [Validate.assertType_info hi, Validate.assertFinal_eq (Validate.keyFits_dict _ _),
    Validate.getItem_dict_s_some hv]

/-- … and in the multi-file branch `info['files'][i]['md5sum']` -/
theorem C08_md5sum_file (items info e : Items) (l : List PyVal) (i : Nat) (v : PyVal)
    (hi : PyVal.lookupStr "info" items = some (.dict info))
    (hf : PyVal.lookupStr "files" info = some (.list l)) (he : l[i]? = some (.dict e))
    (hv : PyVal.lookupStr "md5sum" e = some v) :
    Validate.assertType (.dict items) [.s "info", .s "files", .i i, .s "md5sum"] md5Rule =
      Validate.checkVal md5Rule v := by
  rw [Validate.assertType_entry (e := e) hi hf (by simp only [Validate.getItem, he]),
    Validate.assertFinal_eq (Validate.keyFits_dict _ _), Validate.getItem_dict_s_some hv]

/-- non-vacuity / the seeded inputs: 32 × `ä`, 31 hex digits + `é`, 32 full-width zeros are
    refused, a digest and a digest + newline pass -/
example : Validate.isMd5sum (.str (String.ofList (List.replicate 32 'ä'))) = false ∧
    Validate.isMd5sum (.str "d41d8cd98f00b204e9800998ecf8427é") = false ∧
    Validate.isMd5sum (.str (String.ofList (List.replicate 32 '０'))) = false ∧
    Validate.isMd5sum (.str "d41d8cd98f00b204e9800998ecf8427e") = true ∧
    Validate.isMd5sum (.str "d41d8cd98f00b204e9800998ecf8427e\n") = true := by
  -- the kernel decodes a string literal from UTF-8 at great cost; `String.toList_ofList` reads its characters off
  simp only [Validate.isMd5sum]
  repeat rw [String.toList_ofList]
  decide +kernel

/-- `infohash` of a torrent (in particular of every returned one): the bytes to hash or
    MetainfoError; only hypothesis `filesNotMapping t` (finding D07f), as for validate()/dump(). -/
theorem C08_returned_infohash (env : Env) (t : Items)
    (hf : Validate.filesNotMapping t = true) :
    (∃ b, infohashT env t = .ok b) ∨ infohashT env t = .error .metainfo := by
  unfold infohashT
  cases h : Validate.infoBytes env.urlOk Validate.noPath t with
  | ok b => left; exact ⟨b, rfl⟩
  | error e =>
    right
    have := C07.C07_only_metainfo_error_infohash_partial env.urlOk Validate.noPath t e
      ((Validate.outsideD07f_noPath t).trans hf) h
    subst this; rfl

/-- `is_file_length` on an `int`: `num >= 0`, for **every** integer — no float conversion, no range. -/
theorem C08_file_length_int (n : Int) : Validate.isFileLength (.int n) = decide (0 ≤ n) := rfl

/-- `is_divisible_by_16_kib` on an `int`: positive multiple of 16384, for every integer. -/
theorem C08_piece_length_int (n : Int) :
    Validate.isDivisibleBy16KiB (.int n) = (decide (0 < n) && decide (n % 16384 = 0)) := by
  unfold Validate.isDivisibleBy16KiB
  simp only [Validate.intVal]
  by_cases h : n ≤ 0
  · have : ¬ 0 < n := by omega
    simp [h, this]
  · have : 0 < n := by omega
    by_cases hm : n % 16384 = 0 <;> simp [h, this, hm]

/-- the rule `validate()` applies to `info.length` and `info.files[i].length` -/
def lengthRule : Validate.Rule := { types := Validate.isIntOrFloat, check := some Validate.isFileLength }

/-- the length branch of `validate()` answers "passes" or MetainfoError for every value … -/
theorem C08_length_branch (v : PyVal) :
    Validate.checkVal lengthRule v = .ok () ∨ Validate.checkVal lengthRule v = .error .metainfo :=
  Validate.checkVal_cases _ v

/-- … and "passes" for every non-negative integer, however large (2^1024, 10^4299, …) -/
theorem C08_length_branch_int (n : Int) (h : 0 ≤ n) : Validate.checkVal lengthRule (.int n) = .ok () := by
  simp [Validate.checkVal, Validate.passes, lengthRule, Validate.isIntOrFloat, PyVal.isInt, C08_file_length_int, h]
  rfl

/-- a single-file torrent that is well-formed apart from its three numbers: `length`, `piece length`
    and the number `k` of 20-byte piece hashes -/
def singleTmpl (len pl : Int) (k : Nat) : Validate.Items :=
  [(.str "info", .dict [(.str "length", .int len), (.str "name", .str "a"), (.str "piece length", .int pl),
                        (.str "pieces", .bytes (List.replicate (20 * k) 1))])]

/-- a multi-file torrent with two files of lengths `a` and `b` -/
def multiTmpl (a b pl : Int) (k : Nat) : Validate.Items :=
  [(.str "info", .dict [(.str "files", .list [.dict [(.str "length", .int a), (.str "path", .list [.str "x"])],
                                               .dict [(.str "length", .int b), (.str "path", .list [.str "y"])]]),
      (.str "name", .str "a"), (.str "piece length", .int pl), (.str "pieces", .bytes (List.replicate (20 * k) 1))])]

/-- **The number ladder, for all integers at once**: `validate()` of the single-file template is
    decided by exact integer arithmetic — ok iff the piece length is a positive multiple of 16384,
    there is at least one piece, the length is non-negative and the piece count is the ceiling of
    length / piece length — and MetainfoError otherwise; no magnitude (2^53, 2^63, 2^1024, 10^4299)
    plays any role. -/
theorem C08_single_numbers (urlOk : Export.Bytes → Bool) (len pl : Int) (k : Nat) :
    Validate.validate urlOk Validate.noPath (singleTmpl len pl k) =
      if 0 < pl ∧ pl % 16384 = 0 ∧ 0 < k ∧ 0 ≤ len ∧ (k : Int) = Validate.expPieces len pl then .ok ()
      else .error .metainfo := by
  -- the lookups in the template are evaluated; what is left is a chain of `checkVal`s and raises
  -- (`>>=` is unfolded to its `match` for this: `simp` then never looks at a continuation before its argument is known)
  open Validate in
  simp [Validate.validate, singleTmpl, ensureInfo, PyVal.lookupStr, getE, getItem, lookupKey, checkCommon, assertType,
    assertFinal, keyExists, checkAnnounceList, lenE, pyLen, inE, checkSingle, noPath, intVal, numVal?, bind, Except.bind,
    pure, Except.pure, throw, throwThe, MonadExceptOf.throw]
  -- … all of MetainfoError: one `need` of the conjunction of what they test (the piece-count test at the end and the
  -- right-hand side are `need`s unfolded)
  simp only [← Except.bind.eq_def, ← need.eq_def, checkVal_eq_need, raise_eq_need, need_bind, need_bind_ok]
  refine need_congr ?_
  open Validate in
  simp [passes, isStrOrBytes, PyVal.isDict, PyVal.isStr, PyVal.isBytes, PyVal.isInt, isIntOrFloat, C08_piece_length_int,
    C08_file_length_int]
  omega

/-- the same for two files: only the exact **sum** of the lengths matters (pairs whose sum crosses
    2^53, 2^63, 2^1024 or the 4300-digit limit are nothing special) -/
theorem C08_multi_numbers (urlOk : Export.Bytes → Bool) (a b pl : Int) (k : Nat) :
    Validate.validate urlOk Validate.noPath (multiTmpl a b pl k) =
      if 0 < pl ∧ pl % 16384 = 0 ∧ 0 < k ∧ 0 ≤ a ∧ 0 ≤ b ∧ (k : Int) = Validate.expPieces (a + b) pl then .ok ()
      else .error .metainfo := by
  open Validate in
  simp [Validate.validate, multiTmpl, ensureInfo, PyVal.lookupStr, getE, getItem, lookupKey, checkCommon, assertType,
    assertFinal, keyExists, checkAnnounceList, lenE, pyLen, inE, checkMulti, noPath, intVal, numVal?, iterE, pyIter,
    forEnum, checkFile, sumLengths, List.range, List.range.loop, bind, Except.bind, pure, Except.pure, throw, throwThe,
    MonadExceptOf.throw]
  simp only [← Except.bind.eq_def, ← need.eq_def, checkVal_eq_need, raise_eq_need, need_bind, need_bind_ok]
  refine need_congr ?_
  open Validate in
  simp [passes, isStrOrBytes, PyVal.isDict, PyVal.isStr, PyVal.isBytes, PyVal.isInt, isIntOrFloat, PyVal.isIterable,
    C08_piece_length_int, C08_file_length_int]
  omega

/-- a torrent whose only file is as large as the piece (`piece length` = a positive multiple of 16384
    ≥ `length` ≥ 1) validates — beyond the float range too: the seeded input `length = 2^1024` is
    *valid* with a fitting piece length, and MetainfoError with `piece length = 16384` -/
theorem C08_single_one_piece (urlOk : Export.Bytes → Bool) (len pl : Int)
    (hl : 1 ≤ len) (hp : len ≤ pl) (hm : pl % 16384 = 0) :
    Validate.validate urlOk Validate.noPath (singleTmpl len pl 1) = .ok () := by
  rw [C08_single_numbers, if_pos]
  refine ⟨by omega, hm, by omega, by omega, ?_⟩
  -- `-len // pl = -1` because `-pl ≤ -len < 0`
  have : -len / pl = -1 := (Int.ediv_eq_iff_of_pos (by omega)).mpr ⟨by omega, by omega⟩
  rw [Validate.expPieces, Int.fdiv_eq_ediv_of_nonneg _ (by omega), this]
  rfl

example : Validate.validate (fun _ => false) Validate.noPath (singleTmpl (2 ^ 1024) (16384 * 2 ^ 1020) 1) = .ok () :=
  C08_single_one_piece _ _ _ (by decide +kernel) (by decide +kernel) (by decide +kernel)

example : Validate.validate (fun _ => false) Validate.noPath (singleTmpl (2 ^ 1024) 16384 1) = .error .metainfo := by
  rw [C08_single_numbers, if_neg]
  intro ⟨_, _, _, _, h⟩
  revert h
  decide +kernel

/-- `uri.strip()`: white space, the stripped string, white space — … -/
theorem C08_strip_decomp (s : List Char) :
    ∃ w₁ w₂, (∀ c ∈ w₁, isPySpace c = true) ∧ (∀ c ∈ w₂, isPySpace c = true) ∧ s = w₁ ++ pyStrip s ++ w₂ := by
  obtain ⟨w₁, h₁, e₁⟩ := lstrip_decomp s
  obtain ⟨w₂, h₂, e₂⟩ := lstrip_decomp (lstrip s).reverse
  refine ⟨w₁, w₂.reverse, h₁, fun c hc => h₂ c (List.mem_reverse.1 hc), ?_⟩
  have : lstrip s = pyStrip s ++ w₂.reverse := by
    unfold pyStrip
    rw [← List.reverse_append, ← e₂, List.reverse_reverse]
  rw [List.append_assoc, ← this]; exact e₁

/-- … with no white space left at either end -/
theorem C08_strip_ends (s : List Char) (c : Char) :
    ((pyStrip s).head? = some c → isPySpace c = false) ∧ ((pyStrip s).getLast? = some c → isPySpace c = false) := by
  unfold pyStrip
  constructor
  · intro h
    rw [List.head?_reverse] at h
    have h' := lstrip_getLast _ c h
    rw [List.getLast?_reverse] at h'
    exact lstrip_head s c h'
  · intro h
    rw [List.getLast?_reverse] at h
    exact lstrip_head _ c h

/-- **`strip()` is linear**: the two scanning loops of CPython's `do_strip` make at most |s| + 2
    iterations together, wherever the white space sits (start, middle, end) and whatever it is. -/
theorem C08_strip_steps (s : List Char) : stripSteps s ≤ s.length + 2 :=
  stripSteps_le s

/-- `from_string` with `strip()` and `parse_qs` modelled: a magnet, MagnetError or URLError for every
    string (`C08_magnet_documented` on the stripped string). -/
theorem C08_magnet_documented_strip (o : MagnetOracle) (pct : String → String) (uri : String) :
    (∃ m, fromStringS o pct {} uri = .ok m) ∨ fromStringS o pct {} uri = .error .magnet ∨
    fromStringS o pct {} uri = .error .url :=
  C08_magnet_documented o pct _

/-- **`int()` and the digit limit**: an ASCII string with more than `lim` (= 4300) digit characters
    — leading zeros count; sign, white space and underscores do not — is refused (ValueError),
    whatever else it contains. -/
theorem C08_int_digit_limit (lim : Nat) (s : List Char) (h : lim < (s.filter isAsciiDigit).length) :
    pyIntAscii lim s = none :=
  pyIntAscii_limit lim s h

/-- non-vacuity and the corner cases of the grammar: `1_000`, signs, surrounding white space and
    leading zeros are accepted; `_1`, `1_`, `1__0`, `0x10`, `1e5`, inner spaces, the empty string
    and a lone sign are refused -/
example : pyIntAscii 4300 "1_000".toList = some 1000 ∧ pyIntAscii 4300 " -007\n".toList = some (-7) ∧
    pyIntAscii 4300 "+5".toList = some 5 ∧ pyIntAscii 4300 "_1".toList = none ∧
    pyIntAscii 4300 "1_".toList = none ∧ pyIntAscii 4300 "1__0".toList = none ∧
    pyIntAscii 4300 "0x10".toList = none ∧ pyIntAscii 4300 "1e5".toList = none ∧
    pyIntAscii 4300 "5 5".toList = none ∧ pyIntAscii 4300 "".toList = none ∧
    pyIntAscii 4300 "-".toList = none ∧ pyIntAscii 3 "0001".toList = none ∧
    pyIntAscii 3 "0_0_1".toList = some 1 := by
  repeat rw [String.toList_ofList]
  decide +kernel

/-- the `xl` setter: a length or MagnetError, whatever `int()` answers … -/
theorem C08_xl_documented (o : MagnetOracle) (v : String) :
    (∃ n, setXl o v = .ok n) ∨ setXl o v = .error .magnet := by
  cases h : setXl o v with
  | ok n => left; exact ⟨n, rfl⟩
  | error e => right; rw [setXl_err h]

/-- … and MagnetError for every ASCII value with more than 4300 digits (the ValueError of the digit
    limit is caught by the setter) -/
theorem C08_xl_digit_limit (o : MagnetOracle) (oracle : String → Option Int) (v : String)
    (ho : o.intOf = intOfM 4300 oracle) (ha : isAsciiStr v.toList = true)
    (h : 4300 < (v.toList.filter isAsciiDigit).length) : setXl o v = .error .magnet := by
  unfold setXl
  rw [ho]
  unfold intOfM
  rw [if_pos ha, C08_int_digit_limit 4300 _ h]

/-- **A `creation date` that is not a bencoded integer is never converted**: any byte string — a
    string of digits of any length included — list or dict is MetainfoError when it is truthy and
    "no creation date" when it is empty.  (The creation-date setter only converts `int`/`float`;
    `read_stream` passes the raw decoded value.) -/
theorem C08_creation_date_not_int (env : Env) (enc : List (Bytes × BVal)) (md : Items) (v : BVal)
    (hv : lookup ReadStream.kCreationDate enc = some v) (hni : ∀ i, v ≠ .int i) :
    creationDateStep env enc md =
      if ReadStream.truthy v then .error .metainfo
      else .ok (Codec.popStr "creation date" (ReadStream.ensureInfo md)) := by
  have hs : setCreationDateU env v md =
      if ReadStream.truthy v then .error .value else .ok (Codec.popStr "creation date" (ReadStream.ensureInfo md)) := by
    cases v with
    | int i => exact absurd rfl (hni i)
    | _ => rfl
  unfold creationDateStep
  rw [hv]
  dsimp only
  rw [hs]
  cases ReadStream.truthy v <;> rfl

/-- **Every exact topic outside the `btih` namespace is MagnetError**: a value that is neither a
    bare 40-hex / 32-base32 info hash nor starts with `urn:btih:` (any ASCII case) — `urn:btmh:…`
    (BitTorrent v2 multihash), `urn:sha1:`, `urn:ed2k:`, `urn:tree:tiger:`, `urn:md5:`, `urn:aich:`,
    `urn:kzhash:`, `urn:bitprint:` … -/
theorem C08_xt_foreign (v : String) (h1 : matchesInfohash v.toList = false)
    (h2 : prefixCI "urn:btih:".toList v.toList = none) : setXt v = .error .magnet := by
  unfold setXt
  rw [h1]
  simp only [Bool.false_eq_true, if_false]
  rw [h2]

example : matchesInfohash "urn:btmh:1220caf1e1c30e81cb361b9ee167c4aa64228a7fa4fa9f6105232b28ad099f3a302e".toList = false ∧
    prefixCI "urn:btih:".toList "urn:btmh:1220caf1e1c30e81cb361b9ee167c4aa64228a7fa4fa9f6105232b28ad099f3a302e".toList = none ∧
    prefixCI "urn:btih:".toList "urn:sha1:YNCKHTQCWBTRNJIV4WNAE52SJUQCZO5C".toList = none ∧
    prefixCI "urn:btih:".toList "URN:ED2K:354b15e68fb8f36d7cd88ff94116cdc1".toList = none := by
  repeat rw [String.toList_ofList]
  decide +kernel

/-- **Several exact topics are MagnetError, whatever they are** — v1 + v2 (hybrid), v2 + v2, any
    order, any multiplicity ≥ 2: the multiplicity test comes before any topic is looked at … -/
theorem C08_xt_multiple (o : MagnetOracle) (q : List (String × List String)) (xts : List String)
    (h : qlookup "xt" q = some xts) (hl : 1 < xts.length) : withXt o q = .error .magnet := by
  unfold withXt
  rw [h]
  dsimp only
  rw [if_pos hl]

/-- … and a single topic outside `btih` is MagnetError before any other parameter is looked at
    (a v2-only link): never an index or key error. -/
theorem C08_xt_single_foreign (o : MagnetOracle) (q : List (String × List String)) (xt : String)
    (h : qlookup "xt" q = some [xt]) (h1 : matchesInfohash xt.toList = false)
    (h2 : prefixCI "urn:btih:".toList xt.toList = none) : withXt o q = .error .magnet := by
  unfold withXt
  rw [h]
  dsimp only
  rw [if_neg (by simp), C08_xt_foreign xt h1 h2]

/-- **Where the unchanged code reads what**: `from_string` reads only the eager fields `scheme` and
    `query` outside its `try`; `is_url` reads the lazily validated `port` inside `try … except
    Exception`.  No read that can raise sits outside a `try`. -/
theorem C08_attr_reads_safe : readsSafe fromStringReads = true ∧ readsSafe isUrlReads = true := by decide

/-- no additional read ⇒ `fromStringA` is `from_string` -/
theorem C08_magnet_no_extra_reads (o : MagnetOracle) (pct : String → String) (raises : UrlAttr → Bool)
    (uri : String) : fromStringA o pct raises [] uri = fromStringS o pct {} uri :=
  -- the continuation runs the shell again, on the same string
  shell_congr fun _ hu => shell_magnet hu

theorem firstRaise_append (raises : UrlAttr → Bool) (l : List UrlAttr) : ∀ (before : List UrlAttr),
    (∀ a ∈ before, raises a = false) → firstRaise raises (before ++ l) = firstRaise raises l := by
  intro before
  induction before with
  | nil => intro _; rfl
  | cons a rest ih =>
    intro h
    simp only [List.cons_append, firstRaise]
    rw [h a (List.mem_cons_self ..)]
    exact ih (fun b hb => h b (List.mem_cons_of_mem _ hb))

/-- Additional reads of attributes that do not raise for this URI — in particular of every eager
    field, `hostname`, `username`, `password` when only `port` is validated lazily — leave the
    documented behaviour: a magnet, MagnetError or URLError. -/
theorem C08_magnet_reads_documented (o : MagnetOracle) (pct : String → String) (raises : UrlAttr → Bool)
    (extra : List UrlAttr) (uri : String) (h : ∀ a ∈ extra, raises a = false) :
    (∃ m, fromStringA o pct raises extra uri = .ok m) ∨ fromStringA o pct raises extra uri = .error .magnet ∨
    fromStringA o pct raises extra uri = .error .url := by
  refine shell_doc fun _ _ => ?_
  rw [← List.append_nil extra, firstRaise_append raises [] extra h]
  exact C08_magnet_documented_strip o pct uri

/-- **A read of `port` after the scheme test and outside the `try` breaks the property**: for every
    URI with scheme `magnet` whose port is invalid (`magnet://:99999/?xt=…`) a bare ValueError
    escapes, whatever else is read before it without raising. -/
theorem C08_magnet_port_read_raises (o : MagnetOracle) (pct : String → String) (raises : UrlAttr → Bool)
    (before after : List UrlAttr) (uri query : String)
    (hu : o.urlparse (String.ofList (pyStrip uri.toList)) = some ("magnet", query))
    (hb : ∀ a ∈ before, raises a = false) (hp : raises .port = true) :
    fromStringA o pct raises (before ++ .port :: after) uri = .error (.internal "ValueError") := by
  refine (shell_magnet hu).trans ?_
  rw [firstRaise_append raises _ before hb, firstRaise, if_pos hp]

/-- The decoder is linear: one unit per input byte, per iteration of the outer loop and per
    iteration of the inner pop loop add up to at most 3·|bs| + 2. -/
theorem C08_read_steps (lim : Nat) (bs : Bytes) : parseSteps lim bs ≤ 3 * bs.length + 2 := by
  unfold parseSteps
  have := runSteps_le lim (bs.length + 1) bs []
  simp only [List.length_nil] at this
  omega

end Torf.C08
