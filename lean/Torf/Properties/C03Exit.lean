/-
  C03 — hashing always terminates and leaves no worker thread running: the exit paths.

  `Model/PipelineExit.lean` extends the transition system of `Properties/C03.lean` by what the
  reader thread does on its way out (the `finally` block of `Reader._push_pieces`: queue the
  end-of-stream marker, *then* close the stream, whose `close()` may fail; the exception of a
  failing OS call — read, seek, close of an evicted file — stored for `join()`) and by the windows
  in which the calling thread can fail outside `Collector.collect()`.  The theorems here say that
  the shutdown protocol does not depend on how the reader left its loop nor on whether closing
  the stream fails:

  * `C03_exit_base_run`: every run of the extended system is a run of the base system (same
    labels), so every invariant of C03/C04 holds of its base component (`C03_exit_conservation`,
    `C03_exit_no_internal` as instances);
  * `C03_exit_sentinel`, `C03_exit_sentinel_visible`: the reader thread has ended iff it has queued
    exactly one end-of-stream marker, the stream is closed only after that, and the marker stays
    where a hasher will find it;
  * `C03_exit_threads_done`, `C03_exit_stuck_is_terminal`, `C03_exit_termination`: with a failing
    `close()` (and any other fault plan without refused starts) the call returns or raises with no
    worker thread left, cannot get stuck before, and every weakly fair execution is finite.
  Proofs: `Lemmas/PipelineExit.lean` (projection, lifting, `InvX`), `Lemmas/PipelineExitFair.lean`.
-/
import Torf.Properties.C03
import Torf.Lemmas.PipelineExitFair
namespace Torf.C03
open Torf.Pipeline Torf.PipelineExit

/-- Every run of the pipeline with exit paths is, on its base component, a run of the pipeline of
    `Properties/C03.lean` with the same label sequence: failing `close()` calls, the class of the
    reader's exception and a failure of the calling thread change no queue, event or thread
    operation of any other thread. -/
theorem C03_exit_base_run {c : CfgE} {ls : List Label} {x : StateE}
    (h : runE c (initE c) ls = some x) : run c.base (init c.base) ls = some x.base :=
  runE_base h

/-- no piece is lost or duplicated on any exit path -/
theorem C03_exit_conservation {c : CfgE} {x : StateE} (h : ReachableE c x) :
    Conserved x.base = true :=
  C03_conservation h.base

/-- no internal error on any exit path -/
theorem C03_exit_no_internal {c : CfgE} {x : StateE} (h : ReachableE c x) :
    noInternalError x.base = true :=
  C03_no_internal h.base

/-- The reader thread cannot end — at the end of the stream, after a stop request, after a failing
    read/seek or a failing close of an evicted file, with or without a failing `stream.close()` in
    its `finally` block — without having queued the end-of-stream marker, exactly once; it queues
    none before, and the stream is closed only after the marker is queued.  (Every configuration,
    every schedule.) -/
theorem C03_exit_sentinel {c : CfgE} {x : StateE} (h : ReachableE c x) :
    (x.base.rpc = .done → x.sentinels = 1 ∧ x.closed = true) ∧
    (x.base.rpc ≠ .done → x.sentinels = 0 ∧ x.closed = false) := by
  have hx := InvX.of_reachable h
  constructor
  · intro hd; simp [hx.sent, hx.closed, hd]
  · intro hd; simp [hx.sent, hx.closed, hd]

/-- … and the marker is not lost: once the reader thread has ended, the marker is in the piece queue
    or in the hands of the one hasher that is about to put it back; before that no hasher has seen
    one and the finalize event is not set. -/
theorem C03_exit_sentinel_visible {c : CfgE} {x : StateE} (hrf : c.base.refuse = [])
    (h : ReachableE c x) :
    (x.sentinels = 1 → none ∈ x.base.pq ∨ ∃ i : Nat, x.base.hs[i]? = some HPc.requeue) ∧
    (x.sentinels = 0 → none ∉ x.base.pq ∧ x.base.fin = false) := by
  have hb := (Inv.of_reachable hrf h.base).b2
  -- the count of markers says whether the reader is done
  rw [(InvX.of_reachable h).sent]
  by_cases hd : x.base.rpc = .done <;> simp only [hd, ↓reduceIte]
  · exact ⟨fun _ => hb.e2 hd, nofun⟩
  · exact ⟨nofun, fun _ => ⟨hb.e1pq hd, hb.e1fin hd⟩⟩

/-- When `generate()`/`verify()` returns or raises, no worker thread is left running — also when
    closing the stream fails, whatever made the reader leave its loop. -/
theorem C03_exit_threads_done {c : CfgE} {x : StateE} (hwf : wf c.base = true)
    (hrf : c.base.refuse = []) (hmf : c.mainFail = none) (h : ReachableE c x)
    (ht : terminalE x = true) : allThreadsDone x.base = true :=
  C03_threads_done hwf hrf h.base (terminal_of_terminalE hmf h ht)

/-- Deadlock freedom on the exit paths: a reachable state in which no thread can take a step is a
    state in which the call has returned or raised. -/
theorem C03_exit_stuck_is_terminal {c : CfgE} {x : StateE} (hwf : wf c.base = true)
    (hrf : c.base.refuse = []) (hmf : c.mainFail = none) (h : ReachableE c x)
    (hstuck : ∀ l, stepE c x l = none) : terminalE x = true := by
  have hf := failed_none hmf h
  have hb : terminal x.base = true := by
    refine C03_stuck_is_terminal hwf hrf h.base fun l => ?_
    cases hs : step c.base x.base l with
    | none => rfl
    | some b =>
      obtain ⟨x', hx', _⟩ := stepE_lift (.inl hf) hs
      rw [hstuck l] at hx'
      simp at hx'
  simp [terminalE, hb]

/-- Termination on the exit paths: no infinite execution under a weakly fair scheduler, with a
    failing `close()` and any other fault plan (no refused start). -/
theorem C03_exit_termination {c : CfgE} (hwf : wf c.base = true) (hrf : c.base.refuse = [])
    (hmf : c.mainFail = none) (e : ExecE c) : ¬ e.Fair :=
  fun hf => e.not_fair hwf hrf hmf hf

/-! ### the hypotheses are satisfiable: a run whose `close()` fails -/

/-- one hasher, capacity 1, one data piece, `stream.close()` fails -/
private def cfgClose : CfgE :=
  { base := { N := 1, cap := 1, items := [.data], readFault := none, refuse := [], raiseOnBad := false,
              cb := fun _ _ => .pass },
    closeFault := true }

private def schedClose : List Label :=
  [lM, lM, lM, lM, lM, lM, lR, lR, lH, lH, lR, lH, lH, lH, lH, lJ, lJ, lJ, lJ, lM, lM, lM, lM, lM]

private def afterE (c : CfgE) (ls : List Label) : StateE := (runE c (initE c) ls).getD (initE c)

private theorem reachE_after {c : CfgE} {ls : List Label}
    (h : (runE c (initE c) ls).isSome = true) : ReachableE c (afterE c ls) :=
  .of_isSome h

/-- the reader has ended (marker queued, stream closed, `close()` failed) while main is still
    collecting … -/
example : ReachableE cfgClose (afterE cfgClose (schedClose.take 11)) ∧
    (afterE cfgClose (schedClose.take 11)).base.rpc = .done ∧
    (afterE cfgClose (schedClose.take 11)).sentinels = 1 ∧
    (afterE cfgClose (schedClose.take 11)).closed = true ∧
    (afterE cfgClose (schedClose.take 11)).rexcKind = some .osError ∧
    terminalE (afterE cfgClose (schedClose.take 11)) = false :=
  ⟨reachE_after (by decide +kernel), by decide +kernel⟩

/-- … and the complete run ends with every thread done and the `close()` error as the result -/
example : wf cfgClose.base = true ∧ cfgClose.base.refuse = [] ∧ cfgClose.mainFail = none ∧
    ReachableE cfgClose (afterE cfgClose schedClose) ∧ terminalE (afterE cfgClose schedClose) = true ∧
    allThreadsDone (afterE cfgClose schedClose).base = true ∧
    resultE? (afterE cfgClose schedClose) = some (.readerExc .osError) :=
  ⟨by decide, rfl, rfl, reachE_after (by decide +kernel), by decide +kernel⟩

end Torf.C03
