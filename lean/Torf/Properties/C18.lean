/-
  C18 — reusing hashes from another torrent is sound, complete and atomic.
  Property theorems only (helper lemmas: Torf.Lemmas.Reuse).

  Reading guide: `reuse t items cb elapsed : Res × Tor × List Call` is the code-shaped model of
  `Torrent.reuse` (Torf.Model.Reuse): `items` = what `find_torrent_files` yields for the searched
  paths, in order, each `*.torrent` file with the outcome of `Torrent.read` and — for a readable
  candidate — `loc i` = what hashing piece `i` of *that candidate's* geometry from the local
  content gives; `.1` = result / raised error, `.2.1` = the torrent afterwards, `.2.2` = the
  callback trace.
-/
import Torf.Lemmas.Reuse
namespace Torf.C18
open Torf Torf.Reuse

/-- **Soundness.** If `reuse` returns `True`, some candidate `c` of the searched items was
    accepted, and for it: the names are equal; the lists of (relative path joined with the
    separator, size) are permutations of each other (= same set, as the paths are distinct);
    its piece length lies within the torrent's bounds; and for every file of the torrent —
    located in the candidate's layout at stream offset `pos` — the local content has exactly the
    candidate's hash in every sampled piece `fileSamples pl pos size`, which by
    `C18_samples_first_middle_last` are the first, the middle and the last piece of that file.
    The torrent afterwards is `copy c t`. -/
theorem C18_sound (t : Tor) (items : List Item) (cb : Callback) (elapsed : Bool)
    (h : (reuse t items cb elapsed).1 = .ok true) :
    ∃ c loc, Item.file (.torrent c) loc ∈ items ∧ copy c t = .ok (reuse t items cb elapsed).2.1 ∧
      t.name = c.name ∧
      (∃ tid cid, filepathsAndSizes t.name t.single t.files = .ok tid ∧
        filepathsAndSizes c.name c.single c.files c.bytesPath = .ok cid ∧ tid.Perm cid) ∧
      t.plMin ≤ c.pieceLength ∧ c.pieceLength ≤ t.plMax ∧
      ∀ f ∈ t.files, ∃ pos, filePosition c.name f c.files 0 = some pos ∧
        ∀ i ∈ fileSamples c.pieceLength pos f.size, ∃ d, c.hashes[i]? = some d ∧ loc i = .hash d := by
  rcases (reuse_ends t items cb elapsed).cases with ⟨hne, _⟩ | ⟨_, c, loc, hmem, hfm, hcm, hcopy⟩
  · exact absurd h hne
  · obtain ⟨hname, hperm, hmin, hmax⟩ := (isFileMatch_iff t c).mp hfm
    exact ⟨c, loc, hmem, hcopy, hname, hperm, hmin, hmax, isContentMatch_true hcm⟩

/-- The sampled pieces of a non-empty file at stream offset `pos` are: its first piece
    `a = pos / pl`, its last piece `b = (pos + size - 1) / pl`, and the middle one
    `a + (b - a + 1) / 2` — an *absolute* piece index inside `a … b` (the repaired D18a). -/
theorem C18_samples_first_middle_last (pl pos size : Nat) (hs : 0 < size) :
    fileSamples pl pos size =
      [pos / pl, pos / pl + ((pos + size - 1) / pl - pos / pl + 1) / 2, (pos + size - 1) / pl] ∧
    pos / pl ≤ pos / pl + ((pos + size - 1) / pl - pos / pl + 1) / 2 ∧
    pos / pl + ((pos + size - 1) / pl - pos / pl + 1) / 2 ≤ (pos + size - 1) / pl := by
  refine ⟨?_, Nat.le_add_right _ _, ?_⟩
  · rw [fileSamples_eq pl pos size hs]
    exact if_neg (Nat.ne_of_gt hs)
  · rw [← Nat.add_sub_cancel' (firstPiece_le_last pl pos hs), Nat.add_sub_cancel_left]
    exact Nat.add_le_add_left (Nat.le_of_lt_succ (Nat.div_lt_self (Nat.succ_pos _) (by decide))) _

/-- … and the offset at which a file of the torrent is located in the candidate is the sum of
    the sizes of the candidate's entries before the first entry with the same path and size. -/
theorem C18_sample_position (name : String) (f : FileEnt) (files : List FileEnt) (pos : Nat)
    (h : filePosition name f files 0 = some pos) :
    ∃ pre g post, files = pre ++ g :: post ∧ joined name g = joined name f ∧ g.size = f.size ∧
      pos = (pre.map (·.size)).sum := by
  obtain ⟨pre, g, post, h1, h2, h3, h4, _⟩ := (filePosition_cases name f files 0).1 pos h
  exact ⟨pre, g, post, h1, h2, h3, by omega⟩

/-- **After acceptance** the torrent carries the candidate's piece length, its hashes and (for a
    multi-file candidate) its file list in its order — which is a permutation of the torrent's
    former list; name and settings are untouched; and, again for a multi-file candidate, the
    layout-level validity conditions of `validate()` hold for the torrent iff they hold for the
    candidate (which `Torrent.read` validated). -/
theorem C18_after (t : Tor) (items : List Item) (cb : Callback) (elapsed : Bool)
    (h : (reuse t items cb elapsed).1 = .ok true) :
    ∃ c loc, Item.file (.torrent c) loc ∈ items ∧
      let t' := (reuse t items cb elapsed).2.1
      t'.pieceLength = c.pieceLength ∧ t'.pieces = some c.hashes ∧
      (c.single = false → t'.files = c.files ∧ t.files.Perm c.files) ∧
      (c.single = true → t'.files = t.files) ∧
      t'.name = t.name ∧ t'.single = t.single ∧ t'.plMin = t.plMin ∧ t'.plMax = t.plMax ∧
      (c.single = false →
        validCore t'.pieceLength t'.files c.hashes = validCore c.pieceLength c.files c.hashes) := by
  obtain ⟨c, loc, hmem, hcopy, _⟩ := C18_sound t items cb elapsed h
  refine ⟨c, loc, hmem, ?_⟩
  obtain ⟨h1, h2, h3, h4, h5, h6, h7, h8⟩ := copy_ok hcopy
  refine ⟨h1, h2, h3, h4, h5, h6, h7, h8, ?_⟩
  intro hs
  rw [h1, (h3 hs).1]

/-- **Atomicity.** Whatever happens — `False`, any raised error (unreadable / undecodable /
    invalid torrent file without callback, a size or read error from the content check, the
    assertion of `copy`), cancellation by the callback at any call — if the result is not `True`
    the torrent is exactly what it was. -/
theorem C18_atomic (t : Tor) (items : List Item) (cb : Callback) (elapsed : Bool)
    (h : (reuse t items cb elapsed).1 ≠ .ok true) : (reuse t items cb elapsed).2.1 = t := by
  rcases (reuse_ends t items cb elapsed).cases with ⟨_, heq⟩ | ⟨htrue, _⟩
  · exact heq
  · exact absurd htrue h

/-- **Completeness.** If the searched items contain a candidate that passes the file match, whose
    hashes the local content meets at every sampled piece, and that `copy` takes (same file
    entries), and no item before it raises — i.e. every earlier unreadable / undecodable /
    invalid torrent file or bad path meets a callback (with a callback errors are reported and the
    search goes on; without one such an item raises its error instead), and every earlier
    candidate gets through its tests without an exception — then with no callback or one that
    never cancels, `reuse` returns `True`. -/
theorem C18_complete (t : Tor) (cb : Callback) (elapsed : Bool)
    (hp : ∀ g, cb = some g → ∀ call, g call = false)
    (pre : List Item) (c : Cand) (loc : Nat → LocalPiece) (post : List Item)
    (hpre : ∀ it ∈ pre, NoRaise t cb it)
    (hfm : isFileMatch t c = .ok true)
    (s : List Nat) (hs : samples t c = .ok s)
    (hloc : ∀ i ∈ s, ∃ d, c.hashes[i]? = some d ∧ loc i = .hash d)
    (hcopy : ∃ t', copy c t = .ok t') :
    (reuse t (pre ++ .file (.torrent c) loc :: post) cb elapsed).1 = .ok true := by
  obtain ⟨t', hcopy⟩ := hcopy
  exact Ends.complete hp hpre ⟨hfm, (isContentMatch_iff hs).mpr hloc, hcopy⟩ (reuse_ends ..)

/-- … and without a callback the first unreadable / undecodable / invalid torrent file (or bad
    search path) that is reached raises its documented error. -/
theorem C18_error_raised_without_callback (t : Tor) (elapsed : Bool) (it : Item) (rest : List Item)
    (e : Err) (he : readItem it = .error e) :
    (reuse t (it :: rest) none elapsed).1 = .raised e ∧
    (e = .read ∨ e = .bdecode ∨ e = .metainfo) := by
  unfold reuse loop
  simp only [he, maybeCall]
  exact ⟨trivial, readItem_error he⟩

/-- two files of 3 and 2 pieces in the candidate's geometry (piece length 4 for readability), which
    lists them in another order -/
def exT : Tor := ⟨"N", false, [⟨["a"], 10⟩, ⟨["b"], 6⟩], 8, none, 1, 64⟩
def exC : Cand := ⟨"N", false, [⟨["b"], 6⟩, ⟨["a"], 10⟩], 4, ["h0", "h1", "h2", "h3"], false⟩
def exLoc : Nat → LocalPiece := fun i => .hash s!"h{i}"
/-- same shape, but piece 2 differs locally -/
def exLocBad : Nat → LocalPiece := fun i => if i = 2 then .hash "other" else .hash s!"h{i}"

example : (reuse exT [.file .invalid exLoc, .file (.torrent exC) exLoc] (some fun _ => false) true).1
    = .ok true := by decide +kernel
example : (reuse exT [.file .invalid exLoc, .file (.torrent exC) exLoc] (some fun _ => false) true).2.1
    = { exT with pieces := some exC.hashes, pieceLength := 4, files := exC.files } := by decide +kernel
example : (reuse exT [.file .invalid exLoc, .file (.torrent exC) exLoc] none true)
    = (.raised .metainfo, exT, []) := by decide +kernel
example : (reuse exT [.file (.torrent exC) exLocBad] none true) = (.ok false, exT, []) := by decide +kernel
example : isFileMatch exT exC = .ok true := by rfl
example : samples exT exC = .ok [1, 2, 3, 0, 1, 1] := by rfl
example : NoRaise exT (some fun _ => false) (.file .invalid exLoc) := by simp [NoRaise]

end Torf.C18
