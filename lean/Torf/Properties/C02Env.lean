/-
  C02 — content verification is exact, in its environment: the spelling of the content path and
  the file descriptors the process may still open.  Property theorems only (helper lemmas live in
  Torf.Lemmas.VerifySpelling / Torf.Lemmas.VerifyEnv).

  * `C02_path_spelling`          the outcome depends on the directory (inode, with the chain of
                                 real parents) the operating system resolves the given spelling
                                 to, not on its text: two spellings that resolve to the same
                                 directory give the same verdict and the same calls
  * `C02_spelling_iff`           … and the iff of C02 is the iff about the tree found there
  * `C02_normpath_unsound`       lexical normalisation (`os.path.normpath`, hence `abspath`) of
                                 the spelling is not resolution: with a directory symlink followed
                                 by `..` the normalised path names another tree — intact content
                                 fails, damaged content passes
  * `C02_descriptor_headroom`    with at least `max_open_files + 1` descriptors free when the call
                                 starts, no `open()` fails for lack of a descriptor: the call is
                                 `verifyCall` (all C02 theorems), however many files are listed
  * `C02_descriptor_table_bound` the handle table of the call never exceeds `max_open_files + 1`
                                 (`Handles.evict`, the table of C19: `C19_open_bound`)
  * `C02_descriptor_exhaustion`  what happens below that: with a cap larger than the number of
                                 free descriptors intact content fails with ReadError(EMFILE)
-/
import Torf.Properties.C02Call
import Torf.Lemmas.VerifySpelling
import Torf.Lemmas.VerifyEnv
namespace Torf.C02
open Torf Torf.Missing Torf.Verify Torf.VerifyFs Torf.VerifyCall Torf.VerifySpelling Torf.VerifyEnv
open Torf.Reuse (World Node resolve isdir)
open Torf.Paths (PPath normpath)

variable {α δ : Type} [Inhabited α] [DecidableEq δ]

/-- **The spelling does not matter, the place does.**  Two spellings of the content path —
    absolute or relative, with `.`, `..`, doubled or trailing slashes, through symbolic links —
    that the operating system resolves to the same directory (`st`: the directory reached and the
    chain of its real parents) give the same outcome of `verify()`: same result, same calls.
    (Multi-file torrent; no symbolic link *below* the top directory on the way to a listed file —
    then the number of links the OS is still willing to follow does not matter.  For a single-file
    torrent: two spellings with the same resolution.) -/
theorem C02_path_spelling (H : List α → δ) (L : Nat) (sizes : List Nat) (e : Env α)
    (names : List (List String)) (stored : List δ) (hasCb : Bool) (p p' : PPath)
    (tpath : Option String) (interval : Int) (clock : List Int) :
    (∀ st, resolve e.w p = .ok (.dir st) → resolve e.w p' = .ok (.dir st) →
      (∀ n ∈ names, NoLinkBelow e.w.fs st n) →
      verifySpelled H L sizes e names stored hasCb false p tpath interval clock =
        verifySpelled H L sizes e names stored hasCb false p' tpath interval clock) ∧
    (resolve e.w p = resolve e.w p' →
      verifySpelled H L sizes e names stored hasCb true p tpath interval clock =
        verifySpelled H L sizes e names stored hasCb true p' tpath interval clock) := by
  constructor
  · intro st hp hp' hnl
    unfold verifySpelled
    have hd : isdir e.w p = isdir e.w p' := by unfold isdir; rw [hp, hp']
    have hfd : fdOf e false p names = fdOf e false p' names := by
      unfold fdOf
      simp only [Bool.false_eq_true, if_false]
      apply List.map_congr_left
      intro n hn
      exact stateOf_join e p p' st n hp hp' (hnl n hn)
    rw [hd, hfd]
  · intro h
    unfold verifySpelled
    have hd : isdir e.w p = isdir e.w p' := by unfold isdir; rw [h]
    have hfd : fdOf e true p names = fdOf e true p' names := by
      unfold fdOf stateOf
      simp only [if_true, h]
    rw [hd, hfd]

/-- **Exactness at the place the spelling names.**  Without a callback `verify(p)` returns `True`
    iff every listed file, looked up by the operating system below the spelling `p` as given, is a
    regular readable file of the recorded size with the recorded digests. -/
theorem C02_spelling_iff (H : List α → δ) (L : Nat) (hL : 0 < L) (sizes : List Nat) (e : Env α)
    (names : List (List String)) (stored : List δ) (single : Bool) (p : PPath)
    (hp : ProperPath single (isdir e.w p)) (tpath : Option String) (interval : Int)
    (clock : List Int) :
    (verifySpelled H L sizes e names stored false single p tpath interval clock).1 = .ok true ↔
      SpecOkFs H L sizes (fdOf e single p names) stored = true := by
  unfold verifySpelled
  exact C02_call_iff H L hL sizes _ stored single _ hp tpath interval clock

/-- `/a/link → /b/t`; a tree at `/a/content` (the textual neighbour of the link) and a tree at
    `/b/content` (the real neighbour of the link's target) -/
def spFS : Reuse.FS := [
  .dir true true [("a", 1), ("b", 2)],                  -- 0  /
  .dir true true [("link", 3), ("content", 4)],         -- 1  /a
  .dir true true [("t", 5), ("content", 6)],            -- 2  /b
  .link ⟨true, ["b", "t"]⟩,                             -- 3  /a/link
  .dir true true [("f", 7)],                            -- 4  /a/content
  .dir true true [],                                    -- 5  /b/t
  .dir true true [("f", 8)],                            -- 6  /b/content
  .file 2 true 1,                                       -- 7  /a/content/f
  .file 2 true 0 ]                                      -- 8  /b/content/f

def spWorld : World := ⟨spFS, [], 1000, fun _ => (.undecodable, fun _ => .missing)⟩
/-- content 0 is what the torrent records, content 1 has a changed byte -/
def spEnv (swap : Bool) : Env Nat :=
  ⟨spWorld, fun c => if (c == 0) != swap then [1, 2] else [1, 9], 40⟩
def spSpelling : PPath := ⟨true, ["a", "link", "..", "content"]⟩

/-- **`normpath` is unsound.**  `/a/link/../content` is `/b/content` (the OS takes `..` in the
    directory the link leads to), `normpath` makes `/a/content` of it.  If the tree the caller
    named is intact and the one at the collapsed location is damaged, verifying the normalised
    path fails although the content is as recorded; the other way round damaged content passes. -/
theorem C02_normpath_unsound :
    resolve spWorld spSpelling = .ok (.dir [6, 2]) ∧
    normpath true spSpelling.comps = ["a", "content"] ∧
    resolve spWorld ⟨true, normpath true spSpelling.comps⟩ = .ok (.dir [4, 1]) ∧
    (verifySpelled (fun x : List Nat => x) 2 [2] (spEnv false) [["f"]] [[1, 2]] false false
      spSpelling none 0 []).1 = .ok true ∧
    (verifySpelled (fun x : List Nat => x) 2 [2] (spEnv false) [["f"]] [[1, 2]] false false
      ⟨true, normpath true spSpelling.comps⟩ none 0 []).1 = .error (.content 0 [0]) ∧
    (verifySpelled (fun x : List Nat => x) 2 [2] (spEnv true) [["f"]] [[1, 2]] false false
      spSpelling none 0 []).1 = .error (.content 0 [0]) ∧
    (verifySpelled (fun x : List Nat => x) 2 [2] (spEnv true) [["f"]] [[1, 2]] false false
      ⟨true, normpath true spSpelling.comps⟩ none 0 []).1 = .ok true := by
  refine ⟨rfl, by decide, rfl, by decide, by decide, by decide, by decide⟩

/-! non-vacuity of `C02_path_spelling`: `/b//content/.` and `/a/link/../content` resolve to the
    same directory, below which no link lies -/
example : resolve spWorld ⟨true, ["b", "", "content", "."]⟩ = .ok (.dir [6, 2]) ∧
    resolve spWorld spSpelling = .ok (.dir [6, 2]) := ⟨rfl, rfl⟩
example : ∀ n ∈ [["f"]], NoLinkBelow spFS [6, 2] n := by
  intro n hn s t r
  simp only [List.mem_singleton] at hn
  subst hn
  have : Reuse.walk1 spFS [6, 2] ["f"] = .done (.file 8) := rfl
  rw [this]
  intro h
  cases h

/-- **Descriptor headroom.**  If at least `cap + 1` descriptors are free when the call starts
    (`cap` = `max_open_files`), no `open()` of the call fails with EMFILE: the call is exactly
    `verifyCall` — the iff and all report theorems hold — however many files the torrent lists.
    (The unchanged code needs no further descriptor: measured by the harness, `cap + 1 = 11`
    free descriptors suffice for 300 listed files, 10 do not.) -/
theorem C02_descriptor_headroom (H : List α → δ) (L : Nat) (sizes : List Nat)
    (fd : List (FState α)) (stored : List δ) (hasCb single pathIsDir : Bool)
    (tpath : Option String) (interval : Int) (clock : List Int) (cap free : Nat)
    (hfree : cap + 1 ≤ free) :
    verifyEnv H L sizes fd stored hasCb single pathIsDir tpath interval clock cap free =
      verifyCall H L sizes fd stored hasCb single pathIsDir tpath interval clock ∧
    effective single tpath cap free L sizes fd = fd := by
  unfold verifyEnv effective finalR
  obtain ⟨h1, h2⟩ := foldR_headroom single tpath cap free hfree L sizes
    (List.range sizes.length) { eff := fd }
  rw [h1, h2, verifyCall_eq_ofRun]
  exact ⟨rfl, rfl⟩

/-- **The handle table is bounded.**  Along the whole loop the table of open handles holds at most
    `cap + 1` entries (this is `Handles.evict`, the table of property C19 — `C19_open_bound`),
    whatever the number of listed files and of free descriptors. -/
theorem C02_descriptor_table_bound (single : Bool) (tpath : Option String) (cap free : Nat)
    (L : Nat) (sizes : List Nat) (fd : List (FState α)) :
    (finalR single tpath cap free L sizes fd).tbl.length ≤ cap + 1 := by
  unfold finalR
  exact List.foldlRecOn (motive := fun s : StR α => s.tbl.length ≤ cap + 1) _ _ (Nat.zero_le _)
    fun s h j _ => stepR_tbl_le single tpath cap free L sizes s j h

/-- **Below the headroom.**  Three intact one-byte files, two free descriptors: with the committed
    cap the hypothesis of `C02_descriptor_headroom` fails and with a cap of 1000 — the table never
    evicts — the third `open()` hits the limit: verification of content that is exactly as
    recorded raises ReadError(EMFILE) for file 2; with a cap of 1 it succeeds. -/
theorem C02_descriptor_exhaustion :
    (verifyEnv (fun x : List Nat => x) 2 [1, 1, 1] [.file [1], .file [2], .file [3]]
      [[1, 2], [3]] false false true none 0 [] 1000 2).1 = .error (.read 2) ∧
    effective (α := Nat) false none 1000 2 2 [1, 1, 1] [.file [1], .file [2], .file [3]] =
      [.file [1], .file [2], .noOpen 1 EMFILE] ∧
    (verifyEnv (fun x : List Nat => x) 2 [1, 1, 1] [.file [1], .file [2], .file [3]]
      [[1, 2], [3]] false false true none 0 [] 1 2).1 = .ok true := by
  refine ⟨by decide +kernel, rfl, by decide +kernel⟩

end Torf.C02
