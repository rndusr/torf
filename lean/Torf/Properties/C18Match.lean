/-
  C18 — the file match makes the *kind* of a torrent explicit, and a readable, valid candidate
  without oddities never aborts the search: it is either accepted or skipped.
  (helper lemmas: Torf.Lemmas.ReuseMatch)
-/
import Torf.Lemmas.ReuseMatch
import Torf.Properties.C18
namespace Torf.C18
open Torf Torf.Reuse

/-- **What `is_file_match` checks, exactly** (for every pair, also of different kinds, also with
    odd entries): equal names, the two identifications `_get_filepaths_and_sizes` could be
    computed and are permutations of each other, piece length within the bounds. -/
theorem C18_file_match_iff (t : Tor) (c : Cand) :
    isFileMatch t c = .ok true ↔
      t.name = c.name ∧
      (∃ tid cid, filepathsAndSizes t.name t.single t.files = .ok tid ∧
        filepathsAndSizes c.name c.single c.files c.bytesPath = .ok cid ∧ tid.Perm cid) ∧
      t.plMin ≤ c.pieceLength ∧ c.pieceLength ≤ t.plMax := by
  exact isFileMatch_iff t c

/-- **The kind is part of the identity.** For a torrent made from its path and a candidate
    without oddities the file match holds iff the names are equal, the *kinds* are equal
    (single-file / multi-file), the lists of (relative path, size) are permutations of each
    other, and the piece length lies within the bounds — in particular a file `N` never matches
    a directory `N` that holds one file `N` of the same size (the name prefix keeps them apart). -/
theorem C18_file_match_kind (t : Tor) (c : Cand) (ht : wfTor t = true) (hc : wfCand t c = true) :
    isFileMatch t c = .ok true ↔
      t.name = c.name ∧ t.single = c.single ∧
      (pathSizes t.name t.files).Perm (pathSizes c.name c.files) ∧
      t.plMin ≤ c.pieceLength ∧ c.pieceLength ≤ t.plMax := by
  exact isFileMatch_wf t c ht hc

/-- … which is the identity check of the specification (`Spec/Reuse.fileIdentity`: text
    components, same name, same kind, same set of (relative path, size), bounds) -/
theorem C18_file_match_spec (t : Tor) (c : Cand) (ht : wfTor t = true) (hc : wfCand t c = true) :
    isFileMatch t c = .ok true ↔ fileIdentity t c = true := by
  rw [isFileMatch_wf_eq t c ht hc, Except.ok.injEq]

/-- the file match of such a pair never raises -/
theorem C18_file_match_total (t : Tor) (c : Cand) (ht : wfTor t = true) (hc : wfCand t c = true) :
    ∃ b, isFileMatch t c = .ok b := by
  exact ⟨_, isFileMatch_wf_eq t c ht hc⟩

/-- **A readable, valid candidate without oddities is either accepted or skipped**: whatever
    the local content looks like — except that a local file of another size or an unreadable
    local file makes the content check raise VerifyFileSizeError / ReadError — it gets through
    the file match, the content check and `copy` without an exception (`NoRaise`). -/
theorem C18_candidate_no_internal_error (t : Tor) (c : Cand) (loc : Nat → LocalPiece) (cb : Callback)
    (ht : wfTor t = true) (hc : wfCand t c = true)
    (hloc : ∀ i, loc i ≠ .sizeError ∧ loc i ≠ .readError) :
    NoRaise t cb (.file (.torrent c) loc) := by
  simp only [NoRaise]
  rcases candidate_outcome t c loc ht hc with h | ⟨h1, h2, h3⟩
  · exact Or.inl h
  · refine Or.inr ⟨h1, ?_⟩
    rcases h2 with ⟨b, hb⟩ | ⟨_, i, hi⟩ | ⟨_, i, hi⟩
    · cases b with
      | false => exact Or.inl hb
      | true => exact Or.inr ⟨hb, h3⟩
    · exact absurd hi (hloc i).1
    · exact absurd hi (hloc i).2

/-- **No internal error**: over any list of items — bad paths, unreadable / undecodable / invalid
    files, candidates of either kind in any mixture — whose candidates are without oddities,
    `reuse` never ends with an internal error (TypeError, ValueError, KeyError, RuntimeError) or
    an AssertionError: it returns a boolean, or raises a documented read / bdecode / metainfo
    error, or VerifyFileSizeError / ReadError from the content check. -/
theorem C18_no_internal_error (t : Tor) (items : List Item) (cb : Callback) (elapsed : Bool)
    (ht : wfTor t = true)
    (hall : ∀ c loc, Item.file (.torrent c) loc ∈ items → wfCand t c = true) :
    (∃ b, (reuse t items cb elapsed).1 = .ok b) ∨
    (reuse t items cb elapsed).1 = .raised .read ∨ (reuse t items cb elapsed).1 = .raised .bdecode ∨
    (reuse t items cb elapsed).1 = .raised .metainfo ∨ (reuse t items cb elapsed).1 = .raised .verifyFileSize := by
  exact (reuse_ends t items cb elapsed).allowed ht hall

/-- **Completeness over mixed candidate lists**: an acceptable candidate is found behind any
    items that are bad paths / unreadable / undecodable / invalid files (with a callback) or
    readable valid candidates without oddities of either kind whose content check can read the
    local files — without the per-item `NoRaise` assumption of `C18_complete`. -/
theorem C18_complete_mixed (t : Tor) (cb : Callback) (elapsed : Bool)
    (hp : ∀ g, cb = some g → ∀ call, g call = false) (ht : wfTor t = true)
    (pre : List Item) (c : Cand) (loc : Nat → LocalPiece) (post : List Item)
    (hpre : ∀ it ∈ pre, match it with
      | .file (.torrent c') loc' => wfCand t c' = true ∧ ∀ i, loc' i ≠ .sizeError ∧ loc' i ≠ .readError
      | _ => cb.isSome = true)
    (hfm : isFileMatch t c = .ok true)
    (s : List Nat) (hs : samples t c = .ok s)
    (hloc : ∀ i ∈ s, ∃ d, c.hashes[i]? = some d ∧ loc i = .hash d)
    (hcopy : ∃ t', copy c t = .ok t') :
    (reuse t (pre ++ .file (.torrent c) loc :: post) cb elapsed).1 = .ok true := by
  refine C18_complete t cb elapsed hp pre c loc post ?_ hfm s hs hloc hcopy
  intro it hit
  have h := hpre it hit
  cases it with
  | pathError => exact h
  | file r l =>
    cases r with
    | torrent c' => exact C18_candidate_no_internal_error t c' l cb ht h.1 h.2
    | unreadable => exact h
    | undecodable => exact h
    | invalid => exact h

/-! ### What the unchanged code does with odd candidates (mirrored, not demanded) -/

/-- a bytes path component: the file match itself raises TypeError -/
theorem C18_bytes_component_counterexample :
    ∃ t c, wfTor t = true ∧ c.bytesPath = true ∧ isFileMatch t c = .error (.internal "TypeError") := by
  refine ⟨⟨"N", true, [⟨[], 5⟩], 16384, none, 1, 1000000⟩,
    ⟨"N", false, [⟨["x"], 5⟩], 16384, ["h"], true⟩, ?_, ?_, ?_⟩ <;> rfl

/-- a multi-file candidate whose only entry has *no* components is identified like the single
    file of that name: the file match passes across kinds -/
theorem C18_empty_path_counterexample :
    ∃ t c, wfTor t = true ∧ t.single = true ∧ c.single = false ∧ isFileMatch t c = .ok true := by
  refine ⟨⟨"N", true, [⟨[], 5⟩], 16384, none, 1, 1000000⟩,
    ⟨"N", false, [⟨[], 5⟩], 16384, ["h"], false⟩, ?_, ?_, ?_, ?_⟩ <;> rfl

/-- a component that contains the separator: identified like the nested path, the file match
    passes, `copy` then fails its assertion -/
theorem C18_separator_component_counterexample :
    ∃ t c, wfTor t = true ∧ isFileMatch t c = .ok true ∧ copy c t = .error .assertion := by
  refine ⟨⟨"N", false, [⟨["d", "a"], 5⟩], 16384, none, 1, 1000000⟩,
    ⟨"N", false, [⟨["d/a"], 5⟩], 16384, ["h"], false⟩, ?_, ?_, ?_⟩ <;> rfl

end Torf.C18
