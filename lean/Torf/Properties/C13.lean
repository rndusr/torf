/-
  C13 — magnet links round-trip.  Property theorems only (helper lemmas: Torf.Lemmas.MagnetUri).
-/
import Torf.Lemmas.MagnetUri
namespace Torf.C13
open Torf Torf.Magnet

/-- Percent-quoting is lossless: for every string of Unicode scalar values (reserved characters,
    control characters, non-BMP, …) `unquote_plus(quote_plus(s)) = s`. -/
theorem C13_unquote_quote (s : Str) : unquotePlus (quotePlus s) = some s :=
  (piece_quotePlus s).decode

/-- `parse_qsl` undoes the renderer's joining and quoting for any list of parameters whose keys
    are the renderer's and whose encoded values are non-empty `quote_plus` output. -/
theorem C13_parse_qsl_render (eps : List EP) (hne : eps ≠ []) (h : ∀ e ∈ eps, e.good) :
    parseQsl (intercalateStr ['&'] (eps.map fun e => kv e.k e.enc)) =
      some (eps.map fun e => (e.k, e.dec)) :=
  parseQsl_pieces eps h

/-- Rendering a well-formed magnet and parsing the link gives back the same object, field by
    field (info hash as stored, display name, length, trackers in order, exact source, webseeds,
    keywords) — for every URL-validity predicate and every `int()` oracle.  `WF` = what the
    constructor produces minus the open findings (no `as_`, no extension parameters, no empty
    name / keyword), keywords without whitespace. -/
theorem C13_parse_render (isUrl : Str → Bool) (intO : Str → IntResult) (m : MagnetObj)
    (h : WF isUrl m = true) : fromString isUrl intO (render m) = .ok m := by
  rw [← fromStringMax_none]
  exact fromStringMax_render none isUrl intO m h

/-- The full statement over everything the constructor can produce … -/
def C13_parse_render_full : Prop :=
  ∀ (isUrl : Str → Bool) (intO : Str → IntResult) (m : MagnetObj),
    constructible isUrl m = true → fromString isUrl intO (render m) = .ok m

def witnessHash : Str := List.replicate 40 'a'

/-- … is falsified by the code: an acceptable source is rendered as `as_=` and the parser
    rejects that key (D13a). -/
theorem C13_parse_render_counterexample : ¬ C13_parse_render_full := by
  intro h
  have hr := h (fun _ => true) (fun _ => none)
    { infohash := witnessHash, as_ := some ['u'] } (by decide +kernel)
  -- the rendered link is `magnet:?xt=urn:btih:aaaa…&as_=u`: two parameters the front end reads back, …
  let eps : List EP := [⟨kXt, urnPrefix ++ witnessHash, urnPrefix ++ witnessHash⟩, ⟨kAsUnderscore, ['u'], ['u']⟩]
  have hp : render { infohash := witnessHash, as_ := some ['u'] } =
      magnetPrefix ++ intercalateStr ['&'] (eps.map fun e => kv e.k e.enc) := by decide +kernel
  have hc : ∀ e ∈ eps, e.clean := by
    intro e he
    simp only [eps, List.mem_cons, List.not_mem_nil, or_false] at he
    rcases he with rfl | rfl
    · exact clean_plain _ _ (by decide +kernel) (by decide +kernel) (hash_plain witnessHash (by decide +kernel))
    · exact clean_plain _ _ (by decide +kernel) (by decide +kernel) (by decide +kernel)
  rw [← fromStringMax_none, hp, fromStringMax_link none _ _ eps hc] at hr
  -- … but the second has a key the constructor does not know
  revert hr
  decide +kernel

/-- A torrent (40-digit lower-case hex infohash, non-empty name without newline, size ≥ 1, valid
    distinct tracker and webseed URLs) converted to a magnet, rendered, parsed and converted
    back has the same infohash, name, size, flat tracker order and webseeds. -/
theorem C13_torrent_roundtrip (isUrl : Str → Bool) (intO : Str → IntResult) (t : TorrentView)
    (h : TorrentOk isUrl t = true) :
    ∃ m, magnetOfTorrent isUrl t = .ok m ∧ fromString isUrl intO (render m) = .ok m ∧
      torrentOfMagnet m = .ok t := by
  obtain ⟨ih, name, size, trackers, webseeds⟩ := t
  simp only [TorrentOk, Bool.and_eq_true, decide_eq_true_eq] at h
  obtain ⟨⟨⟨⟨⟨⟨hih, hname⟩, hsize⟩, htr⟩, htrn⟩, hws⟩, hwsn⟩ := h
  cases name with
  | none => simp at hname
  | some d =>
    cases size with
    | none => simp at hsize
    | some n =>
      have hname' : ¬ d = [] ∧ '\n' ∉ d := by simpa using hname
      have hsize' : 1 ≤ n ∧ decLen n n ≤ 4300 := by simpa using hsize
      obtain ⟨hv, hcan⟩ := lowerHex40_canonical hih
      have hm : magnetOfTorrent isUrl ⟨ih, some d, some n, trackers, webseeds⟩ =
          .ok { infohash := ih, dn := some d, xl := some n, tr := trackers, ws := webseeds } := by
        have h1 : ¬ ((n : Int) < 1) := by omega
        simp [magnetOfTorrent, construct_urn ih hv, setUrls_ok isUrl trackers htr htrn,
          setUrls_ok isUrl webseeds hws hwsn, liftSet, setXl, h1, normDn_id d hname'.2,
          bind, Except.bind, pure, Except.pure]
      refine ⟨_, hm, ?_, ?_⟩
      · exact C13_parse_render isUrl intO _ ((WF_iff isUrl _).2 {
          hash := hv
          dn := fun _ e => by cases e; exact hname'
          xl := fun _ e => by cases e; exact hsize'
          tr := List.all_eq_true.1 htr, tr_nodup := htrn
          ws := List.all_eq_true.1 hws, ws_nodup := hwsn
          xs := nofun, as_ := rfl, kt := nofun, x := rfl })
      · simp [torrentOfMagnet, infohashAsBase16_valid ih hv, hcan, bind, Except.bind, pure, Except.pure]

/-- The URL clauses of `WF` / `TorrentOk` are no restriction: whatever the URL setters of a magnet
    accept (C14's model of `utils.URL` and `MonitoredList.replace`) is stored valid, non-empty, free of
    spaces and without duplicates — for every validity predicate that rejects the empty string, as
    `utils.is_url` does.  (Finding D13e, repaired in /repo by `ae2b587`: until then a constructed
    magnet could hold the invalid `+http://…`.) -/
theorem C13_stored_urls_ok (isUrl : Str → Bool) (hne : isUrl [] = false) (st vs : List Str)
    (st1 : Option Str) (v : Str) :
    ((setUrls isUrl st vs).1 = none →
      (setUrls isUrl st vs).2.all (urlOk isUrl) = true ∧ (setUrls isUrl st vs).2.Nodup) ∧
    ((setUrl isUrl st1 (some v)).1 = none →
      ∃ u, (setUrl isUrl st1 (some v)).2 = some u ∧ urlOk isUrl u = true) := by
  rw [setUrls_eq, setUrl_eq]
  constructor
  · by_cases h : vs.all (urlAccepts isUrl) = true
    · rw [if_pos h]; exact fun _ => coerced_urlOk isUrl hne vs h
    · rw [if_neg h]; nofun
  · by_cases h : urlAccepts isUrl v = true
    · rw [if_pos h]; exact fun _ => ⟨_, rfl, urlOk_coerced isUrl hne v h⟩
    · rw [if_neg h]; nofun

/-! ### histories on one object: a rendering shows the fields the object holds *now* -/

/-- In any history of edits (through setters, through the monitored `tr`/`ws` lists, in place on the
    plain `kt` list / `x` dict — arbitrary functions of the field values) and renderings on one
    magnet object, every `str(m)` is the rendering of the field values the object holds at that
    moment, whatever was rendered before; hence parsing it gives back exactly those values whenever
    they are well-formed (the round-trip clause holds on the *current* state after every step). -/
theorem C13_render_history_independent (isUrl : Str → Bool) (intO : Str → IntResult)
    (m : MagnetObj) (ops : List MOp) :
    (runR m ops).1 = (statesAtStr m ops).map render ∧
    (∀ s ∈ statesAtStr m ops, WF isUrl s = true → fromString isUrl intO (render s) = .ok s) := by
  refine ⟨?_, fun s _ h => C13_parse_render isUrl intO s h⟩
  induction ops generalizing m with
  | nil => rfl
  | cons op ops ih =>
    cases op with
    | set g | listEdit g | plainEdit g => exact ih (g m)
    | str => simp only [runR, statesAtStr, List.map_cons, ih m]

/-- The same statement for a renderer that remembers its result until a setter or a `tr`/`ws`
    callback fires (seeded change C13-4a) … -/
def C13_render_memo_full : Prop :=
  ∀ (m : MagnetObj) (ops : List MOp), (runMemo m none ops).1 = (statesAtStr m ops).map render

/-- … is false: render, append a keyword in place, render again — the second string is the first. -/
theorem C13_render_memo_counterexample : ¬ C13_render_memo_full := by
  intro h
  have := h { infohash := witnessHash } [.str, .plainEdit (fun m => { m with kt := m.kt ++ [['k']] }), .str]
  revert this
  decide +kernel

/-- A memo keyed by the field **values** is faithful: it returns exactly what the code returns, in
    every history (so such a change of the code must not alarm the check). -/
theorem C13_render_value_memo_faithful (m : MagnetObj) (ops : List MOp)
    (cache : Option (MagnetObj × Str)) (hc : ∀ m' s, cache = some (m', s) → s = render m') :
    runValueMemo m cache ops = runR m ops := by
  induction ops generalizing m cache with
  | nil => rfl
  | cons op ops ih =>
    cases op with
    | set g | listEdit g | plainEdit g => exact ih (g m) cache hc
    | str =>
      have hnew : ∀ m' s, some (m, render m) = some (m', s) → s = render m' := by
        intro m' s e; cases e; rfl
      cases cache with
      | none => simp only [runValueMemo, runR, ih m _ hnew]
      | some c =>
        obtain ⟨m', s⟩ := c
        have hs := hc m' s rfl
        by_cases e : m' = m
        · subst e
          subst hs
          simp only [runValueMemo, runR, if_true, ih m' _ hnew]
        · simp only [runValueMemo, runR, e, if_false, ih m _ hnew]

/-! ### non-vacuity -/

example : WF (fun _ => true)
    { infohash := witnessHash, dn := some "a&b=c d".toList, xl := some 12,
      tr := ["http://a/b+c".toList, "udp://t".toList], kt := ["k+1".toList] } = true := by
  -- a literal as the list of its characters: the kernel is slow on `String.toList` of a literal
  repeat rw [String.toList_ofList]
  decide +kernel

/-- hypotheses of `C13_stored_urls_ok`: a predicate that rejects '' and accepts a URL with a space -/
example : (fun s : Str => s.take 4 = "http".toList) [] = false ∧
    (setUrls (fun s => s.take 4 = "http".toList) [] ["http://a/b c".toList, "http://a/b+c".toList]).1 = none := by
  repeat rw [String.toList_ofList]
  decide +kernel

example : TorrentOk (fun _ => true)
    { infohash := witnessHash, name := some "n m".toList, size := some 5,
      trackers := ["http://a/b".toList], webseeds := [] } = true := by
  repeat rw [String.toList_ofList]
  decide +kernel

end Torf.C13
