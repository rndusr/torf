/-
  C02 — bridge theorems to the kernels translated from the source (Torf/Generated/Kernels.lean is
  regenerated from /repo on every run): the model's "which files does a content error name" test
  is exactly the source's three-way comparison with the source's `err_i_beg` / `err_i_end`.

  Loop kernel (second half): the whole body of `VerifyContentError.__init__` up to the store
  `self._files = tuple(corrupt_files)` is translated statement by statement (`corruptFilesFn`:
  the `len(file_sizes)` cases, `err_i_beg` / `err_i_end`, `cur_pos = 0`, the loop over the
  `(filepath, filesize)` pairs with the test, the `append` and `cur_pos += filesize`; the message
  string is not translated, only the bounds check of its `corrupt_files[0]`).
  `C02_kernel_loop_corrupt_files`: it computes the model's `corruptFiles` for every list of sizes,
  every piece index and every piece size (an empty list: RuntimeError).
-/
import Torf.Generated.Kernels
import Torf.Spec.Verify
import Torf.Lemmas.Layout
namespace Torf.C02
open Torf Torf.Missing Torf.Verify Torf.Generated

/-- the model's list is the source's three-way test, on the source's `err_i_beg` / `err_i_end`, applied to every file -/
theorem corruptFiles_eq_filter (L : Nat) (sizes : List Nat) (i : Nat) (hlen : sizes.length ≠ 1) :
    corruptFiles L sizes i = (List.range sizes.length).filter fun k =>
      corruptCond (pos sizes k) ((pos sizes k : Int) + sizeOf sizes k)
        (corruptErrBeg i L) (corruptErrEnd (corruptErrBeg i L) L) := by
  unfold corruptFiles corruptCond corruptErrBeg corruptErrEnd
  rw [if_neg hlen]
  refine List.filter_congr fun k _ => Bool.eq_iff_iff.2 ?_
  have e : ((i * L : Nat) : Int) = (i : Int) * (L : Int) := Int.natCast_mul i L
  simp only [py_test]
  omega

theorem C02_kernel_corrupt_files (L : Nat) (sizes : List Nat) (i k : Nat) (hlen : sizes.length ≠ 1) :
    k ∈ corruptFiles L sizes i ↔
      (k < sizes.length ∧
        corruptCond (pos sizes k) ((pos sizes k : Int) + sizeOf sizes k)
          (corruptErrBeg i L) (corruptErrEnd (corruptErrBeg i L) L) = true) := by
  rw [corruptFiles_eq_filter L sizes i hlen, List.mem_filter, List.mem_range]

open Torf.Loop

private theorem isSome_getIdx_zero {α : Type} (xs : List α) :
    (getIdx xs (0 : Int)).isSome = decide (0 < xs.length) := by
  cases xs <;> simp [getIdx]

/-- the source's loop is the scan of `scan_inv` for the source's own three-way test (`corruptCond`, the same lines
    translated as an expression): started at pair `idx` with running position `cur` and the files `acc` collected so
    far, it stores `acc` followed by the files the test selects -/
private theorem corruptFiles_inv (pi ps eb ee : Int) (rest : List Nat) (idx : Nat) (cur cur' : Int) (acc : List Nat)
    (h : cur = cur') :
    corruptFilesFn.loop pi ps eb ee (rest.map Int.ofNat) idx acc cur =
      .ret (acc ++ ((List.range rest.length).filter fun j =>
        corruptCond (cur' + (pos rest j : Int)) (cur' + (pos rest j : Int) + (sizeOf rest j : Nat)) eb ee).map (· + idx)) := by
  subst h
  refine GeomLemmas.scan_inv Int.ofNat (loop := fun l i p a => corruptFilesFn.loop pi ps eb ee l i a p)
    (fun fb s => corruptCond fb (fb + (s : Int)) eb ee) Out.ret (fun idx cur acc => ?_) (fun s rest idx cur acc => ?_)
    rest idx cur acc
  · simp only [corruptFilesFn.loop]
    repeat' split
    all_goals first
      | rfl
      | omega
      | (simp only [py_test, isSome_getIdx_zero, List.length_map] at *; omega)
  · -- one step of the source's loop beside one step of the scan: every test of either side is read as a proposition
    -- (`py_test`, however the source spells it) and every `if` split; where the two sides decide differently the tests
    -- contradict each other, elsewhere the recursive calls agree
    simp only [corruptFilesFn.loop, corruptCond, py_test]
    repeat' split
    all_goals first | rfl | omega | (congr 1 <;> omega)

/-- `VerifyContentError.__init__` as written in the source computes the model's `corruptFiles`:
    for every list of file sizes (zero-length files included), every piece index and every piece
    size; an empty list of files is the RuntimeError of the source -/
theorem C02_kernel_loop_corrupt_files (L : Nat) (sizes : List Nat) (i : Nat) :
    corruptFilesFn (sizes.map Int.ofNat) i L =
      if sizes = [] then .raised "RuntimeError" else .ret (corruptFiles L sizes i) := by
  unfold corruptFilesFn
  have hl : ((sizes.map Int.ofNat).length : Int) = (sizes.length : Int) := by simp
  by_cases h0 : sizes = []
  · subst h0
    simp
  · rw [if_neg h0]
    have hpos : 0 < sizes.length := List.length_pos_iff.mpr h0
    by_cases h1 : sizes.length = 1
    · have : corruptFiles L sizes i = [0] := by unfold corruptFiles; rw [if_pos h1]
      rw [this]
      repeat' split
      all_goals first
        | rfl
        | omega
        | (simp only [py_test, isSome_getIdx_zero, List.length_map] at *; omega)
    · rw [corruptFiles_eq_filter L sizes i h1]
      repeat' split
      all_goals first
        | omega
        | (simp only [py_test, isSome_getIdx_zero, List.length_map] at *; omega)
        | (rw [corruptFiles_inv _ _ _ _ sizes 0 _ 0 _ (by omega)]
           simp only [List.nil_append, Nat.add_zero, List.map_id', Int.zero_add, corruptErrBeg, corruptErrEnd]
           try (congr 2 <;> first | omega | grind))

/-- the translated function runs: sizes (3, 2, 4), piece size 2 -/
example :
    corruptFilesFn [3, 2, 4] 1 2 = .ret [0, 1] ∧ corruptFilesFn [3, 2, 4] 2 2 = .ret [1, 2] ∧
    corruptFilesFn [7] 5 2 = .ret [0] ∧ corruptFilesFn [] 0 2 = .raised "RuntimeError" ∧
    corruptFilesFn [3, 0, 4] 9 2 = .ret [] := by decide +kernel

end Torf.C02
