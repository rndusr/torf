/-
  C20 in a world, with typed lengths — the verdict of the size check is a function of the stat
  answers of the listed paths and of the *values* of the recorded lengths, and of nothing else.

  Reading guide: `verifyFilesizeG code nt w cb` is `Torrent.verify_filesize(path, callback)`
  (Torf.Model.FileSizeEnv).  `nt` is the metainfo with every `length` as the Python object stored
  there (`PyNum`: int | bool | whole float | fractional float | nan/inf | something else);
  `nt.erase` replaces each by the number of bytes it stands for.  `w.stat` is what
  `exists`/`isdir`/`getsize` answer for `path / components`; `w.opens` is what opening and reading
  that path would do (no descriptor left, no permission, I/O error, a FIFO that blocks) — the code
  never asks.  `spec`, `WF`, `AllGood`, `errOf` are those of `C20.lean`.
-/
import Torf.Lemmas.FileSizeEnv
import Torf.Properties.C20
namespace Torf.C20
open Torf Torf.FileSize

/-- **Refinement in a world.**  For every well-formed layout, whatever Python numbers the lengths
    are, whatever the world: if every length passes `validate()`'s type gate the call returns /
    raises / reports exactly what the specification prescribes for the *values* of the lengths
    and the *stat answers* of the world; otherwise it raises the metainfo error. -/
theorem C20_env_refines (nt : NTorrent) (hwf : WF nt.erase) (w : World) (cb : Callback) :
    verifyFilesizeG code nt w cb =
      if nt.lengthsValid then lift (spec nt.erase w.stat cb)
      else (.res (.raised .metainfo), []) := by
  rw [verifyFilesizeG_code nt, C20_refines nt.erase hwf]

/-- **The verdict depends on the stat answers only.**  Two worlds that agree on what
    `exists`/`isdir`/`getsize` answer for the listed paths give the same result, the same raised
    error and the same callback trace — whatever `open`/`read` would do in either of them (no free
    descriptor, mode 000, EIO, a FIFO), for every layout (no hypothesis on it), every kind of
    number and every callback. -/
theorem C20_depends_only_on_stat (nt : NTorrent) (w w' : World) (cb : Callback)
    (h : ∀ f ∈ nt.nlisted, w.stat f.path = w'.stat f.path) :
    verifyFilesizeG code nt w cb = verifyFilesizeG code nt w' cb :=
  verifyFilesizeG_congr code code nt w w' cb h (fun _ _ => rfl) (fun _ _ _ _ => rfl)

/-- … in particular the world in which nothing can be opened at all and the world in which
    everything can are indistinguishable. -/
theorem C20_open_faults_irrelevant (nt : NTorrent) (st : FS) (o o' : List String → OpenAnswer)
    (cb : Callback) :
    verifyFilesizeG code nt ⟨st, o⟩ cb = verifyFilesizeG code nt ⟨st, o'⟩ cb :=
  C20_depends_only_on_stat nt ⟨st, o⟩ ⟨st, o'⟩ cb (fun _ _ => rfl)

/-- **The verdict depends on the values of the lengths only.**  Two metainfos that differ only
    in the Python type of valid lengths (5 / 5.0 / `True` for 1 / 2**53 / 2.0**53) are judged
    alike on every world. -/
theorem C20_depends_only_on_value (nt nt' : NTorrent) (hwf : WF nt.erase)
    (he : nt.erase = nt'.erase) (hv : nt.lengthsValid = true) (hv' : nt'.lengthsValid = true)
    (w : World) (cb : Callback) :
    verifyFilesizeG code nt w cb = verifyFilesizeG code nt' w cb := by
  rw [C20_env_refines nt hwf, C20_env_refines nt' (he ▸ hwf), he, hv, hv']

/-- **Exactness in a world.**  Valid torrent (type gate and layout rules), no or a passive
    callback: `True` iff every listed file is there with exactly the recorded number of bytes —
    judged on the stat answers; nothing else of the world matters. -/
theorem C20_env_iff (nt : NTorrent) (hwf : WF nt.erase) (hv : validateN nt = true) (w : World)
    (cb : Callback) (hp : Passive cb) :
    (verifyFilesizeG code nt w cb).1 = .res (.ok true) ↔ AllGood nt.erase w.stat := by
  unfold validateN at hv
  simp only [Bool.and_eq_true] at hv
  rw [verifyFilesizeG_code nt, ← C20_iff nt.erase hwf hv.2 w.stat cb hp]
  simp [hv.1, lift]

/-- **One error per offending file, in a world.**  With a passive callback the exception
    arguments are, file by file, `errOf` on the stat answers with the *value* of the stored length
    as the expected size, whatever its type; nothing is raised. -/
theorem C20_env_errors_each (nt : NTorrent) (hwf : WF nt.erase) (hv : validateN nt = true)
    (w : World) (g : Call → Bool) (hp : ∀ c, g c = false) :
    ((verifyFilesizeG code nt w (some g)).2.map (·.exc) =
        if singleAtDir nt.erase w.stat then [some .isDir]
        else nt.nlisted.map (fun f => errOf w.stat f.erase)) ∧
    (verifyFilesizeG code nt w (some g)).1 = .res (.ok (allGood nt.erase w.stat)) := by
  unfold validateN at hv
  simp only [Bool.and_eq_true] at hv
  have := C20_errors_each_callback nt.erase hwf hv.2 w.stat g hp
  rw [verifyFilesizeG_code nt]
  simp only [hv.1, if_true, lift]
  rw [erase_listed, List.map_map] at this
  exact ⟨this.1, by rw [this.2]⟩

/-- **Nothing but documented outcomes.**  On a well-formed layout the call returns a Boolean or
    raises one of its documented errors: no other exception escapes and it does not block,
    whatever the types of the lengths and whatever the world. -/
theorem C20_env_no_internal (nt : NTorrent) (hwf : WF nt.erase) (w : World) (cb : Callback) :
    ∃ r, (verifyFilesizeG code nt w cb).1 = .res r ∧ r ≠ .raised .path := by
  rw [verifyFilesizeG_code nt]
  by_cases hlv : nt.lengthsValid = true
  · simp only [hlv, if_true, lift]
    exact ⟨_, rfl, (C20_no_internal nt.erase hwf w.stat cb).1⟩
  · simp only [hlv, Bool.false_eq_true, if_false]
    exact ⟨_, rfl, by simp⟩

def probing : Variant := ⟨true, false⟩
def intFormatting : Variant := ⟨false, true⟩

/-- three files as recorded, all present with exactly the recorded sizes -/
def exNT : NTorrent :=
  ⟨"T", .multi [⟨["a"], .int 16384⟩, ⟨["d", "z"], .floatWhole 0⟩, ⟨["d", "b"], .floatWhole 7⟩], 16384, 40⟩

/-- the world of `exFsGood` in which no file can be opened (no descriptor left) -/
def exNoFd : World := ⟨exFsGood, fun _ => .fails⟩
def exFine : World := ⟨exFsGood, fun _ => .opens⟩
/-- second file missing, third one byte too long (stat answers `exFsBad`) -/
def exBadW : World := ⟨exFsBad, fun _ => .opens⟩

/-- `C20_depends_only_on_stat` stated for an arbitrary variant -/
def C20_depends_only_on_stat_full (v : Variant) : Prop :=
  ∀ (nt : NTorrent) (w w' : World) (cb : Callback),
    (∀ f ∈ nt.nlisted, w.stat f.path = w'.stat f.path) →
    verifyFilesizeG v nt w cb = verifyFilesizeG v nt w' cb

/-- **A readability probe breaks the property.**  With every listed file present and of exactly
    the recorded size, but no descriptor left, the probing variant reports a read error for every
    file and returns `False` (and raises without a callback) where the code returns `True`; so
    for that variant the verdict is *not* a function of the stat answers. -/
theorem C20_probe_unsound :
    AllGood exNT.erase exNoFd.stat ∧
    verifyFilesizeG code exNT exNoFd none = (.res (.ok true), []) ∧
    verifyFilesizeG probing exNT exNoFd none = (.res (.raised .read), []) ∧
    verifyFilesizeG probing exNT exNoFd (some fun _ => false) =
      (.res (.ok false), [⟨0, 1, 3, some .read⟩, ⟨1, 2, 3, some .read⟩, ⟨2, 3, 3, some .read⟩]) ∧
    ¬ C20_depends_only_on_stat_full probing := by
  refine ⟨?_, by decide +kernel, by decide +kernel, by decide +kernel, ?_⟩
  · rw [← allGood_iff]; decide +kernel
  · intro h
    have := h exNT exNoFd exFine none (fun _ _ => rfl)
    revert this
    decide +kernel

/-- … and a FIFO standing where a zero-length file is recorded (`stat`: not a directory, size 0)
    makes the probing variant block. -/
theorem C20_probe_blocks :
    verifyFilesizeG probing exNT ⟨exFsGood, fun p => if p = ["d", "z"] then .blocks else .opens⟩ none
      = (.hangs, []) ∧
    verifyFilesizeG code exNT ⟨exFsGood, fun p => if p = ["d", "z"] then .blocks else .opens⟩ none
      = (.res (.ok true), []) := by
  decide +kernel

/-- The probing variant cannot be told from the code in a world where every listed path can be
    opened — which is every world a test suite running as root with free descriptors builds. -/
theorem C20_probe_agrees_when_openable (b : Bool) (nt : NTorrent) (w : World) (cb : Callback)
    (h : ∀ f ∈ nt.nlisted, w.opens f.path = .opens) :
    verifyFilesizeG ⟨true, b⟩ nt w cb = verifyFilesizeG ⟨false, b⟩ nt w cb :=
  verifyFilesizeG_congr ⟨true, b⟩ ⟨false, b⟩ nt w w cb (fun _ _ => rfl) (fun f hf => by simp [h f hf])
    (fun _ _ _ _ => rfl)

/-- **An integer-only conversion of the expected size breaks the property.**  Lengths stored as
    whole-number floats, one file too long: the code reports the size error (8 instead of 7) and
    goes on; the variant lets a foreign exception escape — with a callback, too, which is then
    never told about that file or any later one. -/
theorem C20_intfmt_unsound :
    validateN exNT = true ∧
    verifyFilesizeG code exNT exBadW (some fun _ => false) =
      (.res (.ok false), [⟨0, 1, 3, none⟩, ⟨1, 2, 3, some .read⟩, ⟨2, 3, 3, some (.size 8 7)⟩]) ∧
    verifyFilesizeG intFormatting exNT exBadW (some fun _ => false) =
      (.internal, [⟨0, 1, 3, none⟩, ⟨1, 2, 3, some .read⟩]) ∧
    verifyFilesizeG intFormatting exNT ⟨fun p => if p = ["d", "b"] then .file 8 else exFsGood p,
      fun _ => .opens⟩ none = (.internal, []) := by
  decide +kernel

/-- The integer-formatting variant cannot be told from the code on a metainfo without float
    lengths — every torrent that was read from a file, every torrent a test suite builds. -/
theorem C20_intfmt_agrees_on_ints (b : Bool) (nt : NTorrent)
    (h : ∀ f ∈ nt.nlisted, f.len.isFloat = false) (w : World) (cb : Callback) :
    verifyFilesizeG ⟨b, true⟩ nt w cb = verifyFilesizeG ⟨b, false⟩ nt w cb :=
  verifyFilesizeG_congr ⟨b, true⟩ ⟨b, false⟩ nt w w cb (fun _ _ => rfl) (fun _ _ => rfl)
    (fun _ _ e he => by simp [partialSizeN_noFloat nt h _ e he])

/-! ### non-vacuity -/

example : WF exNT.erase := by decide +kernel
example : validateN exNT = true := by decide +kernel
example : exNT.lengthsValid = true := by decide +kernel
/-- the same values under other types (a whole float, `False` for 0, an int): same erasure -/
example : (⟨"T", .multi [⟨["a"], .floatWhole 16384⟩, ⟨["d", "z"], .bool false⟩, ⟨["d", "b"], .int 7⟩],
    16384, 40⟩ : NTorrent).erase = exNT.erase := rfl
/-- a fractional, a negative length: metainfo error -/
example : verifyFilesizeG code ⟨"s", .single .floatFrac, 16384, 20⟩ exFine none
    = (.res (.raised .metainfo), []) := by decide +kernel
example : verifyFilesizeG code ⟨"s", .single (.int (-1)), 16384, 20⟩ exFine none
    = (.res (.raised .metainfo), []) := by decide +kernel
/-- `True` as a length is one byte -/
example : verifyFilesizeG code ⟨"s", .single (.bool true), 16384, 20⟩ ⟨fun _ => .file 1, fun _ => .fails⟩ none
    = (.res (.ok true), []) := by decide +kernel
/-- 2.0**53 against a file of 2**53 + 1 bytes: the comparison is exact -/
example : verifyFilesizeG code ⟨"s", .single (.floatWhole 9007199254740992), 1099511627776, 163840⟩
    ⟨fun _ => .file 9007199254740993, fun _ => .opens⟩ none
    = (.res (.raised (.size 9007199254740993 9007199254740992)), []) := by decide +kernel

end Torf.C20
