/-
  C08 — bridge theorem to the `md5sum` pattern of `torf/_utils.py` (`_md5sum_regex`, used through
  `.match()` by `is_md5sum`), translated from the source on every run (`Generated.md5sumRegex`; see
  `Base/Rx.lean` for what is extracted how). The hand-written decider of the model
  (`Validate.isMd5sum`), about which `C08_md5sum_*` are proved, accepts a text exactly when the
  generic semantics of the generated shape does — including the one text family where `$` and `\Z`
  differ (one trailing newline).
-/
import Torf.Generated.Kernels
import Torf.Lemmas.HexDigit
import Torf.Model.KeyVocabulary
namespace Torf.C08
open Torf.Generated Torf.Validate Torf.Rx

private theorem hexSet_eq : inSet [(48, 57), (65, 70), (97, 102)] = isHex :=
  funext fun c => (inSet_hex c).trans (isHex_toNat c).symm

/-- `_md5sum_regex.match(s)` as written in the source succeeds exactly when the model's `isMd5sum` says so -/
theorem C08_kernel_md5sum (s : String) : (md5sumRegex.run s.toList).isSome = isMd5sum (.str s) := by
  unfold md5sumRegex Shape.run isMd5sum
  simp only [matchPre, matchAlts, matchAlt_exact, hexSet_eq]
  generalize s.toList = cs
  have hl : ((cs.take 32).length == 32) = decide (32 ≤ cs.length) := by
    rw [List.length_take]; by_cases h : 32 ≤ cs.length <;> simp [h] <;> omega
  have he : (cs.drop 32 == [] || cs.drop 32 == ['\n']) = endOk .dollar (cs.drop 32) := by
    cases cs.drop 32 <;> rfl
  simp only [hl, he]
  split <;> simp_all

-- the kernel decodes a string literal from UTF-8 at great cost; `String.toList_ofList` reads its characters off
example : (md5sumRegex.run "d41d8cd98f00b204e9800998ecf8427e\n".toList).isSome = true := by
  rw [String.toList_ofList]; decide +kernel
example : (md5sumRegex.run "d41d8cd98f00b204e9800998ecf8427e\n\n".toList).isSome = false := by
  rw [String.toList_ofList]; decide +kernel

/-! ### the keys the code reads (round 6)

  `Generated.validateKeys` / `Generated.readStreamKeys` are harvested from the source of `Torrent.validate` /
  `Torrent.read_stream` on every run: every string constant the function uses as a dictionary key.  Outside
  `topKeys ++ infoKeys ++ fileKeys` the model provably ignores a metainfo (`C08_unknown_key_irrelevant`), so the model can
  only be a model of the code if every key the code reads is in that vocabulary.  A key that new code starts reading
  (`info.get('meta version', 1) > 1`) makes these obligations fail until the model knows the key. -/

/-- every key `Torrent.validate` reads is in the vocabulary of the model -/
theorem C08_kernel_validate_keys : ∀ k ∈ validateKeys, k ∈ topKeys ++ infoKeys ++ fileKeys := by decide +kernel

/-- every key `Torrent.read_stream` reads is in the vocabulary of the model -/
theorem C08_kernel_read_stream_keys : ∀ k ∈ readStreamKeys, k ∈ topKeys ++ infoKeys ++ fileKeys := by decide +kernel

end Torf.C08
