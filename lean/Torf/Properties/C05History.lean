/-
  C05 — the round trip on an object with a history: whatever was exported before and however the
  metainfo was edited (top-level assignment or in-place change of a nested list / dict at any
  depth), every export reports the *current* metainfo, so the round-trip clauses hold in every
  state the object goes through, not only right after loading.
  Then the memoising alternative of `Model/History.lean`: an `infohash` that remembers its last
  result is indistinguishable from the function exactly when its key is sound, and the shallow
  snapshot of `info` is not a sound key.
-/
import Torf.Model.History
import Torf.Properties.C05
namespace Torf.C05
open Torf Torf.Bencode Torf.Codec Torf.ReadStream Torf.History

private theorem run_append (env : Env) (H : Bytes → Bytes) : ∀ (h h' : List Ev) (md : Md),
    History.run env H md (h ++ h') =
      ((History.run env H (History.run env H md h).1 h').1, (History.run env H md h).2 ++ (History.run env H (History.run env H md h).1 h').2)
  | [], h', md => by simp [History.run]
  | .edit f :: t, h', md => by simp only [List.cons_append, History.run]; exact run_append env H t h' (f md)
  | .export e :: t, h', md => by
    simp only [List.cons_append, History.run, run_append env H t h' md]

/-- exports never change the object: the metainfo reached is that of the edits alone -/
theorem C05_exports_state (env : Env) (H : Bytes → Bytes) : ∀ (h : List Ev) (md : Md),
    (History.run env H md h).1 = applyEdits md (editsOf h)
  | [], md => rfl
  | .edit f :: t, md => by
    simp only [History.run, editsOf, applyEdits, List.foldl_cons]
    exact C05_exports_state env H t (f md)
  | .export e :: t, md => by
    simp only [History.run, editsOf]
    exact C05_exports_state env H t md

/-- **Exports are history independent:** what an export returns after any history of edits and
    exports on one object is the export *function* applied to the metainfo the edits produce —
    it does not depend on which exports were made before, how often, or between which edits. -/
theorem C05_exports_history_independent (env : Env) (H : Bytes → Bytes) (md : Md) (h : List Ev)
    (e : Export) :
    (History.run env H md (h ++ [.export e])).2.getLast? =
      some (exportOf env H e (applyEdits md (editsOf h))) := by
  rw [run_append]
  simp only [History.run, List.getLast?_append, C05_exports_state]
  rfl

/-- two histories with the same edits give the same answer to every export -/
theorem C05_exports_same_edits (env : Env) (H : Bytes → Bytes) (md : Md) (h h' : List Ev) (e : Export)
    (he : editsOf h = editsOf h') :
    (History.run env H md (h ++ [.export e])).2.getLast? = (History.run env H md (h' ++ [.export e])).2.getLast? := by
  rw [C05_exports_history_independent, C05_exports_history_independent, he]

/-- **The round trip in every state of a history:** let `t` be the metainfo an object has after
    any history `h`; under the hypotheses of `C05_read_dump` on `t`, the bytes `dump` returns *now*
    read back to a torrent that dumps to the same bytes and whose info hash is what the `infohash`
    export returns *now* (for every hash function).  (`hval`: `validate()` accepts the re-read
    metainfo — the oracle; C07's subject.) -/
theorem C05_history_roundtrip (env : Env) (H : Bytes → Bytes) (md0 : Md) (h : List Ev) (validate : Bool)
    (bs hsh : Bytes)
    (hw : wf (.dict (ensureInfo (History.run env H md0 h).1)) = true)
    (hd : (History.run env H md0 (h ++ [.export (.dump validate)])).2.getLast? = some (.ok bs))
    (hh : (History.run env H md0 (h ++ [.export .infohash])).2.getLast? = some (.ok hsh))
    (hsize : bs.length ≤ env.maxSize)
    (hinfo : ∃ ikvs, PyVal.lookupStr "info" (ensureInfo (History.run env H md0 h).1) = some (.dict ikvs))
    (hpieces : PyPiecesOk (History.run env H md0 h).1) (hpriv : PyPrivateOk (History.run env H md0 h).1)
    (hdate : PyDateOk env (History.run env H md0 h).1)
    (hval : ∀ v t', ReadStream.read env bs v = .ok t' → env.validate (.dict t') = true) :
    ∃ t', ReadStream.read env bs validate = .ok t' ∧ dump env t' validate = .ok bs ∧
      infohash env H t' = .ok hsh := by
  rw [C05_exports_history_independent, Option.some.injEq] at hd hh
  rw [← C05_exports_state] at hd hh
  simp only [exportOf] at hd hh
  obtain ⟨t', hr, hd', _, _, hih⟩ :=
    C05_read_dump env (History.run env H md0 h).1 validate bs hw hd hsize hinfo hpieces hpriv hdate
      (fun _ => hval false)
  exact ⟨t', hr, hd', hih H hsh hh (hval validate t' hr)⟩

private theorem runMemo_eq_of_inv {K : Type} [DecidableEq K] (key : Md → K) (env : Env)
    (H : Bytes → Bytes) (hs : KeySound key env H) : ∀ (h : List MEv) (o : MemoObj K),
    (∀ k hsh, o.cache = some (k, hsh) → ∃ m, key m = k ∧ ReadStream.infohash env H m = .ok hsh) →
    runMemo key env H o h = runPure env H o.md h
  | [], _, _ => rfl
  | .edit f :: t, o, hinv => by
    simp only [runMemo, runPure]
    exact runMemo_eq_of_inv key env H hs t _ hinv
  | .infohash :: t, o, hinv => by
    simp only [runMemo, runPure]
    have hcompute : (computeMemo key env H o).1 :: runMemo key env H (computeMemo key env H o).2 t =
        ReadStream.infohash env H o.md :: runPure env H o.md t := by
      unfold computeMemo
      cases hc : ReadStream.infohash env H o.md with
      | ok hsh =>
        simp only
        rw [runMemo_eq_of_inv key env H hs t _ (by
          intro k h' hk
          simp only [Option.some.injEq, Prod.mk.injEq] at hk
          exact ⟨o.md, hk.1, hk.2 ▸ hc⟩)]
      | error e =>
        simp only
        rw [runMemo_eq_of_inv key env H hs t _ hinv]
    unfold infohashMemo
    cases hcache : o.cache with
    | none => exact hcompute
    | some p =>
      obtain ⟨k, hsh⟩ := p
      by_cases hk : k = key o.md
      · simp only [hk, if_true]
        obtain ⟨m, hm1, hm2⟩ := hinv k hsh hcache
        have := hs m o.md hsh hm2 (hm1.trans hk)
        rw [this, runMemo_eq_of_inv key env H hs t _ hinv]
      · simp only [hk, if_false]
        exact hcompute

/-- the stale hit: hash, replace the metainfo by one with the same key, hash again — the memoising
    object answers with the first hash twice, so it agrees with the function on this history only
    if the second metainfo has that hash too -/
private theorem memo_stale {K : Type} [DecidableEq K] {key : Md → K} {env : Env} {H : Bytes → Bytes}
    {md md' : Md} {hsh : Bytes} (hi : ReadStream.infohash env H md = .ok hsh) (hk : key md = key md')
    (h : runMemo key env H ⟨md, none⟩ [.infohash, .edit (fun _ => md'), .infohash] =
      runPure env H md [.infohash, .edit (fun _ => md'), .infohash]) :
    ReadStream.infohash env H md' = .ok hsh := by
  simp only [runMemo, runPure, infohashMemo, computeMemo, hi, hk, if_true, List.cons.injEq, and_true,
    true_and] at h
  exact h.symm

/-- **A memoising `infohash` is indistinguishable from the function on all histories iff its key
    is sound** (metainfos with the same key have the same info hash). -/
theorem C05_memo_iff_key_sound {K : Type} [DecidableEq K] (key : Md → K) (env : Env)
    (H : Bytes → Bytes) :
    (∀ (md : Md) (h : List MEv), runMemo key env H ⟨md, none⟩ h = runPure env H md h) ↔
      KeySound key env H := by
  constructor
  · exact fun hall md md' hsh hi hk => memo_stale hi hk (hall md _)
  · intro hs md h
    exact runMemo_eq_of_inv key env H hs h ⟨md, none⟩ (by intro k hsh hc; simp at hc)

/-- two metainfos that differ only inside a nested list of `info` -/
def memoA : Md :=
  [(.str "info", .dict [(.str "name", .str "a"), (.str "piece length", .int 16384),
                         (.str "files", .list [.str "x"])])]
def memoB : Md :=
  [(.str "info", .dict [(.str "name", .str "a"), (.str "piece length", .int 16384),
                         (.str "files", .list [.str "x", .str "renamed"])])]

/-- **The shallow snapshot is not a sound key:** `memoA` and `memoB` differ only inside a nested
    list, have the same shallow key, and different info hashes — after `infohash; (in-place edit
    A → B); infohash` the memoising object still reports the hash of `memoA`. -/
theorem C05_memo_shallow_counterexample :
    ¬ KeySound shallowKey exEnv exH ∧
    runMemo shallowKey exEnv exH ⟨memoA, none⟩ [.infohash, .edit (fun _ => memoB), .infohash] ≠
      runPure exEnv exH memoA [.infohash, .edit (fun _ => memoB), .infohash] := by
  have hk : shallowKey memoA = shallowKey memoB := by decide +kernel
  have hne : (ReadStream.infohash exEnv exH memoA).toOption ≠
      (ReadStream.infohash exEnv exH memoB).toOption := by decide +kernel
  obtain ⟨ha, hha⟩ := exists_ok_of_toBool (x := ReadStream.infohash exEnv exH memoA) (by decide +kernel)
  have hB : ReadStream.infohash exEnv exH memoB ≠ .ok ha := fun h => hne (by rw [hha, h])
  exact ⟨fun hs => hB (hs memoA memoB ha hha hk), fun heq => hB (memo_stale hha hk heq)⟩

end Torf.C05
