/-
  C05 — bridge theorems to the type dispatch of `utils.encode_value`, translated from the source on
  every run: `ENCODE_ALLOWED_TYPES` (the exact types that pass unchanged) and the keys of
  `ENCODE_CONVERTERS` **in source order** (`isinstance` is tried in this order — `str` must come before
  `Sequence`, or a string would be written as a list of characters; `bool` is never reached through
  `int` because the pass-through test is on the exact type). The model's `Codec.encodeValue`, about
  which the round-trip theorems of C05 are proved, takes for every value the branch of the first entry
  of the generated tables that applies, under the instance relation of the Python classes spelled out
  below (`isinst`: which PyVal constructors are instances of which class — trusted facts about CPython's
  class hierarchy; values outside PyVal are instances of nothing, as everywhere in the model).
-/
import Torf.Generated.Kernels
import Torf.Model.Codec
namespace Torf.C05
open Torf Torf.Generated Torf.Codec

/-- `type(v) is <name>` for the pass-through test (`type(value) in ENCODE_ALLOWED_TYPES`) -/
def exactType : PyVal → String → Bool
  | .other _, _ => false            -- values outside PyVal are not `bytes` / `int` objects
  | v, name => v.typeName == name

/-- `isinstance(v, <class>)` for the classes named in `ENCODE_CONVERTERS` -/
def isinst : PyVal → String → Bool
  | .str _, c => c == "str" || c == "collections.abc.Sequence" || c == "collections.abc.Collection"
  | .float _, c => c == "float"
  | .bool _, c => c == "bool" || c == "int"
  | .int _, c => c == "int"
  | .bytes _, c => c == "bytes" || c == "collections.abc.Sequence" || c == "collections.abc.Collection"
  | .dict _, c => c == "dict" || c == "collections.abc.Mapping" || c == "collections.abc.Collection"
  | .list _, c => c == "list" || c == "collections.abc.Sequence" || c == "collections.abc.Collection"
  | .tuple _, c => c == "tuple" || c == "collections.abc.Sequence" || c == "collections.abc.Collection"
  | .datetime _, c => c == "datetime"
  | .none, _ => false
  | .other _, _ => false

/-- the branch `encode_value` takes, read off the generated tables: `"="` = returned unchanged,
    a class name = that converter, `none` = `ValueError` -/
def dispatch (v : PyVal) : Option String :=
  if encodeAllowedTypes.any (exactType v) then some "="
  else encodeConverterOrder.find? (isinst v)

/-- the branch the model takes, as its `match` is written -/
def modelBranch : PyVal → Option String
  | .bytes _ | .int _ => some "="
  | .str _ => some "str"
  | .float _ => some "float"
  | .bool _ => some "bool"
  | .dict _ => some "collections.abc.Mapping"
  | .list _ | .tuple _ => some "collections.abc.Sequence"
  | .datetime _ => some "datetime"
  | .none | .other _ => none

/-- for every value the model takes the branch the source's tables prescribe -/
theorem C05_kernel_dispatch (v : PyVal) : dispatch v = modelBranch v := by
  cases v <;> rfl

/-- … and each branch of the model does what that converter does: unchanged / UTF-8 / `int(float)` /
    `int(bool)` / `encode_dict` / `encode_list` / `int(dt.timestamp())` / `ValueError` -/
theorem C05_kernel_branches (v : PyVal) :
    match modelBranch v with
    | some "=" => (∃ b, v = .bytes b ∧ encodeValue v = .ok (.bytes b)) ∨ (∃ i, v = .int i ∧ encodeValue v = .ok (.int i))
    | some "str" => ∃ s, v = .str s ∧ encodeValue v = .ok (.bytes (utf8Enc s))
    | some "bool" => ∃ b, v = .bool b ∧ encodeValue v = .ok (.int (if b then 1 else 0))
    | some "float" => ∃ f, v = .float f
    | some "collections.abc.Mapping" => ∃ kvs, v = .dict kvs ∧ encodeValue v = encodeDict kvs
    | some "collections.abc.Sequence" =>
        ∃ l, (v = .list l ∨ v = .tuple l) ∧
          encodeValue v = (match encodeList l with | .ok l' => .ok (.list l') | .error e => .error e)
    | some "datetime" => ∃ ts, v = .datetime ts
    | some _ => False
    | none => encodeValue v = .error .value := by
  cases v with
  | none => simp [modelBranch, encodeValue]
  | other t => simp [modelBranch, encodeValue]
  | bool b => exact ⟨b, rfl, by simp [encodeValue]⟩
  | int i => exact Or.inr ⟨i, rfl, by simp [encodeValue]⟩
  | float f => exact ⟨f, rfl⟩
  | str s => exact ⟨s, rfl, by simp [encodeValue]⟩
  | bytes b => exact Or.inl ⟨b, rfl, by simp [encodeValue]⟩
  | list l => exact ⟨l, Or.inl rfl, by rw [encodeValue]; cases encodeList l <;> rfl⟩
  | tuple l => exact ⟨l, Or.inr rfl, by rw [encodeValue]; cases encodeList l <;> rfl⟩
  | dict kvs => exact ⟨kvs, rfl, rfl⟩
  | datetime ts => exact ⟨ts, rfl⟩

/-- why the order matters (non-vacuity of the tie): with `Sequence` tried before `str`, a string would be
    handed to `encode_list` -/
example : (["collections.abc.Sequence", "str"].find? (isinst (.str "ab"))) = some "collections.abc.Sequence" := by decide +kernel

end Torf.C05
