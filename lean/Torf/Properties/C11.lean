/-
  C11 — stream geometry and random access agree with the byte stream.
  The property theorems; what more than one of them needs lives in Torf.Lemmas.Layout (positions of
  the files in the stream) and Torf.Lemmas.Geom*.

  `Torf.Geometry.*`  = code-shaped model of the public `TorrentFileStream` methods,
  `Torf.GeomSpec.*`  = the arithmetic definition on the concatenated stream.
  A theorem `C11_<method>_spec` says model = spec for every layout / argument, out-of-range
  arguments included (both sides are then `.error .value`, the documented ValueError; no
  `.internal` error — AssertionError, IndexError, OSError — is reachable).
  Hypotheses: `0 < L`, for the methods hit by the open finding D11a no zero-length entry
  (in the layout, or for the queried file), and `a ≤ b` for `get_files_at_byte_range` (its `assert`,
  a precondition: AssertionError otherwise).  `get_relative_piece_indexes` is false in general
  (open finding D11c): full statement, partial theorem and counterexample below.
-/
import Torf.Lemmas.Basics
import Torf.Lemmas.GeomExcl
import Torf.Lemmas.GeomPiece
import Torf.Lemmas.Stream
namespace Torf.C11
open Torf Torf.Geometry Torf.GeomLemmas

theorem C11_max_piece_index_spec (sizes : List Nat) (L : Nat) (hL : 0 < L) :
    maxPieceIndex sizes L = GeomSpec.maxPieceIndex sizes L := by
  unfold Geometry.maxPieceIndex GeomSpec.maxPieceIndex Geometry.floorDiv nPieces
  show ((GeomSpec.total sizes : Int) - 1) / (L : Int) = _
  generalize GeomSpec.total sizes = T
  -- `n = ⌈T/L⌉` is the number with `n·L ≤ T + L - 1 < n·L + L`
  have h1 := Nat.div_mul_le_self (T + L - 1) L
  have h2 := Nat.lt_mul_div_succ (T + L - 1) hL
  generalize (T + L - 1) / L = n at h1 h2 ⊢
  rw [Nat.mul_add, Nat.mul_comm] at h2
  have e : ((n * L : Nat) : Int) = (n : Int) * (L : Int) := Int.natCast_mul n L
  rw [Int.ediv_eq_iff_of_pos (by omega), Int.sub_mul]
  omega

theorem C11_get_file_position_spec (sizes : List Nat) (j : Nat) :
    getFilePosition sizes j = GeomSpec.filePosition sizes j := by
  exact lookupFile_bind fun _ => rfl

/-- every layout, zero-length entries included; negative and too large positions ⇒ ValueError -/
theorem C11_get_file_at_position_spec (sizes : List Nat) (p : Int) :
    getFileAtPosition sizes p = GeomSpec.fileAtPosition sizes p := by
  unfold Geometry.getFileAtPosition GeomSpec.fileAtPosition GeomSpec.allFiles
  by_cases hp : p ≥ 0
  · rw [if_pos hp, fileAtPosLoop_eq p sizes 0 hp]
    simp only [Int.zero_add]
    rfl
  · rw [if_neg hp, List.find?_eq_none.mpr fun j _ => by simp; omega]

theorem C11_get_byte_range_of_file_spec (sizes : List Nat) (j : Nat) :
    getByteRangeOfFile sizes j = GeomSpec.byteRangeOfFile sizes j := by
  exact lookupFile_bind fun _ => rfl

theorem C11_get_files_at_byte_range_spec (sizes : List Nat) (a b : Int) (hne : NoEmpty sizes)
    (hab : a ≤ b) :
    getFilesAtByteRange sizes a b = .ok (GeomSpec.filesAtByteRange sizes a b) :=
  getFilesAtByteRange_spec sizes a b hne hab

theorem C11_get_files_at_piece_index_spec (sizes : List Nat) (L : Nat) (i : Int) (hL : 0 < L)
    (hne : NoEmpty sizes) :
    getFilesAtPieceIndex sizes L i = GeomSpec.filesAtPieceIndex sizes L i :=
  getFilesAtPieceIndex_spec sizes L i hL hne

/-- inclusive variant: right for every file that has at least one byte, whatever else the
    layout contains; a file that is not in the torrent ⇒ ValueError -/
theorem C11_get_piece_indexes_of_file_spec (sizes : List Nat) (L : Nat) (j : Nat) (hL : 0 < L)
    (hj : j < sizes.length → 0 < GeomSpec.size sizes j) :
    getPieceIndexesOfFile sizes L j false = GeomSpec.pieceIndexesOfFile sizes L j false := by
  unfold getPieceIndexesOfFile GeomSpec.pieceIndexesOfFile
  refine lookupFile_bind fun hlt => ?_
  refine congrArg Except.ok (eq_of_sorted_of_mem_iff (· < ·) (fun a b h1 h2 => by omega) _ _
    (rangeIncl_sorted _ _) (pieceIndexes_sorted _ _) fun x => ?_)
  rw [mem_rangeIncl, between_iff sizes L j x hL (hj hlt), mem_pieceIndexes _ _ _ _ _ hL]
  simp

/-- exclusive variant: pieces that hold bytes of the file and of no other file (layouts without
    zero-length entries; with a content path or without — the model compares torrent files) -/
theorem C11_get_piece_indexes_of_file_exclusive_spec (sizes : List Nat) (L : Nat) (j : Nat)
    (hL : 0 < L) (hne : NoEmpty sizes) :
    getPieceIndexesOfFile sizes L j true = GeomSpec.pieceIndexesOfFile sizes L j true := by
  unfold getPieceIndexesOfFile GeomSpec.pieceIndexesOfFile
  refine lookupFile_bind fun hlt => ?_
  have hs := size_pos_of_noEmpty sizes hne j hlt
  have hbetween := fun x => between_iff sizes L j x hL hs
  simp only [if_true]
  generalize hf : floorDiv (GeomSpec.pos sizes j : Int) L = first at hbetween
  generalize hl : floorDiv ((GeomSpec.pos sizes j : Int) + (GeomSpec.size sizes j : Int) - 1) L = last
    at hbetween
  have hle : first ≤ last := by
    rw [← hf, ← hl]; exact Int.ediv_le_ediv (by omega) (by omega)
  have hF : ∀ x, first ≤ x ∧ x ≤ last → getFilesAtPieceIndex sizes L x =
      .ok (GeomSpec.filesAtByteRange sizes (x * (L : Int)) ((x + 1) * (L : Int) - 1)) := by
    intro x hx
    rw [getFilesAtPieceIndex_spec sizes L x hL hne, GeomSpec.filesAtPieceIndex,
      ((hbetween x).mp hx).1]
    rfl
  have hsorted := rangeIncl_sorted first last
  simp only [hF first ⟨by omega, hle⟩, hF last ⟨hle, by omega⟩, ok_bind]
  -- the two conditional `remove`s are two filters of the ascending range (`exclusive_closed`); both
  -- sides are then ascending lists, compared member by member
  refine (exclusive_closed _ first last _ _ hsorted ((mem_rangeIncl _ _ _).mpr ⟨by omega, hle⟩)).trans
    (congrArg Except.ok (eq_of_sorted_of_mem_iff (· < ·) (fun a b h1 h2 => by omega) _ _
      ((hsorted.filter _).filter _) (pieceIndexes_sorted _ _) fun x => ?_))
  rw [List.mem_filter, List.mem_filter, mem_rangeIncl, mem_pieceIndexes _ _ _ _ _ hL, ← hbetween]
  by_cases hx : first ≤ x ∧ x ≤ last
  · -- only the first and the last piece of a file can hold bytes of another one
    have hin := ((hbetween x).mp hx).2
    have hsing := filesAt_eq_singleton sizes L x j hlt hin
    simp only [hx, true_and, false_or, reduceCtorEq, Bool.not_eq_true', Bool.and_eq_false_imp, bne_iff_ne,
      beq_eq_false_iff_ne]
    constructor
    · rintro ⟨n1, n2⟩
      by_cases h1 : x = first
      · subst h1; exact hsing.mp (Decidable.not_not.mp fun h => n1 h rfl)
      by_cases h2 : x = last
      · subst h2; exact hsing.mp (Decidable.not_not.mp fun h => n2 h rfl)
      intro k _
      cases hk : GeomSpec.fileInPiece sizes L x k
      · exact Or.inr rfl
      · exact Or.inl (inner_piece sizes L j k x hL (by omega) (by omega) hk)
    · intro h
      have := hsing.mpr h
      exact ⟨by rintro n rfl; exact n this, by rintro n rfl; exact n this⟩
  · simp [hx]

theorem C11_get_absolute_piece_indexes_spec (sizes : List Nat) (L : Nat) (j : Nat)
    (rels : List Int) (hL : 0 < L) (hj : j < sizes.length → 0 < GeomSpec.size sizes j) :
    getAbsolutePieceIndexes sizes L j rels = GeomSpec.absolutePieceIndexes sizes L j rels := by
  unfold getAbsolutePieceIndexes getPieceIndexesOfFile GeomSpec.absolutePieceIndexes
  rw [bind_assoc]
  refine lookupFile_bind fun hlt => ?_
  have hs := hj hlt
  have hle : floorDiv (GeomSpec.pos sizes j : Int) L ≤
      floorDiv ((GeomSpec.pos sizes j : Int) + (GeomSpec.size sizes j : Int) - 1) L :=
    Int.ediv_le_ediv (by omega) (by omega)
  rw [if_neg (by omega)]
  simp only [bind, Except.bind, Bool.false_eq_true, if_false, pure, Except.pure,
    rangeIncl_head _ _ hle, rangeIncl_getLast _ _ hle]
  refine congrArg (fun l => Except.ok (sortDedup l)) (List.map_congr_left fun r _ => ?_)
  rw [clampRel_eq]
  rfl

/-- what the property demands of `get_relative_piece_indexes` — false for the code (D11c) -/
def C11_get_relative_piece_indexes_full : Prop :=
  ∀ (sizes : List Nat) (L j : Nat) (rels : List Int), 0 < L → j < sizes.length →
    0 < GeomSpec.size sizes j →
    .ok (getRelativePieceIndexes L (GeomSpec.size sizes j) rels) =
      GeomSpec.relativePieceIndexes sizes L j rels

/-- … true exactly where the file's piece count can be read off its size alone: the file starts
    on a piece boundary, or its offset inside the first piece does not push it over one more
    boundary (`SizeOnlyOk`, evaluated by the driver as `hyp`) -/
theorem C11_get_relative_piece_indexes_partial (sizes : List Nat) (L : Nat) (j : Nat)
    (rels : List Int) (hL : 0 < L) (hlt : j < sizes.length) (hs : 0 < GeomSpec.size sizes j)
    (hal : SizeOnlyOk sizes L j) :
    .ok (getRelativePieceIndexes L (GeomSpec.size sizes j) rels) =
      GeomSpec.relativePieceIndexes sizes L j rels := by
  unfold getRelativePieceIndexes GeomSpec.relativePieceIndexes
  rw [if_pos hlt, if_neg (by omega)]
  refine congrArg (fun l => Except.ok (sortDedup l)) (List.map_congr_left fun r _ => ?_)
  rw [clampRel_eq]
  congr 1
  unfold GeomSpec.pieceCount floorDiv
  unfold SizeOnlyOk at hal
  generalize GeomSpec.pos sizes j = p at *
  generalize GeomSpec.size sizes j = s at *
  -- in `Nat`: `(p + s - 1) / L = (p % L + s - 1) / L + p / L`, the first summand by `SizeOnlyOk`
  have key : (p + s - 1) / L = (s - 1) / L + p / L := by
    have e : p + s - 1 = (p % L + s - 1) + (p / L) * L := by
      have := Nat.div_add_mod' p L
      omega
    rw [e, Nat.add_mul_div_right _ _ hL, hal]
  have c1 : ((p + s - 1 : Nat) : Int) = (p : Int) + (s : Int) - 1 := by
    rw [Int.natCast_sub (by omega), Int.natCast_add]; rfl
  have c2 : ((s - 1 : Nat) : Int) = (s : Int) - 1 := Int.natCast_sub hs
  rw [← c1, ← c2, ← Int.natCast_ediv, ← Int.natCast_ediv, ← Int.natCast_ediv, key, Int.natCast_add,
    Int.add_sub_cancel]

/-- D11c witness: L = 2, sizes (1, 2), file 1, `[-1]` ⇒ `[0]`, arithmetic `[1]` -/
theorem C11_get_relative_piece_indexes_counterexample : ¬ C11_get_relative_piece_indexes_full := by
  intro h
  have := h [1, 2] 2 1 [-1] (by decide) (by decide) (by decide)
  revert this
  decide +kernel

/-- `get_piece i` returns exactly bytes `[i·L, (i+1)·L)` of the concatenated stream; an index
    outside `0 … ⌈T/L⌉-1` ⇒ ValueError; the final length assertion never fires -/
theorem C11_get_piece_spec (files : List (List α)) (L : Nat) (i : Int) (hL : 0 < L)
    (hne : NoEmptyFiles files) :
    getPiece files L true i = GeomSpec.piece files L i :=
  getPieceWith_spec _ files L i hL hne fun _ _ _ => rfl

/-- … identical to what sequential iteration (C01's `iterPieces`) yields at index `i` -/
theorem C11_get_piece_eq_iter (files : List (List α)) (L : Nat) (i : Int) (p : List α)
    (hL : 0 < L) (hne : NoEmptyFiles files) :
    getPiece files L true i = .ok p ↔ (0 ≤ i ∧ (Stream.iterPieces L files)[i.toNat]? = some p) := by
  rw [C11_get_piece_spec files L i hL hne, Stream.iterPieces_eq_chunks L hL, getElem?_chunks L hL]
  by_cases hv : GeomSpec.validPiece (files.map List.length) L i = true
  · obtain ⟨q, rfl, hlt⟩ := (validPiece_iff files L i).mp hv
    simp only [GeomSpec.piece, hv, if_true, Int.toNat_natCast, hlt, Int.natCast_nonneg, true_and,
      Except.ok.injEq, Option.some.injEq]
  · simp only [GeomSpec.piece, hv]
    constructor
    · intro h; cases h
    · rintro ⟨hi, h⟩
      split at h
      · next hc => exact absurd ((validPiece_iff files L i).mpr ⟨_, (Int.toNat_of_nonneg hi).symm, hc⟩) hv
      · cases h

theorem C11_get_piece_hash_spec (H : List α → δ) (files : List (List α)) (L : Nat) (i : Int)
    (hL : 0 < L) (hne : NoEmptyFiles files) :
    getPieceHash H files L true i = GeomSpec.pieceHash H files L i := by
  simp only [getPieceHash, GeomSpec.pieceHash, C11_get_piece_spec files L i hL hne]
  cases GeomSpec.piece files L i <;> rfl

theorem storedHash_cases (stored : List δ) (i : Int) :
    storedHash stored i = .error .value ∨ ∃ h, storedHash stored i = .ok h := by
  unfold storedHash
  simp only
  split
  · exact Or.inl rfl
  · split
    · exact Or.inr ⟨_, rfl⟩
    · exact Or.inl rfl

theorem storedHash_natCast (stored : List δ) (q : Nat) :
    storedHash stored (q : Int) = match stored[q]? with | some h => .ok h | none => .error .value := by
  unfold storedHash
  simp only [Int.natCast_nonneg, ge_iff_le, if_true, Int.toNat_natCast]
  split
  · next h => rw [List.getElem?_eq_none (by omega)]
  · rfl

theorem C11_verify_piece_spec [BEq δ] (H : List α → δ) (stored : List δ) (files : List (List α))
    (L : Nat) (i : Int) (hL : 0 < L) (hne : NoEmptyFiles files) :
    verifyPiece H stored files L true i = GeomSpec.verifyPiece H stored files L i := by
  simp only [Geometry.verifyPiece, GeomSpec.verifyPiece, C11_get_piece_hash_spec H files L i hL hne,
    GeomSpec.pieceHash]
  by_cases hv : GeomSpec.validPiece (files.map List.length) L i = true
  · obtain ⟨q, rfl, _⟩ := (validPiece_iff files L i).mp hv
    simp only [GeomSpec.piece, hv, if_true, storedHash_natCast, Int.toNat_natCast]
    cases stored[q]? <;> rfl
  · have hp : GeomSpec.piece files L i = .error .value := by
      simp only [GeomSpec.piece, hv]
      rfl
    rw [hp]
    rcases storedHash_cases stored i with h | ⟨h, hh⟩
    · rw [h]; rfl
    · rw [hh]; rfl

/-- the hash check says `True` exactly when piece `i` exists, a hash is stored for it and the
    stored hash equals the hash of bytes `[i·L, (i+1)·L)` -/
theorem C11_verify_piece_iff [BEq δ] (H : List α → δ) (stored : List δ) (files : List (List α))
    (L : Nat) (i : Int) (hL : 0 < L) (hne : NoEmptyFiles files) :
    verifyPiece H stored files L true i = .ok true ↔
      ∃ p h, GeomSpec.piece files L i = .ok p ∧ stored[i.toNat]? = some h ∧ (h == H p) = true := by
  rw [C11_verify_piece_spec H stored files L i hL hne]
  unfold GeomSpec.verifyPiece
  cases hp : GeomSpec.piece files L i with
  | error e => simp
  | ok p =>
    cases hs : stored[i.toNat]? with
    | none => simp
    | some h => simp

/-- zero-length files contribute no bytes: every piece and the number of pieces are those of the
    layout without them, and the arithmetic definition of the files of a byte range (hence of a
    piece) never names a zero-length file -/
theorem C11_empty_files_neutral (files : List (List α)) (L : Nat) (i : Int) :
    GeomSpec.piece (files.filter (fun f => !f.isEmpty)) L i = GeomSpec.piece files L i ∧
    GeomSpec.maxPieceIndex ((files.filter (fun f => !f.isEmpty)).map List.length) L =
      GeomSpec.maxPieceIndex (files.map List.length) L ∧
    (∀ a b j, j ∈ GeomSpec.filesAtByteRange (files.map List.length) a b →
      0 < GeomSpec.size (files.map List.length) j) := by
  have htot : GeomSpec.total ((files.filter (fun f => !f.isEmpty)).map List.length) =
      GeomSpec.total (files.map List.length) := by
    unfold GeomSpec.total
    rw [← List.length_flatten, ← List.length_flatten, List.flatten_filter_not_isEmpty]
  refine ⟨?_, ?_, ?_⟩
  · unfold GeomSpec.piece GeomSpec.validPiece
    rw [htot, List.flatten_filter_not_isEmpty]
  · unfold GeomSpec.maxPieceIndex
    rw [htot]
  · intro a b j hj
    exact ((fileInRange_iff _ a b j).mp ((mem_filesAtByteRange _ a b j).mp hj).2).1

/-- the code is not neutral (open finding D11a): a zero-length entry behind a file that ends on
    a piece boundary makes `get_piece` fail its own length assertion, makes a non-existent
    piece index answer, and is reported as occupying a piece -/
theorem C11_empty_files_neutral_counterexample :
    getPiece [[1, 2], []] 2 true 0 = .error (.internal "AssertionError") ∧
    getPiece [[1, 2]] 2 true 0 = .ok [1, 2] ∧
    getFilesAtPieceIndex [2, 0] 2 1 = .ok [1] ∧
    GeomSpec.filesAtPieceIndex [2, 0] 2 1 = .error .value ∧
    getPieceIndexesOfFile [1, 0, 1] 2 1 false = .ok [0] ∧
    GeomSpec.pieceIndexesOfFile [1, 0, 1] 2 1 false = .ok [] := by
  decide +kernel

/-- the content path in effect is the method argument, else the class argument, else
    `Torrent.path`; with a non-empty content path a multi-file torrent's file is re-rooted there,
    with `''` or none the torrent's own `File` object is returned -/
theorem C11_content_path_priority (arg cls tpath : Option String) (single : Bool) (j : Nat) :
    (∀ p, arg = some p → contentPath arg cls tpath = some p) ∧
    (∀ p, arg = none → cls = some p → contentPath arg cls tpath = some p) ∧
    (arg = none → cls = none → contentPath arg cls tpath = tpath) ∧
    returned single none j = .torrentFile j ∧ returned single (some "") j = .torrentFile j := by
  refine ⟨?_, ?_, ?_, rfl, ?_⟩
  · intro p h; subst h; rfl
  · intro p h1 h2; subst h1; subst h2; rfl
  · intro h1 h2; subst h1; subst h2; rfl
  · simp [returned]

/-! Non-vacuity of the hypotheses: concrete layouts (file boundary inside a piece). -/
example : NoEmpty [1, 2, 3] := by unfold NoEmpty; decide
example : NoEmptyFiles [[1], [2, 3], [4, 5, 6]] := by unfold NoEmptyFiles; decide
example : getFilesAtPieceIndex [1, 2, 3] 2 1 = .ok [1, 2] := by decide +kernel
example : getPieceIndexesOfFile [1, 2, 3] 2 2 false = .ok [1, 2] := by decide +kernel
example : getPieceIndexesOfFile [1, 2, 5] 2 2 true = .ok [2, 3] := by decide +kernel
example : getAbsolutePieceIndexes [1, 2, 3] 2 2 [-1, 0, 7] = .ok [1, 2] := by decide +kernel
example : SizeOnlyOk [2, 3] 2 1 := by unfold SizeOnlyOk; decide
example : ¬ SizeOnlyOk [1, 2] 2 1 := by unfold SizeOnlyOk; decide
example : getPiece [[1], [2, 3], [4, 5, 6]] 2 true 1 = .ok [3, 4] := by decide +kernel
example : verifyPiece id [[1, 2], [0, 0], [5, 6]] [[1], [2, 3], [4, 5, 6]] 2 true 1 = .ok false := by decide +kernel

end Torf.C11
