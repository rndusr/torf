/-
  C19 — bridge theorems to the kernels translated from `TorrentFileStream._get_open_file` and the
  class body of `TorrentFileStream` (regenerated from the source on every run): the model's
  eviction loop (`Handles.evict`) makes exactly the iterations the code's
  `while len(self._open_files) > self.max_open_files` makes, hence the bound of `C19_open_bound`
  (at most cap + 1 handles) is the bound of the code's loop condition; with the class default of
  `max_open_files` written in the source that is 11 handles — the number the property's statement
  ("a fixed cap") and the harness's default cases refer to.
-/
import Torf.Generated.Kernels
import Torf.Properties.C19
namespace Torf.C19
open Torf Torf.Generated Torf.Handles

/-- the code's loop condition, over Python integers, is the model's `cap < length` -/
theorem evictWhile_cast (n cap : Nat) : evictWhile n cap = decide (cap < n) :=
  decide_eq_decide.2 (by omega)

/-- one unfolding of the model's loop is one test of the code's `while` condition -/
theorem C19_kernel_evict_step (cap : Nat) (t : Table) :
    evict cap t = if evictWhile t.length cap then evict cap t.tail else t := by
  rw [evictWhile_cast]
  cases t with
  | nil => rfl
  | cons e t => simp [evict]

/-- the loop stops exactly when the code's condition is false: afterwards the condition does not hold … -/
theorem C19_kernel_evict_exit (cap : Nat) : ∀ t : Table, evictWhile (evict cap t).length cap = false := by
  -- the loop keeps the last `cap` entries
  intro t
  rw [evictWhile_cast, Handles.evict_eq_drop, List.length_drop]
  exact decide_eq_false (by omega)

/-- … and nothing is closed while the condition is false -/
theorem C19_kernel_evict_noop (cap : Nat) (t : Table) (h : evictWhile t.length cap = false) : evict cap t = t := by
  rw [C19_kernel_evict_step, h]; simp

/-- with the class default written in the source, every reachable table of a stream that never had its
    `max_open_files` changed holds at most 11 handles -/
theorem C19_kernel_default_bound [BEq δ] (c : Cfg α δ) (t : Table) (hc : (c.cap : Int) = maxOpenFilesDefault)
    (h : Reach c t) : t.length ≤ 11 := by
  have := C19_open_bound c t h
  unfold maxOpenFilesDefault at hc
  omega

end Torf.C19
