/-
  C20 on spelled content paths — the size check judges the tree the *operating system* resolves
  the given `path` to: absolute or relative to the working directory, with `.`, `..`, doubled or
  trailing slashes, through symbolic links (`link/..` is the parent of the link's target).
  Property theorems only (helper lemmas: Torf.Lemmas.FileSizePath).

  Reading guide: `verifyFilesizeAt lexical w dt t p cb` (Torf.Model.FileSizePath) is
  `verify_filesize(p, cb)` in the world `w` (inode table + working directory, path resolution =
  `Torf.Reuse.resolve` of property C18; `dt` = total size below a directory); `lexical = false`
  is the code (`os.path.isdir(path)` on the spelling as given, every file through
  `pathlib.Path(path, *names)`), `lexical = true` the variant that first takes
  `os.path.normpath(path)`.  `treeAt fs dt k loc` is the tree at a *location* (chain of real
  directories, or a regular file) — no spelling occurs in it; `k` = symbolic links still allowed
  per lookup (the OS allows 40 per resolution; the ones met in the spelling are used up).
-/
import Torf.Lemmas.FileSizePath
namespace Torf.C20
open Torf Torf.FileSize
open Torf.Paths (PPath)
open Torf.Reuse (resolve walk maxLinks Loc Node)

/-- **The verdict depends on the directory the spelling resolves to, not on its text.**  If the OS
    resolves `path` to the directory `st`, then — for every torrent with a well-formed layout and
    every callback — result, raised error and callback trace of `verify_filesize(path)` are those
    of the specification (`spec`: exactness, one error per offending file, callback protocol)
    evaluated on the tree at `st`; the spelling enters only through the number `k ≤ 40` of symbolic
    links that are still allowed below it. -/
theorem C20_path_spelling (w : Reuse.World) (dt : Nat → Nat) (p : PPath) (st : List Nat)
    (hres : resolve w p = .ok (.dir st)) :
    ∃ k, k ≤ maxLinks ∧ ∀ (t : Torrent) (cb : Callback), WF t →
      verifyFilesizeAt false w dt t p cb = spec t (treeAt w.fs dt k (.dir st)) cb := by
  obtain ⟨k, hk, hkk⟩ := resolve_fsPath_names w p st hres
  exact ⟨k, hk, fun t cb hwf =>
    verifyFilesizeAt_dir w dt t hwf p cb st hres k fun f hf => hkk f.path (hwf.2 f hf)⟩

/-- … and a single-file torrent whose `path` the OS resolves to a regular file is judged on that
    file, whatever the spelling. -/
theorem C20_path_spelling_file (w : Reuse.World) (dt : Nat → Nat) (p : PPath) (ino : Nat)
    (hres : resolve w p = .ok (.file ino)) (t : Torrent) (hs : t.isSingle = true) (hwf : WF t)
    (cb : Callback) :
    verifyFilesizeAt false w dt t p cb = spec t (treeAt w.fs dt 0 (.file ino)) cb := by
  apply verifyFilesizeAt_eq_spec w dt t hwf p cb
  · intro _
    simp only [Reuse.isdir, hres, treeAt, List.isEmpty_nil, if_true, entryOf]
    cases w.fs[ino]? with
    | none => rfl
    | some nd => cases nd <;> rfl
  · intro f hf
    obtain ⟨n, hl⟩ := listed_of_isSingle hs
    rw [hl, List.mem_singleton] at hf
    simp only [viewOf, treeAt, hf, List.isEmpty_nil, if_true]
    rw [resolve_fsPath_nil w p _ hres]

/-- **Two spellings of the same directory get the same verdict** (result, raised error, callback
    trace index by index), as long as the OS's limit of 40 symbolic links per resolution is not hit
    when the listed files are looked up through either of them. -/
theorem C20_path_spelling_same (w : Reuse.World) (dt : Nat → Nat) (p q : PPath) (st : List Nat)
    (hp : resolve w p = .ok (.dir st)) (hq : resolve w q = .ok (.dir st))
    (t : Torrent) (hwf : WF t) (cb : Callback)
    (hlp : ∀ f ∈ t.listed, resolve w (fsPath p f.path) ≠ .error .loop)
    (hlq : ∀ f ∈ t.listed, resolve w (fsPath q f.path) ≠ .error .loop) :
    verifyFilesizeAt false w dt t p cb = verifyFilesizeAt false w dt t q cb := by
  obtain ⟨kp, _, hkp⟩ := resolve_fsPath_names w p st hp
  obtain ⟨kq, _, hkq⟩ := resolve_fsPath_names w q st hq
  -- both are judged on the tree at `st` with the budget `kq`: under `p` that budget does as well as `kp`
  rw [verifyFilesizeAt_dir w dt t hwf q cb st hq kq fun f hf => hkq f.path (hwf.2 f hf),
    verifyFilesizeAt_dir w dt t hwf p cb st hp kq fun f hf => ?_]
  have h1 := hlp f hf
  have h2 := hlq f hf
  rw [hkp f.path (hwf.2 f hf)] at h1 ⊢
  rw [hkq f.path (hwf.2 f hf)] at h2
  exact Reuse.walk_budget_irrelevant w.fs kp kq st f.path h1 h2

/-- **pathlib's tidying is harmless**: the path the code reports and hands to the OS for the top
    (`str(pathlib.Path(path))`: no empty or `.` components, `..` kept) denotes what `path` denotes. -/
theorem C20_path_tidy_sound (w : Reuse.World) (p : PPath) (l : Loc) (h : resolve w p = .ok l) :
    resolve w (fsPath p []) = .ok l :=
  resolve_fsPath_nil w p l h

/-! ### lexical normalisation (`os.path.normpath`, hence `abspath`) is not path resolution -/

/-- `/dl/current -> /store/incoming`; the content lies in `/store/Album` (file `a`, truncated to
    3 bytes); an unrelated intact-looking `Album` lies at the lexical location `/dl/Album` -/
def exFS : Reuse.FS :=
  [ .dir true true [("dl", 1), ("store", 3)],          -- 0  /
    .dir true true [("current", 2), ("Album", 7)],     -- 1  /dl
    .link ⟨true, ["store", "incoming"]⟩,               -- 2  /dl/current
    .dir true true [("incoming", 4), ("Album", 5)],    -- 3  /store
    .dir true true [],                                  -- 4  /store/incoming
    .dir true true [("a", 6)],                          -- 5  /store/Album
    .file 3 true 0,                                     -- 6  /store/Album/a   (5 bytes recorded)
    .dir true true [("a", 8)],                          -- 7  /dl/Album
    .file 5 true 1 ]                                    -- 8  /dl/Album/a
def exWorld : Reuse.World := ⟨exFS, [], 0, fun _ => (.undecodable, fun _ => .missing)⟩
/-- the same, but the real content is intact and nothing lies at the lexical location -/
def exFS2 : Reuse.FS :=
  [ .dir true true [("dl", 1), ("store", 3)], .dir true true [("current", 2)],
    .link ⟨true, ["store", "incoming"]⟩, .dir true true [("incoming", 4), ("Album", 5)],
    .dir true true [], .dir true true [("a", 6)], .file 5 true 0 ]
def exWorld2 : Reuse.World := ⟨exFS2, [], 0, fun _ => (.undecodable, fun _ => .missing)⟩
def exSpelling : PPath := ⟨true, ["dl", "current", "..", "Album"]⟩
def exAlbum : Torrent := ⟨"Album", .multi [⟨["a"], 5⟩], 16384, 20⟩

/-- **Counterexample for the normalising variant.**  The OS resolves `/dl/current/../Album` to
    `/store/Album`; `normpath` makes `/dl/Album` of it.  World 1: the code reports the truncated
    file (3 instead of 5 bytes), the variant returns `True` — it looked at the unrelated tree.
    World 2: the content is complete and the code returns `True`, the variant reports the file as
    missing (where full verification, which hands the spelling to the OS, succeeds). -/
theorem C20_lexical_normalisation_unsound :
    resolve exWorld exSpelling = .ok (.dir [5, 3]) ∧
    normP exSpelling = ⟨true, ["dl", "Album"]⟩ ∧
    resolve exWorld (normP exSpelling) = .ok (.dir [7, 1]) ∧
    verifyFilesizeAt false exWorld (fun _ => 0) exAlbum exSpelling none = (.raised (.size 3 5), []) ∧
    verifyFilesizeAt true exWorld (fun _ => 0) exAlbum exSpelling none = (.ok true, []) ∧
    verifyFilesizeAt false exWorld2 (fun _ => 0) exAlbum exSpelling none = (.ok true, []) ∧
    verifyFilesizeAt true exWorld2 (fun _ => 0) exAlbum exSpelling (some fun _ => false)
      = (.ok false, [⟨0, 1, 1, some .read⟩]) := by
  decide +kernel

/-! ### Non-vacuity -/

example : WF exAlbum := by decide +kernel
/-- the hypotheses of `C20_path_spelling_same`: another spelling of `/store/Album` (relative to the
    working directory `/dl`, doubled and trailing slashes, a `.`), no ELOOP under either -/
def exSpelling2 : PPath := ⟨false, ["current", "..", "", "incoming", ".", "..", "Album", ""]⟩
example : resolve { exWorld with cwd := [1] } exSpelling2 = .ok (.dir [5, 3]) := by decide +kernel
example : resolve { exWorld with cwd := [1] } exSpelling = .ok (.dir [5, 3]) := by decide +kernel
example : ∀ f ∈ exAlbum.listed,
    resolve { exWorld with cwd := [1] } (fsPath exSpelling2 f.path) = .ok (.file 6) := by
  intro f hf
  simp only [exAlbum, Torrent.listed, List.mem_singleton] at hf
  subst hf; rfl
example : verifyFilesizeAt false { exWorld with cwd := [1] } (fun _ => 0) exAlbum exSpelling2 none
    = (.raised (.size 3 5), []) := by decide +kernel
/-- a single-file torrent at a regular file, reached plainly and through the link (`current/..`) -/
example : resolve exWorld ⟨true, ["store", "Album", "a"]⟩ = .ok (.file 6) := by decide +kernel
example : verifyFilesizeAt false exWorld (fun _ => 0) ⟨"a", .single 3, 16384, 20⟩
    ⟨true, ["dl", "current", "..", "Album", ".", "a"]⟩ none = (.ok true, []) := by decide +kernel

end Torf.C20
