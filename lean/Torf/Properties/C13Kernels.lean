/-
  C13 — bridge theorems to the parameter tables of `torf/_magnet.py`, translated from the source on
  every run: `Magnet._KNOWN_PARAMETERS`, the two literal tuples `from_string` loops over (parameters
  that take one value / several values) and the two `__str__` loops over (keys rendered once / once
  per item). The model's parser and renderer (`Magnet.fromPairs`, `Magnet.pieces`), about which the
  round-trip theorems of C13 are proved, use exactly these names in exactly this order — including the
  literal `as_` the renderer writes for the acceptable source (finding D13a), which is what makes the
  generated render table differ from the generated parse table.
-/
import Torf.Generated.Kernels
import Torf.Model.MagnetUri
namespace Torf.C13
open Torf Torf.Generated Torf.Magnet

/-- the model's "Unknown parameter" test uses the source's `_KNOWN_PARAMETERS` -/
theorem C13_kernel_known_params : knownParams = magnetKnownParameters.map String.toList := by
  decide +kernel

theorem C13_kernel_known_key (k : Str) :
    isKnownKey k = (decide (k ∈ magnetKnownParameters.map String.toList) || (k.take 2 == ['x', '_'])) := by
  unfold isKnownKey
  rw [C13_kernel_known_params]

/-- the parameters `from_string` reads as single values / as lists are the ones `fromPairs` reads so -/
theorem C13_kernel_parse_tables :
    [kDn, kXl, kXs, kAs, kKt] = magnetSingleParams.map String.toList ∧
    [kTr, kWs] = magnetMultiParams.map String.toList := by
  decide +kernel

/-- every name the parser reads is a known parameter (no field of a rendered link can be "unknown") … -/
theorem C13_kernel_parse_tables_known :
    ∀ k ∈ magnetSingleParams ++ magnetMultiParams, k ∈ magnetKnownParameters := by
  decide +kernel

/-- `__str__`: the model's `pieces` writes the keys of the source's two render loops, in their order -/
theorem C13_kernel_render_order (m : MagnetObj) :
    pieces m =
      [kv kXt (urnPrefix ++ m.infohash)]
      ++ ((magnetRenderSingle.map String.toList).zip
            [m.dn.map quotePlus, m.xl.map decimal, m.xs.map quotePlus, m.as_.map quotePlus]).flatMap
          (fun kv' => match kv'.2 with | none => [] | some v => [kv kv'.1 v])
      ++ (if m.kt.isEmpty then [] else [kv kKt (intercalateStr ['+'] (m.kt.map quotePlus))])
      ++ ((magnetRenderMulti.map String.toList).zip [m.tr, m.ws]).flatMap
          (fun ku => ku.2.map fun u => kv ku.1 (quotePlus u))
      ++ m.x.map (fun p => kv ('x' :: '.' :: p.1) (quotePlus p.2)) := by
  have h1 : magnetRenderSingle.map String.toList = [kDn, kXl, kXs, kAsUnderscore] := by decide +kernel
  have h2 : magnetRenderMulti.map String.toList = [kTr, kWs] := by decide +kernel
  rw [h1, h2]
  unfold pieces
  have e : ∀ {α : Type} (k : Str) (enc : α → Str) (o : Option α),
      (match o.map enc with | none => [] | some v => [kv k v]) = optPiece k enc o := by
    intro α k enc o; cases o <;> rfl
  simp only [List.zip_cons_cons, List.zip_nil_right, List.flatMap_cons, List.flatMap_nil, e,
    List.append_nil, List.append_assoc]

end Torf.C13
