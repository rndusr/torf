/-
  C16 — bridge theorems to the loop kernels translated from the de-duplicating core of
  `MonitoredList` (torf/_utils.py; regenerated from the source on every run):

    mlFilterFn   = `MonitoredList._filter_func(item)`       (the item, or None if it is in `_items`)
    mlInsertFn   = `MonitoredList.insert(index, value)`     (result: the new `_items`)
    mlSetItemFn  = `MonitoredList.__setitem__(index, value)` for an integer index
                   (result: the new `_items`, or IndexError with `_items` unchanged)

    urlsFilterFn / urlsInsertFn / urlsSetItemFn = the same on a `URLs` object: `self._filter_func`
                   is the override `URLs._filter_func` (`… and url not in self._get_known_urls()`),
                   `known` = `self._get_known_urls()`; these are the objects C16 is about

  On the translated level an item is an integer: its identity after coercion.  The model
  (Model/Lists.lean) works on strings, is parameterised by `known` (the URLs of the other tiers;
  a plain `MonitoredList` has none, so every `ml*` function is the `urls*` function at `known = []` and
  its theorems are instances of the `urls_` ones) and coerces first (`coerce isUrl u = .ok c`; the
  translated functions start after the coercion).  The bridges therefore say: for EVERY injective
  `enc : String → Int`, every list, index and value, the generated function on the encoded
  arguments is the encoded result of the model's function (`filterIns`, `readd`, `urlsOp … (.setItem …)`).
  `*_spec` theorems state the same on plain integer lists without any encoding.
-/
import Torf.Generated.Kernels
import Torf.Lemmas.ListsUrl
import Torf.Lemmas.Basics
namespace Torf.C16
open Torf.Lists Torf.Generated Torf.Loop

/-- `xs.insert(i, v)`: `pyInsert` (Base/Loop.lean) is the model's `clampIdx` + `splice` -/
theorem pyInsert_eq_splice (xs : List Int) (i v : Int) :
    pyInsert xs i v = splice xs (clampIdx xs.length i) (clampIdx xs.length i) [v] := by
  have key : ((if i < 0 then (if i + (xs.length : Int) < 0 then 0 else i + (xs.length : Int))
        else (if i > (xs.length : Int) then (xs.length : Int) else i)) : Int).toNat
      = clampIdx xs.length i := by
    unfold clampIdx
    split <;> split <;> omega
  simp only [pyInsert, splice, key, List.append_assoc, List.singleton_append]

/-- `xs[i] = v`: `setIdx` is the model's `pyIndex` + `List.set` -/
theorem setIdx_eq_pyIndex (xs : List Int) (i v : Int) :
    setIdx xs i v = (pyIndex xs.length i).map fun k => xs.set k v := by
  unfold setIdx pyIndex
  by_cases h : 0 ≤ i
  · simp only [ge_iff_le, h, if_true]; split <;> rfl
  · have e : xs.length - (-i).toNat = (i + (xs.length : Int)).toNat := by omega
    have c : (-i).toNat ≤ xs.length ↔ 0 ≤ i + (xs.length : Int) := by omega
    simp only [ge_iff_le, h, if_false, c, e]; split <;> rfl

theorem pyIndex_eq_none_iff (n : Nat) (i : Int) :
    pyIndex n i = none ↔ ¬ (-(n : Int) ≤ i ∧ i < n) := by
  unfold pyIndex
  split <;> (simp only [ite_eq_right_iff, reduceCtorEq, imp_false]; omega)

/-- the re-adding loop of a plain `MonitoredList`: the first occurrence of every item is kept -/
def readdInt : List Int → List Int → List Int
  | acc, [] => acc
  | acc, x :: xs => if x ∈ acc then readdInt acc xs else readdInt (acc ++ [x]) xs

/-- … of a `URLs` object, which also drops what is `known` elsewhere: the model's `readd` on integers -/
def readdK (known : List Int) : List Int → List Int → List Int
  | acc, [] => acc
  | acc, x :: xs => if x ∈ acc ∨ x ∈ known then readdK known acc xs else readdK known (acc ++ [x]) xs

theorem readdInt_eq (acc xs : List Int) : readdInt acc xs = readdK [] acc xs := by
  induction xs generalizing acc with
  | nil => rfl
  | cons x xs ih => simp only [readdInt, readdK, List.not_mem_nil, or_false, ih]

theorem mlFilterFn_eq (xs : List Int) (x : Int) : mlFilterFn xs x = urlsFilterFn xs [] x := by
  simp [mlFilterFn, urlsFilterFn]

theorem mlInsertFn_eq (xs : List Int) (i v : Int) : mlInsertFn xs i v = urlsInsertFn xs [] i v := by
  simp only [mlInsertFn, urlsInsertFn, mlFilterFn_eq]

theorem mlSetItemFn_loop_eq (i v : Int) (its xs acc : List Int) :
    mlSetItemFn.loop i its v xs acc = urlsSetItemFn.loop i its [] v xs acc := by
  induction xs generalizing acc with
  | nil => rfl
  | cons x xs ih => simp only [mlSetItemFn.loop, urlsSetItemFn.loop, mlFilterFn_eq, ih]

theorem mlSetItemFn_eq (xs : List Int) (i v : Int) : mlSetItemFn xs i v = urlsSetItemFn xs [] i v := by
  simp only [mlSetItemFn, urlsSetItemFn, mlSetItemFn_loop_eq]

theorem C16_kernel_loop_urls_filter_spec (xs known : List Int) (x : Int) :
    urlsFilterFn xs known x = .ret (if x ∈ xs ∨ x ∈ known then none else some x) := by
  unfold urlsFilterFn
  by_cases h : x ∈ xs <;> by_cases h2 : x ∈ known <;> simp [h, h2]

/-- `_filter_func` -/
theorem C16_kernel_loop_filter_spec (xs : List Int) (x : Int) :
    mlFilterFn xs x = .ret (if x ∈ xs then none else some x) := by
  rw [mlFilterFn_eq, C16_kernel_loop_urls_filter_spec]; simp

theorem C16_kernel_loop_urls_insert_spec (xs known : List Int) (i v : Int) :
    urlsInsertFn xs known i v = .ret (if v ∈ xs ∨ v ∈ known then xs else
      splice xs (clampIdx xs.length i) (clampIdx xs.length i) [v]) := by
  unfold urlsInsertFn
  simp only [C16_kernel_loop_urls_filter_spec]
  by_cases h : v ∈ xs ∨ v ∈ known <;> simp [h, pyInsert_eq_splice]

/-- `insert`: nothing happens if the value is in the list, otherwise Python's `list.insert` -/
theorem C16_kernel_loop_insert_spec (xs : List Int) (i v : Int) :
    mlInsertFn xs i v = .ret (if v ∈ xs then xs else
      splice xs (clampIdx xs.length i) (clampIdx xs.length i) [v]) := by
  rw [mlInsertFn_eq, C16_kernel_loop_urls_insert_spec]; simp

theorem urls_setitem_loop_spec (i v : Int) (its known : List Int) (xs acc : List Int) :
    urlsSetItemFn.loop i its known v xs acc = .ret (readdK known acc xs) := by
  induction xs generalizing acc with
  | nil => simp [urlsSetItemFn.loop, readdK]
  | cons x xs ih =>
    unfold urlsSetItemFn.loop readdK
    simp only [C16_kernel_loop_urls_filter_spec]
    by_cases h : x ∈ acc ∨ x ∈ known <;> simp [h, ih]

/-- stated with `Out.ofOption`, not with a `match`: Lean names a matcher after the first declaration that
    contains the `match`, and the one the statements of `C16_kernel_loop_setitem_spec` and
    `C16_kernel_loop_urls_setitem_spec` share is to be `C16_kernel_loop_setitem_spec.match_1`.  Likewise
    `urlsSetItemFn_model` in front of `C16_kernel_loop_setitem`. -/
theorem urlsSetItemFn_eq (xs known : List Int) (i v : Int) :
    urlsSetItemFn xs known i v =
      .ofOption ((pyIndex xs.length i).map fun k => readdK known [] (xs.set k v)) "IndexError" := by
  unfold urlsSetItemFn
  simp only [setIdx_eq_pyIndex]
  cases pyIndex xs.length i with
  | none => rfl
  | some k => simp [urls_setitem_loop_spec]

/-- `__setitem__` (integer index) -/
theorem C16_kernel_loop_setitem_spec (xs : List Int) (i v : Int) :
    mlSetItemFn xs i v = match pyIndex xs.length i with
      | none => .raised "IndexError"
      | some k => .ret (readdInt [] (xs.set k v)) := by
  rw [mlSetItemFn_eq, urlsSetItemFn_eq]
  cases pyIndex xs.length i <;> simp [readdInt_eq]

theorem C16_kernel_loop_urls_setitem_spec (xs known : List Int) (i v : Int) :
    urlsSetItemFn xs known i v = match pyIndex xs.length i with
      | none => .raised "IndexError"
      | some k => .ret (readdK known [] (xs.set k v)) := by
  rw [urlsSetItemFn_eq]
  cases pyIndex xs.length i <;> rfl

theorem urlsSetItemFn_raises (xs known : List Int) (i v : Int) :
    urlsSetItemFn xs known i v = .raised "IndexError" ↔ ¬ (-(xs.length : Int) ≤ i ∧ i < xs.length) := by
  rw [urlsSetItemFn_eq, ← pyIndex_eq_none_iff]
  cases pyIndex xs.length i <;> simp

section
variable (enc : String → Int) (henc : Function.Injective enc)
include henc

theorem readdK_map (known acc xs : List String) :
    readdK (known.map enc) (acc.map enc) (xs.map enc) = (readd known acc xs).map enc := by
  induction xs generalizing acc with
  | nil => simp [readdK, readd]
  | cons x xs ih =>
    simp only [List.map_cons, readdK, readd, mem_map_inj henc]
    by_cases h : x ∈ acc ∨ x ∈ known
    · simp [h, ih]
    · have := ih (acc ++ [x])
      simp only [List.map_append, List.map_cons, List.map_nil] at this
      simp [h, this]

/-- `URLs._filter_func` = the test of the model's `filterIns` -/
theorem C16_kernel_loop_urls_filter (known items : List String) (c : String) :
    urlsFilterFn (items.map enc) (known.map enc) (enc c) =
      .ret (if c ∈ items ∨ c ∈ known then none else some (enc c)) := by
  rw [C16_kernel_loop_urls_filter_spec]
  simp [mem_map_inj henc]

/-- `_filter_func` = the membership test of the model's `filterIns` -/
theorem C16_kernel_loop_filter (items : List String) (c : String) :
    mlFilterFn (items.map enc) (enc c) = .ret (if c ∈ items ∨ c ∈ ([] : List String) then none else some (enc c)) :=
  mlFilterFn_eq .. ▸ C16_kernel_loop_urls_filter enc henc [] items c

/-- `insert` on a `URLs` object = the model's `filterIns`, for every `known`, list, index and value
    the coercion accepts: the generated function on the encoded list and the encoded coerced value is
    the encoded result of the model -/
theorem C16_kernel_loop_urls_insert (isUrl : String → Bool) (known items : List String) (idx : Int)
    (u c : String) (hc : coerce isUrl u = .ok c) :
    ∃ r, filterIns isUrl known items idx u = .ok r ∧
      urlsInsertFn (items.map enc) (known.map enc) idx (enc c) = .ret (r.map enc) := by
  unfold filterIns
  rw [hc, C16_kernel_loop_urls_insert_spec]
  simp only [mem_map_inj henc, List.length_map]
  by_cases h : c ∈ items ∨ c ∈ known
  · exact ⟨items, by simp [h], by simp [h]⟩
  · refine ⟨_, by simp only [h, if_false]; rfl, ?_⟩
    simp [h, splice, List.map_take, List.map_drop]

/-- `insert` = the model's `filterIns` (with `known = []`) -/
theorem C16_kernel_loop_insert (isUrl : String → Bool) (items : List String) (idx : Int) (u c : String)
    (hc : coerce isUrl u = .ok c) :
    ∃ r, filterIns isUrl [] items idx u = .ok r ∧
      mlInsertFn (items.map enc) idx (enc c) = .ret (r.map enc) :=
  mlInsertFn_eq .. ▸ C16_kernel_loop_urls_insert enc henc isUrl [] items idx u c hc

/-- the re-adding loop of `__setitem__` = the model's `readd` -/
theorem C16_kernel_loop_setitem_readd (i v : Int) (its : List Int) (acc xs : List String) :
    mlSetItemFn.loop i its v (xs.map enc) (acc.map enc) = .ret ((readd [] acc xs).map enc) := by
  rw [mlSetItemFn_loop_eq, urls_setitem_loop_spec]
  exact congrArg _ (readdK_map enc henc [] acc xs)

/-- `lst[i] = u` = the model's `urlsOp known items (.setItem i u)`, for every list, index and value
    the coercion accepts: the new `_items` when the model calls the callback with them and reports no
    error, IndexError when it reports `(none, .error .index)` (nothing written back) -/
theorem urlsSetItemFn_model (isUrl : String → Bool) (known items : List String) (i : Int)
    (u c : String) (hc : coerce isUrl u = .ok c) :
    urlsSetItemFn (items.map enc) (known.map enc) i (enc c) =
      .ofOption ((urlsOp isUrl known items (.setItem i u)).1.map (List.map enc)) "IndexError" := by
  rw [urlsSetItemFn_eq]
  simp only [urlsOp, hc, List.length_map]
  cases pyIndex items.length i with
  | none => rfl
  | some k => simp [← readdK_map enc henc known [] (items.set k c), List.map_set]

/-- `__setitem__` (integer index) = the model's `urlsOp … (.setItem i u)` (with `known = []`) -/
theorem C16_kernel_loop_setitem (isUrl : String → Bool) (items : List String) (i : Int) (u c : String)
    (hc : coerce isUrl u = .ok c) :
    mlSetItemFn (items.map enc) i (enc c) =
      match urlsOp isUrl [] items (.setItem i u) with
      | (some r, .ok) => .ret (r.map enc)
      | _ => .raised "IndexError" := by
  rw [mlSetItemFn_eq]
  refine (urlsSetItemFn_model enc henc isUrl [] items i u c hc).trans ?_
  simp only [urlsOp, hc]
  cases pyIndex items.length i <;> rfl

theorem C16_kernel_loop_urls_setitem (isUrl : String → Bool) (known items : List String) (i : Int)
    (u c : String) (hc : coerce isUrl u = .ok c) :
    urlsSetItemFn (items.map enc) (known.map enc) i (enc c) =
      match urlsOp isUrl known items (.setItem i u) with
      | (some r, .ok) => .ret (r.map enc)
      | _ => .raised "IndexError" := by
  rw [urlsSetItemFn_model enc henc isUrl known items i u c hc]
  simp only [urlsOp, hc]
  cases pyIndex items.length i <;> rfl

omit henc in
/-- … and the model raises IndexError exactly when the generated function does -/
theorem C16_kernel_loop_setitem_error (isUrl : String → Bool) (items : List String) (i : Int) (u c : String)
    (hc : coerce isUrl u = .ok c) :
    mlSetItemFn (items.map enc) i (enc c) = .raised "IndexError" ↔
      urlsOp isUrl [] items (.setItem i u) = (none, .error .index) := by
  rw [mlSetItemFn_eq, urlsSetItemFn_eq]
  simp only [urlsOp, hc, List.length_map]
  cases pyIndex items.length i <;> simp

end

theorem readdK_nodup_disjoint (known acc xs : List Int) (h : acc.Nodup ∧ ∀ a ∈ acc, a ∉ known) :
    (readdK known acc xs).Nodup ∧ ∀ a ∈ readdK known acc xs, a ∉ known := by
  induction xs generalizing acc with
  | nil => exact h
  | cons x xs ih =>
    unfold readdK
    split
    · exact ih acc h
    · rename_i hx
      rw [not_or] at hx
      refine ih _ ⟨(List.perm_append_singleton x acc).nodup_iff.2 (List.nodup_cons.2 ⟨hx.1, h.1⟩), ?_⟩
      intro a ha
      rcases List.mem_append.1 ha with ha | ha
      · exact h.2 a ha
      · rw [List.mem_singleton.1 ha]; exact hx.2

/-- `tier[i] = u`: the tier has no duplicates afterwards and nothing the other tiers hold -/
theorem C16_kernel_loop_urls_setitem_nodup (xs known : List Int) (i v : Int) (r : List Int)
    (h : urlsSetItemFn xs known i v = .ret r) : r.Nodup ∧ ∀ a ∈ r, a ∉ known := by
  rw [urlsSetItemFn_eq] at h
  cases hp : pyIndex xs.length i with
  | none => simp [hp] at h
  | some k =>
    simp only [hp, Option.map_some, Out.ofOption_some, Out.ret.injEq] at h
    exact h ▸ readdK_nodup_disjoint known [] _ ⟨List.nodup_nil, by simp⟩

/-- `lst[i] = v` never leaves duplicates — whatever the list held before (in particular if it
    held none) -/
theorem C16_kernel_loop_setitem_nodup (xs : List Int) (i v : Int) (r : List Int)
    (h : mlSetItemFn xs i v = .ret r) : r.Nodup :=
  (C16_kernel_loop_urls_setitem_nodup xs [] i v r (mlSetItemFn_eq .. ▸ h)).1

/-- a duplicate-free list stays duplicate-free (the hypothesis `xs.Nodup` is not needed: this is
    `C16_kernel_loop_setitem_nodup`) -/
theorem C16_kernel_loop_setitem_nodup_of_nodup (xs : List Int) (i v : Int) (r : List Int) (_hx : xs.Nodup)
    (h : mlSetItemFn xs i v = .ret r) : r.Nodup := C16_kernel_loop_setitem_nodup xs i v r h

/-- `tier.insert(i, u)` keeps "no duplicates, nothing the other tiers hold" -/
theorem C16_kernel_loop_urls_insert_nodup (xs known : List Int) (i v : Int) (hx : xs.Nodup)
    (hk : ∀ a ∈ xs, a ∉ known) :
    ∃ r, urlsInsertFn xs known i v = .ret r ∧ r.Nodup ∧ ∀ a ∈ r, a ∉ known := by
  rw [C16_kernel_loop_urls_insert_spec]
  refine ⟨_, rfl, ?_⟩
  split
  · exact ⟨hx, hk⟩
  · rename_i h
    rw [not_or] at h
    have hp := splice_singleton_perm xs (clampIdx xs.length i) v
    refine ⟨hp.nodup_iff.2 (List.nodup_cons.2 ⟨h.1, hx⟩), fun a ha => ?_⟩
    rcases List.mem_cons.1 (hp.subset ha) with rfl | ha
    · exact h.2
    · exact hk a ha

/-- `lst.insert(i, v)` keeps a duplicate-free list duplicate-free (and always returns) -/
theorem C16_kernel_loop_insert_nodup (xs : List Int) (i v : Int) (hx : xs.Nodup) :
    ∃ r, mlInsertFn xs i v = .ret r ∧ r.Nodup := by
  obtain ⟨r, h, hn, _⟩ := C16_kernel_loop_urls_insert_nodup xs [] i v hx (by simp)
  exact ⟨r, mlInsertFn_eq .. ▸ h, hn⟩

/-- IndexError is raised exactly for an index outside `-len … len-1` -/
theorem C16_kernel_loop_setitem_raises (xs : List Int) (i v : Int) :
    mlSetItemFn xs i v = .raised "IndexError" ↔ ¬ (-(xs.length : Int) ≤ i ∧ i < xs.length) :=
  mlSetItemFn_eq .. ▸ urlsSetItemFn_raises xs [] i v

/-! ### the hypothesis "for every injective `enc`" is not empty -/

/-- a list of naturals as one natural: `[] ↦ 0`, `a :: l ↦ (2·⟦l⟧ + 1)·2^a` (positive) -/
def encNats : List Nat → Nat
  | [] => 0
  | a :: l => (2 * encNats l + 1) * 2 ^ a

theorem odd_pow_inj (x y a b : Nat) (h : (2 * x + 1) * 2 ^ a = (2 * y + 1) * 2 ^ b) : a = b ∧ x = y := by
  induction a generalizing b with
  | zero =>
    cases b with
    | zero => simp only [Nat.pow_zero, Nat.mul_one] at h; exact ⟨rfl, by omega⟩
    | succ b =>
      rw [Nat.pow_zero, Nat.mul_one, Nat.pow_succ, ← Nat.mul_assoc] at h
      -- odd = k * 2: the product is hidden behind `k` so that `omega` sees a linear parity clash
      generalize (2 * y + 1) * 2 ^ b = k at h; omega
  | succ a ih =>
    cases b with
    | zero =>
      rw [Nat.pow_zero, Nat.mul_one, Nat.pow_succ, ← Nat.mul_assoc] at h
      generalize (2 * x + 1) * 2 ^ a = k at h; omega
    | succ b =>
      rw [Nat.pow_succ, Nat.pow_succ, ← Nat.mul_assoc, ← Nat.mul_assoc] at h
      have := ih b (Nat.eq_of_mul_eq_mul_right (by decide) h)
      exact ⟨congrArg _ this.1, this.2⟩

theorem encNats_cons_pos (a : Nat) (l : List Nat) : 0 < encNats (a :: l) := by
  rw [encNats]; exact Nat.mul_pos (by omega) (Nat.pow_pos (by omega))

theorem encNats_inj : ∀ l m : List Nat, encNats l = encNats m → l = m
  | [], [], _ => rfl
  | [], b :: m, h => absurd h (Nat.ne_of_lt (encNats_cons_pos b m))
  | a :: l, [], h => absurd h.symm (Nat.ne_of_lt (encNats_cons_pos a l))
  | a :: l, b :: m, h => by
    simp only [encNats] at h
    have := odd_pow_inj _ _ _ _ h
    rw [this.1, encNats_inj l m this.2]

/-- an injective encoding of strings as integers (the code points, folded into one number) -/
def encString (s : String) : Int := (encNats (s.toList.map Char.toNat) : Nat)

theorem encString_injective : Function.Injective encString := by
  intro s t h
  have h1 : encNats (s.toList.map Char.toNat) = encNats (t.toList.map Char.toNat) := by
    unfold encString at h; exact Int.ofNat.inj h
  have h2 := encNats_inj _ _ h1
  have h3 : s.toList = t.toList := by
    refine (List.map_inj_right ?_).mp h2
    intro a b hab
    exact Char.ext (UInt32.toNat_inj.mp hab)
  exact String.toList_inj.mp h3

end Torf.C16
