/-
  C15, names — a created torrent depends on the tree the operating system resolves the spelled
  path to, never on the characters of the names on the way.

  * `C15_addresses_absolute`, `C15_eq_absolute` … whatever the spelling and the working directory,
    the result is the one obtained with the absolute path of the place the spelling leads to
    (from any working directory, in any listing order).  This is the comparison the harness makes
    on trees whose names look like something a shell, `os.path.expanduser` / `expandvars`, `glob`,
    `str.format`, `%`-formatting or an option parser would interpret (`~`, `~user`, `$HOME`,
    `${X}`, `%s`, `{0}`, `*`, `?`, `[a]`, `!x`, `-x`, `#`, ` x`, `x `, `\`, `:` …), under several
    process environments ($HOME, $USER, the variables the names mention).
  * `C15_names_opaque_spec`, `C15_names_opaque` … renaming all names of a tree by any function `ρ`
    that respects the three things the specification reads from a name (`Spec.opaqueB`: hidden-ness,
    the order of non-hidden files, the pattern verdicts) renames the created torrent and changes
    nothing else — for every file system, working directory, spelling and listing order on either
    side.  The model has no access to a process environment at all (`Env` = cwd, spelling, listing
    order, `os.path.exists`); together with this theorem: a name is a list of characters that is
    compared, ordered, tested for a leading dot, handed to the pattern oracles and copied.
-/
import Torf.Properties.C15
import Torf.Lemmas.CreateNames
namespace Torf.C15
open Torf Torf.Paths Torf.Create

/-- the place a spelling leads to, written as an absolute path, addresses the same tree — from
    every working directory -/
theorem C15_addresses_absolute (fs : FS) (cwd cwd' : Comps) (sp : PPath) (t : Tree)
    (hct : Spec.cleanTree t = true) (hadr : Addresses fs cwd sp t = true) :
    Addresses fs cwd' ⟨true, normpath true (if sp.abs then sp.comps else cwd ++ sp.comps)⟩ t
      = true := by
  unfold Addresses at hadr ⊢
  simp only [if_true]
  rw [normpath_idem]
  have hc := normpath_true_clean (if sp.abs = true then sp.comps else cwd ++ sp.comps)
  generalize normpath true (if sp.abs = true then sp.comps else cwd ++ sp.comps) = loc at hadr hc ⊢
  simp only [Bool.and_eq_true] at hadr ⊢
  refine ⟨hadr.1, ?_⟩
  -- `loc` is a normal form: only real names, so `pathlib.Path` keeps it as it is
  rw [pathlibNorm_clean true loc hc, name_of_getLast? (beq_iff_eq.mp hadr.1.1.1),
    (cleanTree_elim hct).1, Bool.or_true]

/-- **Every spelling gives the absolute-path result.**  However the path is spelled and whatever the
    working directory is: the created torrent is the one obtained by handing in the absolute path
    of the place the spelling leads to, from any working directory `cwd'`, in any listing order. -/
theorem C15_eq_absolute (o : Oracles) (st : Settings) (t : Tree) (fs : FS) (cwd cwd' : Comps)
    (sp : PPath) (ord ord' : List FileEnt) (hct : Spec.cleanTree t = true)
    (hadr : Addresses fs cwd sp t = true) (hord : ord.Perm t.files) (hord' : ord'.Perm t.files) :
    pathSetter o st (envOf fs cwd sp ord) =
      pathSetter o st (envOf fs cwd'
        ⟨true, normpath true (if sp.abs then sp.comps else cwd ++ sp.comps)⟩ ord') :=
  C15_independent o st t fs fs cwd cwd' sp _ ord ord' hct hadr
    (C15_addresses_absolute fs cwd cwd' sp t hct hadr) hord hord'

/-- The specification under a renaming of all names: if `ρ` respects hidden-ness, the order of the
    non-hidden files and the pattern verdicts, the created torrent of the renamed tree is the
    renamed created torrent. -/
theorem C15_names_opaque_spec (o o' : Oracles) (st st' : Settings) (ρ : String → String) (t : Tree)
    (h : Spec.opaqueB o o' st st' ρ t = true) :
    Spec.created o' st' (Spec.renameTree ρ t) = Spec.renameCreated ρ (Spec.created o st t) :=
  created_rename o o' st st' ρ t h

/-- **Names are opaque.**  Two file systems, one holding tree `t`, the other the tree with every
    name renamed by `ρ` (real names stay real names and distinct paths distinct: `cleanTree` of the
    renamed tree), each addressed in any way: if `ρ` respects what the specification reads from
    names (`opaqueB`), `Torrent.path = …` on the renamed side gives the renamed result of the
    original side.  No character of a name — `~`, `$`, `%`, `{`, `*`, `?`, `[`, a space, a
    backslash — has a meaning of its own. -/
theorem C15_names_opaque (o o' : Oracles) (st st' : Settings) (ρ : String → String) (t : Tree)
    (fs fs' : FS) (cwd cwd' : Comps) (sp sp' : PPath) (ord ord' : List FileEnt)
    (hct : Spec.cleanTree t = true) (hct' : Spec.cleanTree (Spec.renameTree ρ t) = true)
    (hadr : Addresses fs cwd sp t = true) (hadr' : Addresses fs' cwd' sp' (Spec.renameTree ρ t) = true)
    (hord : ord.Perm t.files) (hord' : ord'.Perm (Spec.renameTree ρ t).files)
    (hop : Spec.opaqueB o o' st st' ρ t = true) :
    pathSetter o' st' (envOf fs' cwd' sp' ord') =
      (pathSetter o st (envOf fs cwd sp ord)).map (Spec.renameCreated ρ) := by
  rw [C15_created o' st' _ fs' cwd' sp' ord' hct' hadr' hord',
    C15_created o st t fs cwd sp ord hct hadr hord, C15_names_opaque_spec o o' st st' ρ t hop]
  rfl

/-- without patterns the oracles play no role: only hidden-ness and order have to be respected -/
theorem C15_names_opaque_nopat (o o' : Oracles) (ρ : String → String) (t : Tree)
    (fs fs' : FS) (cwd cwd' : Comps) (sp sp' : PPath) (ord ord' : List FileEnt)
    (hct : Spec.cleanTree t = true) (hct' : Spec.cleanTree (Spec.renameTree ρ t) = true)
    (hadr : Addresses fs cwd sp t = true) (hadr' : Addresses fs' cwd' sp' (Spec.renameTree ρ t) = true)
    (hord : ord.Perm t.files) (hord' : ord'.Perm (Spec.renameTree ρ t).files)
    (hhid : ∀ f ∈ t.files, isHidden (f.rel.map ρ) = isHidden f.rel)
    (hle : ∀ f ∈ t.files, ∀ g ∈ t.files, isHidden f.rel = false → isHidden g.rel = false →
      (f.rel.map ρ ≤ g.rel.map ρ ↔ f.rel ≤ g.rel)) :
    pathSetter o' ⟨[], [], [], []⟩ (envOf fs' cwd' sp' ord') =
      (pathSetter o ⟨[], [], [], []⟩ (envOf fs cwd sp ord)).map (Spec.renameCreated ρ) :=
  C15_names_opaque o o' _ _ ρ t fs fs' cwd cwd' sp sp' ord ord' hct hct' hadr hadr' hord hord'
    ((opaqueB_iff ..).mpr ⟨hhid, hle, fun _ _ => ⟨rfl, rfl⟩⟩)

/-- **Renaming by an injective, order-preserving function.**  If `ρ` is strictly monotone and
    injective on the names that occur below the root, and keeps leading dots, then (without
    patterns) the renamed tree gives the renamed torrent: the characters of a name play no role
    beyond how the name compares with the others and whether it starts with a dot. -/
theorem C15_names_opaque_monotone (o o' : Oracles) (ρ : String → String) (t : Tree)
    (fs fs' : FS) (cwd cwd' : Comps) (sp sp' : PPath) (ord ord' : List FileEnt)
    (hct : Spec.cleanTree t = true) (hct' : Spec.cleanTree (Spec.renameTree ρ t) = true)
    (hadr : Addresses fs cwd sp t = true) (hadr' : Addresses fs' cwd' sp' (Spec.renameTree ρ t) = true)
    (hord : ord.Perm t.files) (hord' : ord'.Perm (Spec.renameTree ρ t).files)
    (hmono : ∀ a ∈ Spec.namesBelow t, ∀ b ∈ Spec.namesBelow t,
      (ρ a < ρ b ↔ a < b) ∧ (ρ a = ρ b → a = b))
    (hdot : ∀ c ∈ Spec.namesBelow t, isHidden [ρ c] = isHidden [c]) :
    pathSetter o' ⟨[], [], [], []⟩ (envOf fs' cwd' sp' ord') =
      (pathSetter o ⟨[], [], [], []⟩ (envOf fs cwd sp ord)).map (Spec.renameCreated ρ) := by
  have hmem : ∀ f ∈ t.files, ∀ c ∈ f.rel, c ∈ Spec.namesBelow t :=
    fun f hf c hc => List.mem_flatMap.mpr ⟨f, hf, hc⟩
  apply C15_names_opaque_nopat o o' ρ t fs fs' cwd cwd' sp sp' ord ord' hct hct' hadr hadr' hord hord'
  · intro f hf
    exact isHidden_map ρ f.rel (fun c hc => hdot c (hmem f hf c hc))
  · intro f hf g hg _ _
    -- `≤` on component lists is `¬ >`
    rw [← List.not_lt, ← List.not_lt, map_lt_map_iff ρ _ hmono g.rel f.rel (hmem g hg) (hmem f hf)]

/-! ### non-vacuity: a tree called `~` with a `~` directory and a `~` file in it, `$HOME`, `*` -/

/-- `~` ↦ `t`, `$HOME` ↦ `a`, `*` ↦ `c`, `-x` ↦ `m` (the order `$HOME < * < e < ~` is that of
    `a < c < e < t`); every other name stays -/
def witRho (s : String) : String :=
  if s == "~" then "t" else if s == "$HOME" then "a" else if s == "*" then "c"
  else if s == "-x" then "m" else s

def witTs : Tree := ⟨"~", [⟨["~", "~"], 2⟩, ⟨["~", "b"], 1⟩, ⟨["$HOME"], 3⟩, ⟨["*", "-x"], 4⟩,
  ⟨[".h", "~"], 5⟩, ⟨["e"], 0⟩]⟩
/-- the tree below `/r/w`, a home directory `/r/home` holding other files of the same names -/
def witFSs : FS := [(["r", "w", "~", "~", "~"], some 2), (["r", "w", "~", "~", "b"], some 1),
  (["r", "w", "~", "$HOME"], some 3), (["r", "w", "~", "*", "-x"], some 4),
  (["r", "w", "~", ".h", "~"], some 5), (["r", "w", "~", "e"], some 0),
  (["r", "home", "~", "b"], some 9), (["r", "home", "b"], some 7)]
def witFSs' : FS := [(["q", "t", "t", "t"], some 2), (["q", "t", "t", "b"], some 1),
  (["q", "t", "a"], some 3), (["q", "t", "c", "m"], some 4), (["q", "t", ".h", "t"], some 5),
  (["q", "t", "e"], some 0)]

example : (Spec.renameTree witRho witTs).name = "t" ∧
    (Spec.renameTree witRho witTs).files = [⟨["t", "t"], 2⟩, ⟨["t", "b"], 1⟩, ⟨["a"], 3⟩,
      ⟨["c", "m"], 4⟩, ⟨[".h", "t"], 5⟩, ⟨["e"], 0⟩] := by decide +kernel

theorem witTs_clean : Spec.cleanTree witTs = true := by decide +kernel
theorem witTs_addr : Addresses witFSs ["r", "w"] ⟨false, ["~"]⟩ witTs = true := by decide +kernel
theorem witTs_opaque : Spec.opaqueB witO witO witNoPat witNoPat witRho witTs = true := by
  decide +kernel
theorem witTs'_clean : Spec.cleanTree (Spec.renameTree witRho witTs) = true := by decide +kernel
theorem witTs'_addr :
    Addresses witFSs' ["q", "t", "c"] ⟨false, ["..", ".", ""]⟩ (Spec.renameTree witRho witTs) = true := by
  decide +kernel

/-- `cd /r/w; path = "~"`, `"~/"`, `"./~"`, `cd /r/w/~; path = "~/.."`, `cd /r/w/~/~; path = ".."`:
    all address the tree, all give the specified torrent, in which `~`, `$HOME`, `*`, `-x` are
    names like `b` -/
example :
    Spec.cleanTree witTs = true ∧
    Addresses witFSs ["r", "w"] ⟨false, ["~"]⟩ witTs = true ∧
    Addresses witFSs ["r", "w"] ⟨false, ["~", ""]⟩ witTs = true ∧
    Addresses witFSs ["r", "w", "~"] ⟨false, ["~", ".."]⟩ witTs = true ∧
    Addresses witFSs ["r", "w", "~", "~"] ⟨false, [".."]⟩ witTs = true ∧
    Spec.created witO witNoPat witTs
      = .multi "~" [(["$HOME"], 3), (["*", "-x"], 4), (["~", "b"], 1), (["~", "~"], 2)] ∧
    pathSetter witO witNoPat (envOf witFSs ["r", "w"] ⟨false, ["~"]⟩ witTs.files)
      = .ok (Spec.created witO witNoPat witTs) ∧
    pathSetter witO witNoPat (envOf witFSs ["r", "w", "~"] ⟨false, ["~", ".."]⟩ witTs.files.reverse)
      = .ok (Spec.created witO witNoPat witTs) := ⟨witTs_clean, witTs_addr, by decide +kernel⟩

/-- the spelling `~` from the parent directory against the absolute path from the home directory -/
example : pathSetter witO witNoPat (envOf witFSs ["r", "w"] ⟨false, ["~"]⟩ witTs.files)
    = pathSetter witO witNoPat (envOf witFSs ["r", "home"] ⟨true, ["r", "w", "~"]⟩ witTs.files.reverse) :=
  C15_eq_absolute witO witNoPat witTs witFSs ["r", "w"] ["r", "home"] ⟨false, ["~"]⟩ _ _
    witTs_clean witTs_addr (List.Perm.refl _) (List.reverse_perm _)

/-- the renamed tree elsewhere, addressed differently: the renamed result -/
example :
    Spec.opaqueB witO witO witNoPat witNoPat witRho witTs = true ∧
    Spec.cleanTree (Spec.renameTree witRho witTs) = true ∧
    Addresses witFSs' ["q", "t", "c"] ⟨false, ["..", ".", ""]⟩ (Spec.renameTree witRho witTs) = true ∧
    Spec.renameCreated witRho (Spec.created witO witNoPat witTs)
      = .multi "t" [(["a"], 3), (["c", "m"], 4), (["t", "b"], 1), (["t", "t"], 2)] :=
  ⟨witTs_opaque, witTs'_clean, witTs'_addr, by decide +kernel⟩

example :
    pathSetter witO witNoPat (envOf witFSs' ["q", "t", "c"] ⟨false, ["..", ".", ""]⟩
        (Spec.renameTree witRho witTs).files) =
      (pathSetter witO witNoPat (envOf witFSs ["r", "w"] ⟨false, ["~"]⟩ witTs.files)).map
        (Spec.renameCreated witRho) :=
  C15_names_opaque witO witO witNoPat witNoPat witRho witTs witFSs witFSs' _ _ _ _ _ _
    witTs_clean witTs'_clean witTs_addr witTs'_addr (List.Perm.refl _) (List.Perm.refl _) witTs_opaque

/-- a renaming that is strictly monotone and injective on all names of the tree (`witRho` is not:
    `*` ↦ `c` lies above `b`; `opaqueB` only asks for the order of the files) -/
def witRho2 (s : String) : String :=
  if s == "~" then "t" else if s == "$HOME" then "A" else if s == "*" then "B"
  else if s == "-x" then "C" else s
def witTs2 : Tree := ⟨"~", [⟨["~", "~"], 2⟩, ⟨["~", "b"], 1⟩, ⟨["$HOME"], 3⟩, ⟨["*", "-x"], 4⟩, ⟨["e"], 0⟩]⟩

example :
    (∀ a ∈ Spec.namesBelow witTs2, ∀ b ∈ Spec.namesBelow witTs2,
      (witRho2 a < witRho2 b ↔ a < b) ∧ (witRho2 a = witRho2 b → a = b)) ∧
    (∀ c ∈ Spec.namesBelow witTs2, isHidden [witRho2 c] = isHidden [c]) ∧
    Spec.cleanTree witTs2 = true ∧ Spec.cleanTree (Spec.renameTree witRho2 witTs2) = true ∧
    Spec.renameCreated witRho2 (Spec.created witO witNoPat witTs2)
      = .multi "t" [(["A"], 3), (["B", "C"], 4), (["t", "b"], 1), (["t", "t"], 2)] := by decide +kernel

/-- with a pattern: the exclude glob `~/~/*` (literal oracles: the string `~/~/b`) and its renamed
    form `t/t/b` -/
example :
    Spec.opaqueB witO witO ⟨["~/~/b"], [], [], []⟩ ⟨["t/t/b"], [], [], []⟩ witRho witTs = true ∧
    Spec.created witO ⟨["~/~/b"], [], [], []⟩ witTs
      = .multi "~" [(["$HOME"], 3), (["*", "-x"], 4), (["~", "~"], 2)] := by decide +kernel

/-- a renaming that does not respect the order is not opaque (`~` ↦ `A` moves `~/…` before
    `b`): the hypothesis is not always true -/
example : Spec.opaqueB witO witO witNoPat witNoPat (fun s => if s == "~" then "A" else s)
    ⟨"T", [⟨["b"], 1⟩, ⟨["~", "x"], 2⟩]⟩ = false := by decide +kernel

end Torf.C15
