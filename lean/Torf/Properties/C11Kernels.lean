/-
  C11 — bridge theorems to the kernels translated from the source (regenerated on every run):
  the overlap test of `get_files_at_byte_range`, the piece range of a file, the range check /
  byte range / seek position / expected length of `get_piece`, and the index arithmetic of
  `get_absolute_piece_indexes` / `get_relative_piece_indexes` used by the geometry model are the
  source's expressions.  (`math.floor(a / b)` is translated to exact integer division — trusted
  base of the translator: operands below 2^53, divisor positive.)

  Loop kernels: `get_file_at_position`, `get_files_at_byte_range`,
  `get_file_position`, `get_files_at_piece_index` and `get_byte_range_of_file` are translated as
  *whole functions* (kernel kind `loop`: statement by statement, the `for file in
  self._torrent.files` loop as a structural recursion over the list of sizes with the index of the
  current file and the integer locals as arguments).  The theorems `C11_kernel_loop_*` say that
  these generated functions compute, for every list of sizes and every argument, exactly what the
  hand-written model functions compute — by induction over the list with a loop invariant
  (generalised over the index, the running position and the files collected so far).

  Likewise `get_piece_indexes_of_file` (both values of `exclusive`),
  `get_absolute_piece_indexes` and `get_relative_piece_indexes` as whole functions (lists of
  integers, `remove`, `in`, `xs[0]` / `xs[-1]`, a set that is added to and sorted, a loop over a
  list of integers): `C11_kernel_loop_piece_indexes_of_file*`,
  `C11_kernel_loop_absolute_piece_indexes`, `C11_kernel_loop_relative_piece_indexes`.
-/
import Torf.Generated.Kernels
import Torf.Model.Geometry
import Torf.Properties.C11
namespace Torf.C11
open Torf Torf.Generated Torf.Geometry Torf.GeomLemmas

theorem C11_kernel_byte_range (a b pos : Int) (s : Nat) :
    Torf.Geometry.rangeHit a b pos s = byteRangeCond a b pos (byteRangeFileLast pos s) := by
  unfold Torf.Geometry.rangeHit byteRangeCond byteRangeFileLast
  all_goals first
    | rfl
    | (rw [Bool.eq_iff_iff]
       simp only [py_test] <;> omega)

/-- `get_piece_indexes_of_file`: first and last piece of a file at stream position `pos` -/
theorem C11_kernel_file_pieces (pos sz L : Nat) :
    floorDiv (pos : Int) L = pifFirst pos L ∧
    floorDiv ((pos : Int) + (sz : Int) - 1) L = pifLast pos sz L := by
  unfold floorDiv pifFirst pifLast
  exact ⟨rfl, rfl⟩

/-- `get_piece`: the greatest piece index and the range check -/
theorem C11_kernel_piece_range (T : Int) (L : Nat) (i : Int) :
    floorDiv (T - 1) L = gpMaxPieceIndex T L ∧
    (!(decide (0 ≤ i) && decide (i ≤ floorDiv (T - 1) L))) = gpOutOfRange 0 i (gpMaxPieceIndex T L) := by
  unfold floorDiv gpMaxPieceIndex gpOutOfRange
  exact ⟨rfl, rfl⟩

/-- `get_piece`: first and last byte of the piece, where to seek in the first relevant file, and
    the length the last piece must have -/
theorem C11_kernel_piece_bytes (T : Int) (L : Nat) (i p sz : Int) :
    i * (L : Int) = gpFirstByte i L ∧
    min (i * (L : Int) + (L : Int) - 1) (T - 1) = gpLastByte (gpFirstByte i L) L T ∧
    i * (L : Int) - p = gpSeekSingle (gpFirstByte i L) p ∧
    sz - ((p + sz) % (L : Int)) = gpSeekMulti sz p L ∧
    T % (L : Int) = gpLastPieceSize T L := by
  unfold gpFirstByte gpLastByte gpSeekSingle gpSeekMulti gpLastPieceSize
  exact ⟨rfl, rfl, rfl, rfl, rfl⟩

/-- the clamping step of `get_absolute_piece_indexes`:
    `if pi_rel < 0: pi_rel = pi_rel_max - abs(pi_rel) + 1; pi_rel = max(0, min(pi_rel_max, pi_rel))`,
    then `pi_abs_min + pi_rel`, with `pi_rel_max = pi_abs_max - pi_abs_min` -/
theorem C11_kernel_absolute (absMin absMax r : Int) :
    absMin + clampRel (absMax - absMin) r =
      absToAbs absMin (absClamp 0 (absRelMax absMax absMin)
        (if r < 0 then absFromEnd (absRelMax absMax absMin) r else r)) := by
  unfold clampRel absToAbs absClamp absRelMax absFromEnd
  first
    | rfl
    | (simp only []; split <;> omega)

/-- the same step in `get_relative_piece_indexes`, with `max_piece_index = floor((size-1)/piece_size)` -/
theorem C11_kernel_relative (fileSize L : Nat) (r : Int) :
    clampRel (floorDiv ((fileSize : Int) - 1) L) r =
      relClamp 0 (relMax fileSize L) (if r < 0 then relFromEnd (relMax fileSize L) r else r) := by
  unfold clampRel relClamp relMax relFromEnd floorDiv
  first
    | rfl
    | (simp only []; split <;> omega)

open Torf.Loop

/-- a translated function's outcome in the vocabulary of the geometry model: `ValueError` is the
    documented error, every other exception class an internal one (injective) -/
def ofOut {α : Type} : Out α → Res α
  | .ret v => .ok v
  | .raised e => if e = "ValueError" then .error .value else .error (.internal e)

/-- the file sizes as the translated functions take them (Python integers) -/
def ints (sizes : List Nat) : List Int := sizes.map Int.ofNat

/-- indexes relative to the loop start, shifted to indexes in `Torrent.files`: a name for the statement of
    `filesAtByteRange_inv`.  `scan_inv`, which proves that, writes `.map (· + idx)`; the proofs on either side of
    the statement see through the name (unification in `refine scan_inv …`, `simp [shift]`) -/
def shift (idx : Nat) (js : List Nat) : List Nat := js.map (· + idx)

/-- the answer of the search loop started at index `idx` -/
def foundAt (idx : Nat) : Option Nat → Out Nat
  | some j => .ret (idx + j)
  | none => .raised "ValueError"

private theorem ofOut_bind {α β : Type} (o : Out α) (k : α → Out β) :
    ofOut (o.bind k) = (ofOut o) >>= (fun v => ofOut (k v)) := by
  cases o with
  | ret v => rfl
  | raised e =>
    simp only [Out.bind, ofOut]
    split <;> rfl

private theorem ofOut_ite {α : Type} (c : Prop) [Decidable c] (a b : Out α) :
    ofOut (if c then a else b) = if c then ofOut a else ofOut b := by
  split <;> rfl

private theorem ofOut_ret {α : Type} (v : α) : ofOut (Out.ret v) = .ok v := rfl
private theorem ofOut_value {α : Type} : ofOut (Out.raised "ValueError" : Out α) = .error .value := rfl

private theorem ite_bind {α β : Type} (c : Prop) [Decidable c] (a b : Res α) (f : α → Res β) :
    (if c then a else b) >>= f = if c then a >>= f else b >>= f := by
  split <;> rfl

private theorem foundAt_succ (idx : Nat) (o : Option Nat) :
    foundAt idx (o.map (· + 1)) = foundAt (idx + 1) o := by
  cases o with
  | none => rfl
  | some j => simp only [Option.map_some, foundAt, Nat.add_assoc, Nat.add_comm 1 j]

private theorem sum_ints (xs : List Nat) : List.sum (ints xs) = ((List.sum xs : Nat) : Int) := by
  induction xs with
  | nil => rfl
  | cons x xs ih =>
    simp only [ints, List.map_cons, List.sum_cons, Int.ofNat_eq_natCast] at ih ⊢
    rw [ih]; omega

private theorem sliceTo_ints (xs : List Nat) (j : Nat) : sliceTo (ints xs) (j : Int) = ints (xs.take j) := by
  simp [sliceTo, ints, List.map_take]

/-! In each loop below one step of the generated loop is compared with one step of the model's: both are unfolded,
every test of either side is read as a proposition (the simp set `py_test` of Base/Loop.lean, `rangeHit_iff`
for the model's overlap test), and every `if` of either side is split.  On a path where the two sides decide
differently the tests contradict each other (`omega`); on the others the results agree (`rfl`) or the recursive
calls do, argument by argument (`congr n <;> omega` — with `;` a goal of `congr` would stay open unnoticed; in the
search loop by the induction hypothesis, which takes the model-side position as a separate argument `pos'` with
`pos = pos'`, so that it applies to whatever expression the source passes on).  The byte-range loop and the two
loops over relative indexes leave the induction to `scan_inv` / `collect_inv`.  Nothing depends on how the source
spells its tests and updates: `py_test` holds what any spelling of a test may need. -/

private theorem fileAtPosition_inv (position : Int) (rest : List Nat) :
    ∀ (idx : Nat) (pos pos' : Int), pos = pos' →
      fileAtPositionFn.loop position (ints rest) idx pos = foundAt idx (fileAtPosLoop position rest pos') := by
  induction rest with
  | nil => intro idx pos pos' _; rfl
  | cons s rest ih =>
    intro idx pos pos' h
    subst h
    simp only [ints, List.map_cons, fileAtPosLoop, fileAtPositionFn.loop, py_test]
    repeat' split
    all_goals first | rfl | (rw [foundAt_succ]; exact ih _ _ _ (by omega)) | omega

/-- `get_file_at_position` as written in the source = the model, for every list of sizes (zero-length
    entries included) and every position (negative and too large ones included) -/
theorem C11_kernel_loop_file_at_position (sizes : List Nat) (position : Int) :
    ofOut (fileAtPositionFn (ints sizes) position) = getFileAtPosition sizes position := by
  have hmodel : getFileAtPosition sizes position =
      if position ≥ 0 then ofOut (foundAt 0 (fileAtPosLoop position sizes 0)) else .error .value := by
    unfold getFileAtPosition
    cases fileAtPosLoop position sizes 0 with
    | none => rfl
    | some j => simp only [foundAt, ofOut, Nat.zero_add]
  rw [hmodel]
  unfold fileAtPositionFn
  simp only [py_test]
  repeat' split
  all_goals first | rfl | omega | rw [fileAtPosition_inv position sizes 0 _ 0 (by omega)]

/-- both loops are the scan of `scan_inv` for the overlap test -/
private theorem filesAtByteRange_inv (a b : Int) (rest : List Nat) :
    ∀ (idx : Nat) (pos pos' : Int) (acc : List Nat), pos = pos' →
      filesAtByteRangeFn.loop a b (ints rest) idx pos acc =
        .ret (acc ++ shift idx (byteRangeLoop a b rest pos')) := by
  intro idx pos pos' acc h
  subst h
  rw [byteRangeLoop_eq]
  refine scan_inv Int.ofNat (rangeHit a b) Out.ret (fun _ _ _ => rfl) (fun s rest idx pos acc => ?_) rest idx pos acc
  simp only [filesAtByteRangeFn.loop, rangeHit_iff, py_test]
  repeat' split
  all_goals first | rfl | (congr 1 <;> omega) | omega

/-- `get_files_at_byte_range` as written in the source = the model, for every list of sizes and
    every pair of byte indexes (`first > last`: the failed `assert`) -/
theorem C11_kernel_loop_files_at_byte_range (sizes : List Nat) (a b : Int) :
    ofOut (filesAtByteRangeFn (ints sizes) a b) = getFilesAtByteRange sizes a b := by
  unfold filesAtByteRangeFn getFilesAtByteRange
  simp only [py_test]
  repeat' split
  all_goals first
    | rfl
    | omega
    | (rw [filesAtByteRange_inv a b sizes 0 _ 0 _ (by omega)]; simp [ofOut, shift])

/-- `get_file_position`: `files.index(file)` (a file is its index; not listed ⇒ ValueError) and
    the sum over `files[:file_index]` -/
theorem C11_kernel_loop_file_position (sizes : List Nat) (j : Nat) :
    ofOut (filePositionFn (ints sizes) j) = (fun (n : Nat) => (n : Int)) <$> getFilePosition sizes j := by
  unfold filePositionFn getFilePosition lookupFile
  have hl : (ints sizes).length = sizes.length := List.length_map _
  rw [hl]
  by_cases hj : j < sizes.length
  · rw [List.getElem?_eq_getElem hj, if_pos hj]
    simp only []
    rw [sliceTo_ints, sum_ints]
    rfl
  · rw [List.getElem?_eq_none (by omega), if_neg hj]
    rfl

/-- `get_files_at_piece_index`: the guard, the byte range of the piece handed to (the translated)
    `get_files_at_byte_range`, and the empty answer turned into ValueError -/
theorem C11_kernel_loop_files_at_piece_index (sizes : List Nat) (L : Nat) (i : Int) :
    ofOut (filesAtPieceIndexFn (ints sizes) i L) = getFilesAtPieceIndex sizes L i := by
  unfold filesAtPieceIndexFn getFilesAtPieceIndex
  simp only [py_test]
  by_cases hm : i ≥ 0
  · rw [if_pos hm]
    split
    · rw [ofOut_bind, C11_kernel_loop_files_at_byte_range]
      have e : ∀ x y x' y', x = x' → y = y' →
          getFilesAtByteRange sizes x y = getFilesAtByteRange sizes x' y' := by
        intro x y x' y' h1 h2; rw [h1, h2]
      rw [e _ _ (i * (L : Int)) ((i + 1) * (L : Int) - 1) (by first | rfl | omega | grind)
        (by first | rfl | omega | grind)]
      cases getFilesAtByteRange sizes (i * (L : Int)) ((i + 1) * (L : Int) - 1) with
      | error e => rfl
      | ok files => cases files <;> rfl
    · omega
  · rw [if_neg hm]
    split
    · omega
    · rfl

/-- `get_byte_range_of_file` for a file object of size `sz` (a listed file: its size in the list) -/
theorem C11_kernel_loop_byte_range_of_file (sizes : List Nat) (j : Nat) (sz : Nat)
    (hsz : ∀ h : j < sizes.length, sizes[j] = sz) :
    ofOut (byteRangeOfFileFn (ints sizes) j sz) = getByteRangeOfFile sizes j := by
  unfold byteRangeOfFileFn
  rw [ofOut_bind, C11_kernel_loop_file_position]
  unfold getFilePosition getByteRangeOfFile lookupFile
  by_cases hj : j < sizes.length
  · rw [List.getElem?_eq_getElem hj, hsz hj]
    simp only [ofOut]
    show Except.ok (_, _) = Except.ok (_, _)
    congr 2
  · rw [List.getElem?_eq_none (by omega)]
    rfl

/-! ### Loop kernels over lists of integers

`get_piece_indexes_of_file` (both values of `exclusive`), `get_absolute_piece_indexes` and
`get_relative_piece_indexes` as whole functions: `list(range(a, b + 1))` is `pyRange`, `remove` is
`List.erase` behind a membership test, `xs[0]` / `xs[-1]` are `getIdx` (IndexError), the set that is
added to and sorted is `sortedSet` of the added values.  The model mirrors the code including its
defects (D11a, D11c), so these are equalities for every input. -/

private theorem floorDiv_eq (a : Int) (L : Nat) : floorDiv a L = a / (L : Int) := rfl

private theorem pyRange_succ (a b : Int) : pyRange a (b + 1) = rangeIncl a b := rfl

private theorem bne_eq_not_decide (A B : List Nat) : (A != B) = !decide (A = B) := by
  cases h : decide (A = B) <;> simp_all

private theorem sortedSet_eq (xs : List Int) : sortedSet xs = sortDedup xs := by
  have h : ∀ (x : Int) (l : List Int), insertAsc x l = insertSorted x l := by
    intro x l
    induction l with
    | nil => rfl
    | cons y ys ih => simp only [insertAsc, insertSorted, ih]
  induction xs with
  | nil => rfl
  | cons x xs ih =>
    show insertAsc x (sortedSet xs) = insertSorted x (sortDedup xs)
    rw [ih, h]

private theorem getIdx_zero {α : Type} (xs : List α) : getIdx xs (0 : Int) = xs.head? := by
  cases xs <;> rfl

private theorem getIdx_neg_one {α : Type} (xs : List α) : getIdx xs (-(1 : Int)) = xs.getLast? := by
  cases xs with
  | nil => rfl
  | cons x xs =>
    simp only [getIdx, List.getLast?_eq_getElem?, List.length_cons]
    rw [if_neg (by omega), if_pos (by simp)]
    simp

/-- `get_piece_indexes_of_file(file, exclusive)` for a file object of size `sz` (a listed file: its size in
    the list): the position through the translated `get_file_position`, the range of pieces, and for
    `exclusive` the two look-ups through the translated `get_files_at_piece_index`, the comparisons with
    `[file]`, the membership test and the `remove`s (ValueError when the index is not there: D11a) -/
theorem C11_kernel_loop_piece_indexes_of_file (sizes : List Nat) (L : Nat) (j : Nat) (sz : Nat) (excl : Bool)
    (hsz : ∀ h : j < sizes.length, sizes[j] = sz) :
    ofOut (pieceIndexesOfFileFn (ints sizes) j excl sz L) = getPieceIndexesOfFile sizes L j excl := by
  unfold pieceIndexesOfFileFn
  simp only []
  rw [ofOut_bind, C11_kernel_loop_file_position]
  unfold getFilePosition getPieceIndexesOfFile lookupFile
  by_cases hj : j < sizes.length
  · rw [List.getElem?_eq_getElem hj, hsz hj]
    cases excl with
    | false => rfl
    | true =>
      first
      -- the source spells its tests as the model does: with `ofOut` pushed to the leaves of the generated
      -- function and the binds of the model carried out (`listRemove` is its membership test and
      -- `erase`), both sides are the same tree of tests
      | (simp only [ofOut_bind, ofOut_ite, ofOut_ret, ofOut_value, C11_kernel_loop_files_at_piece_index,
           if_true, ite_bind, ok_bind, error_bind, bne_eq_not_decide, listRemove, pure, Except.pure,
           Functor.map, Except.map]
         rfl)
      -- any other spelling or order of the tests: the two look-ups, the range and the two piece numbers
      -- are made variables and every test of either side is decided
      | (simp only [bind, Except.bind, pure, Except.pure, Functor.map, Except.map]
         repeat rw [floorDiv_eq]
         rw [← pyRange_succ]
         simp only [ofOut_bind, ofOut_ite, ofOut_ret, ofOut_value, C11_kernel_loop_files_at_piece_index,
           if_true]
         generalize getFilesAtPieceIndex sizes L (((sizes.take j).sum : Nat) / (L : Int)) = r1
         generalize getFilesAtPieceIndex sizes L ((((sizes.take j).sum : Nat) + (sz : Int) - 1) / (L : Int)) = r2
         generalize pyRange (((sizes.take j).sum : Nat) / (L : Int))
           ((((sizes.take j).sum : Nat) + (sz : Int) - 1) / (L : Int) + 1) = idxs
         generalize (((sizes.take j).sum : Nat) / (L : Int) : Int) = a
         generalize ((((sizes.take j).sum : Nat) + (sz : Int) - 1) / (L : Int) : Int) = b
         cases r1 <;> cases r2 <;> simp only [bind, Except.bind, listRemove] <;> (repeat' split) <;> simp_all)
  · rw [List.getElem?_eq_none (by omega)]
    rfl

theorem C11_kernel_loop_piece_indexes_of_file_all (sizes : List Nat) (L : Nat) (j : Nat) (sz : Nat)
    (hsz : ∀ h : j < sizes.length, sizes[j] = sz) :
    ofOut (pieceIndexesOfFileFn (ints sizes) j false sz L) = getPieceIndexesOfFile sizes L j false :=
  C11_kernel_loop_piece_indexes_of_file sizes L j sz false hsz

theorem C11_kernel_loop_piece_indexes_of_file_exclusive (sizes : List Nat) (L : Nat) (j : Nat) (sz : Nat)
    (hsz : ∀ h : j < sizes.length, sizes[j] = sz) :
    ofOut (pieceIndexesOfFileFn (ints sizes) j true sz L) = getPieceIndexesOfFile sizes L j true :=
  C11_kernel_loop_piece_indexes_of_file sizes L j sz true hsz

private theorem collect_inv {loop : List Int → List Int → Out (List Int)} (f : Int → Int)
    (hnil : ∀ acc, loop [] acc = .ret (sortedSet acc))
    (hcons : ∀ r rest acc, loop (r :: rest) acc = loop rest (acc ++ [f r])) :
    ∀ rest acc, loop rest acc = .ret (sortedSet (acc ++ rest.map f)) := by
  intro rest
  induction rest with
  | nil => intro acc; rw [hnil, List.map_nil, List.append_nil]
  | cons r rest ih => intro acc; rw [hcons, ih, List.map_cons, List.append_assoc, List.singleton_append]

private theorem relative_inv (rels0 : List Int) (sz L lo mx mx' : Int) (h0 : lo = 0) (hm : mx = mx') :
    ∀ (rest acc : List Int),
      relativePieceIndexesFn.loop sz mx lo L rels0 rest acc =
        .ret (sortedSet (acc ++ rest.map (fun r => clampRel mx' r))) := by
  subst h0 hm
  refine collect_inv _ (fun _ => rfl) (fun r rest acc => ?_)
  simp only [relativePieceIndexesFn.loop, clampRel, py_test]
  repeat' split
  all_goals first | rfl | (congr 3 <;> omega) | omega

/-- `get_relative_piece_indexes` as written in the source = the model (which mirrors it: `file.size` only, the
    file is never looked up; zero-length files give `max_piece_index = -1`, D11c) -/
theorem C11_kernel_loop_relative_piece_indexes (sizes : List Int) (L fileSize : Nat) (rels : List Int) :
    relativePieceIndexesFn sizes rels fileSize L = .ret (getRelativePieceIndexes L fileSize rels) := by
  unfold relativePieceIndexesFn getRelativePieceIndexes
  simp only []
  rw [relative_inv _ _ _ _ _ (floorDiv ((fileSize : Int) - 1) L) (by first | rfl | omega)
    (by first | rfl | (unfold floorDiv; congr 1; omega))]
  rw [sortedSet_eq, List.nil_append]

private theorem absolute_inv (file : Nat) (rels0 : List Int) (sz L : Int) (fpi : List Int)
    (amin amax lo mx amin' mx' : Int) (h0 : lo = 0) (ha : amin = amin') (hm : mx = mx') :
    ∀ (rest acc : List Int),
      absolutePieceIndexesFn.loop file fpi sz amax amin mx lo L rels0 rest acc =
        .ret (sortedSet (acc ++ rest.map (fun r => amin' + clampRel mx' r))) := by
  subst h0 ha hm
  refine collect_inv _ (fun _ => rfl) (fun r rest acc => ?_)
  simp only [absolutePieceIndexesFn.loop, clampRel, py_test]
  repeat' split
  all_goals first | rfl | (congr 3 <;> omega) | omega

/-- `get_absolute_piece_indexes` as written in the source = the model: the pieces of the file through the
    translated `get_piece_indexes_of_file` (its `exclusive` left to the default written in the signature), the
    first and the last of them (IndexError if there is none), and the loop over the relative indexes -/
theorem C11_kernel_loop_absolute_piece_indexes (sizes : List Nat) (L : Nat) (j : Nat) (sz : Nat) (rels : List Int)
    (hsz : ∀ h : j < sizes.length, sizes[j] = sz) :
    ofOut (absolutePieceIndexesFn (ints sizes) j rels sz L) = getAbsolutePieceIndexes sizes L j rels := by
  unfold absolutePieceIndexesFn getAbsolutePieceIndexes
  rw [ofOut_bind, C11_kernel_loop_piece_indexes_of_file sizes L j sz false hsz]
  cases getPieceIndexesOfFile sizes L j false with
  | error e => rfl
  | ok fpi =>
    simp only [ok_bind, getIdx_zero, getIdx_neg_one]
    cases fpi with
    | nil => rfl
    | cons x xs =>
      simp only [List.head?_cons, Out.ofOption_some, Out.bind_ret]
      cases hl : (x :: xs).getLast? with
      | none => simp at hl
      | some y =>
        simp only [Out.ofOption_some, Out.bind_ret]
        rw [absolute_inv _ _ _ _ _ _ _ _ _ x (y - x) (by first | rfl | omega) (by first | rfl | omega)
          (by first | rfl | omega)]
        rw [sortedSet_eq, List.nil_append]
        rfl

/-! the translated source meets the arithmetic definition (composition with `C11_*_spec`) -/

theorem C11_kernel_loop_file_at_position_meets_spec (sizes : List Nat) (p : Int) :
    ofOut (fileAtPositionFn (ints sizes) p) = GeomSpec.fileAtPosition sizes p := by
  rw [C11_kernel_loop_file_at_position, C11_get_file_at_position_spec]

theorem C11_kernel_loop_files_at_byte_range_meets_spec (sizes : List Nat) (a b : Int)
    (hne : NoEmpty sizes) (hab : a ≤ b) :
    ofOut (filesAtByteRangeFn (ints sizes) a b) = .ok (GeomSpec.filesAtByteRange sizes a b) := by
  rw [C11_kernel_loop_files_at_byte_range, C11_get_files_at_byte_range_spec sizes a b hne hab]

theorem C11_kernel_loop_files_at_piece_index_meets_spec (sizes : List Nat) (L : Nat) (i : Int)
    (hL : 0 < L) (hne : NoEmpty sizes) :
    ofOut (filesAtPieceIndexFn (ints sizes) i L) = GeomSpec.filesAtPieceIndex sizes L i := by
  rw [C11_kernel_loop_files_at_piece_index, C11_get_files_at_piece_index_spec sizes L i hL hne]

/-- non-vacuity of the hypotheses above, and the translated functions run: sizes (3, 2, 4) -/
example : NoEmpty [3, 2, 4] := by intro s hs; simp at hs; omega
example :
    fileAtPositionFn [3, 2, 4] 4 = .ret 1 ∧ fileAtPositionFn [3, 2, 4] 9 = .raised "ValueError" ∧
    filesAtByteRangeFn [3, 2, 4] 2 5 = .ret [0, 1, 2] ∧ filesAtByteRangeFn [3, 2, 4] 5 2 = .raised "AssertionError" ∧
    filePositionFn [3, 2, 4] 2 = .ret 5 ∧ filePositionFn [3, 2, 4] 3 = .raised "ValueError" ∧
    filesAtPieceIndexFn [3, 2, 4] 1 4 = .ret [1, 2] ∧ filesAtPieceIndexFn [3, 2, 4] 3 4 = .raised "ValueError" ∧
    byteRangeOfFileFn [3, 2, 4] 1 2 = .ret (3, 4) := by decide +kernel
example :
    pieceIndexesOfFileFn [3, 2, 4] 2 false 4 2 = .ret [2, 3, 4] ∧ pieceIndexesOfFileFn [3, 2, 4] 2 true 4 2 = .ret [3, 4] ∧
    pieceIndexesOfFileFn [3, 2, 4] 1 true 2 2 = .ret [] ∧ pieceIndexesOfFileFn [1, 0] 1 true 0 1 = .ret [] ∧ pieceIndexesOfFileFn [2, 0, 2] 0 true 2 2 = .ret [] ∧
    pieceIndexesOfFileFn [3, 2, 4] 3 false 1 2 = .raised "ValueError" ∧
    absolutePieceIndexesFn [3, 2, 4] 2 [0, -1, 7, -9, 1] 4 2 = .ret [2, 3, 4] ∧
    absolutePieceIndexesFn [0] 0 [0] 0 2 = .raised "IndexError" ∧
    relativePieceIndexesFn [] [0, -1, 7, -9, 1] 5 2 = .ret [0, 1, 2] ∧
    relativePieceIndexesFn [] [0, 3] 0 2 = .ret [0] := by decide +kernel

end Torf.C11
