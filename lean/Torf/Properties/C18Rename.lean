/-
  C18 — what the search finds does not depend on what directories and files are called
  (`C18_search_rename`, `C18_reuse_rename`), and what two links to the directory they lie in do to
  the search (`C18_two_loops_blowup`).
-/
import Torf.Properties.C18Links
import Torf.Lemmas.ReuseLinks
namespace Torf.C18
open Torf Torf.Reuse Torf.Paths

/-- **What the search finds does not depend on what directories and files are called**: rename
    every directory entry and every component of every link target with an injective map that
    keeps "", "." and ".." special and keeps the `.torrent` suffix test; search the renamed tree
    from the renamed spelling: the search yields exactly the renamed spellings, in the same order. -/
theorem C18_search_rename (ρ : String → String) (hρ : Renaming ρ) (w : World) (fuel : Nat) (p : PPath) :
    find (renameWorld ρ w) fuel (renamePath ρ p) = (find w fuel p).map (Found.rename ρ) := by
  induction fuel generalizing p with
  | zero => rfl
  | succ f ih =>
    rw [find_succ, find_succ, kind_rename hρ]
    cases kind w p with
    | dir names => simp only [Kind.rename, List.flatMap_map, List.map_flatMap, ← renamePath_push, ih]
    | torrent sz => simp only [Kind.rename, renameWorld, apply_ite (List.map (Found.rename ρ))]; rfl
    | _ => rfl

/-- the items of the search — what `Torrent.read` makes of every yielded spelling — are the same -/
theorem C18_items_rename (ρ : String → String) (hρ : Renaming ρ) (w : World) (fuel : Nat)
    (paths : List PPath) :
    searchFound (renameWorld ρ w) fuel (paths.map (renamePath ρ)) =
        (searchFound w fuel paths).map (Found.rename ρ) ∧
    searchItems (renameWorld ρ w) fuel (paths.map (renamePath ρ)) = searchItems w fuel paths := by
  have h1 : searchFound (renameWorld ρ w) fuel (paths.map (renamePath ρ)) =
      (searchFound w fuel paths).map (Found.rename ρ) := by
    unfold searchFound
    simp only [List.flatMap_map, List.map_flatMap, C18_search_rename ρ hρ]
  refine ⟨h1, ?_⟩
  unfold searchItems
  rw [h1, List.filterMap_map]
  congr 1
  funext x
  exact toItem_rename hρ w x

/-- **`reuse()` end to end does not depend on names**: same result, same torrent, same callback
    trace (the trace identifies items by position) -/
theorem C18_reuse_rename (ρ : String → String) (hρ : Renaming ρ) (t : Tor) (w : World) (fuel : Nat)
    (paths : List PPath) (cb : Callback) (elapsed : Bool) :
    reusePaths t (renameWorld ρ w) fuel (paths.map (renamePath ρ)) cb elapsed = reusePaths t w fuel paths cb elapsed := by
  obtain ⟨h1, h2⟩ := C18_items_rename ρ hρ w fuel paths
  unfold reusePaths
  rw [h1, h2]
  simp only [overflow_mem_rename]

/-- swap the names `torrents-new` and `incoming2` -/
def swapNames (s : String) : String :=
  if s = "torrents-new" then "incoming2" else if s = "incoming2" then "torrents-new" else s

theorem swapNames_swapNames (a : String) : swapNames (swapNames a) = a := by
  unfold swapNames
  by_cases h1 : a = "torrents-new"
  · simp [h1]
  · by_cases h2 : a = "incoming2" <;> simp [h1, h2]

/-- an involution takes the value of a fixed point only there -/
theorem swapNames_eq_iff {a c : String} (hc : swapNames c = c) : swapNames a = c ↔ a = c :=
  ⟨fun h => by rw [← swapNames_swapNames a, h, hc], fun h => h ▸ hc⟩

theorem swapNames_renaming : Renaming swapNames where
  inj a b h := by rw [← swapNames_swapNames a, h, swapNames_swapNames]
  empty _ := swapNames_eq_iff (by simp [swapNames])
  dot _ := swapNames_eq_iff (by simp [swapNames])
  dotdot _ := swapNames_eq_iff (by simp [swapNames])
  suffix := by
    intro a; unfold swapNames
    by_cases ha1 : a = "torrents-new"
    · subst ha1; decide +kernel
    · by_cases ha2 : a = "incoming2"
      · subst ha2; decide +kernel
      · simp [ha1, ha2]

example : ∃ ρ, Renaming ρ ∧ ρ "torrents-new" ≠ "torrents-new" :=
  ⟨swapNames, swapNames_renaming, by simp [swapNames]⟩

/-- the tree of `C18_prefix_guard_incomplete` with `torrents-new` called `incoming2`: the name
    that was a string prefix trap is gone, the search finds the same file under the new spelling -/
example :
    find (renameWorld swapNames lnWorld) 10 ⟨true, ["x", "incoming2"]⟩ =
      [.tfile ⟨true, ["x", "incoming2", "old", "2024", "s.torrent"]⟩ true] := by
  have h := C18_search_rename swapNames swapNames_renaming lnWorld 10 lnNew
  rw [C18_prefix_guard_incomplete.2.2.1] at h
  exact h

/-! ### two links to the directory they lie in

`/t/a -> .`, `/t/b -> .`, `/t/s.torrent` -/

def twoFS : FS :=
  [ .dir true true [("t", 1)],
    .dir true true [("a", 2), ("b", 3), ("s.torrent", 4)],
    .link ⟨false, ["."]⟩,
    .link ⟨false, ["."]⟩,
    .file 100 true 0 ]
def twoWorld : World := ⟨twoFS, [], 1000, fun _ => (.undecodable, fun _ => .missing)⟩

/-- a chain of the two links -/
def LoopNames (names : List String) : Prop := ∀ c ∈ names, c = "a" ∨ c = "b"

theorem two_loops_walk (names : List String) (h : LoopNames names) (hk : names.length ≤ 40)
    (rest : List String) :
    resolve twoWorld ⟨true, "t" :: (names ++ rest)⟩ = walk twoFS (40 - names.length) [1] rest := by
  have hw := walk_dot_links twoFS [1] rfl names
    (fun c hc => by rcases h c hc with rfl | rfl <;> rfl) (40 - names.length) rest
  -- `resolve` of `/t/…` unfolds to the walk from `[1]`: the step over `t` is evaluated
  rwa [Nat.add_sub_cancel' hk] at hw

/-- `/t/x₁/…/x_k` with `k ≤ 40` links `xᵢ ∈ {a, b}` is the directory `/t` -/
theorem C18_two_loops_resolve (names : List String) (h : LoopNames names) (hk : names.length ≤ 40) :
    resolve twoWorld ⟨true, "t" :: names⟩ = .ok (.dir [1]) := by
  have := two_loops_walk names h hk []
  rwa [List.append_nil, walk_nil] at this

theorem two_loops_file (names : List String) (h : LoopNames names) (hk : names.length ≤ 40) :
    resolve twoWorld ⟨true, "t" :: (names ++ ["s.torrent"])⟩ = .ok (.file 4) := by
  rw [two_loops_walk names h hk, walk_eq]; rfl

theorem LoopNames.concat {names : List String} (h : LoopNames names) {c : String}
    (hc : c = "a" ∨ c = "b") : LoopNames (names ++ [c]) := by
  intro d hd
  rcases List.mem_append.1 hd with hd | hd
  · exact h d hd
  · rw [List.mem_singleton.1 hd]; exact hc

/-- **Two links to the directory they lie in make the search exponential**: the OS allows 40 links
    per resolution, every level of the recursion branches twice: at least 2^40 items are yielded
    (`reuse()` builds the tuple of all of them before it looks at the first candidate). -/
theorem C18_two_loops_blowup : 2 ^ 40 ≤ (find twoWorld 100 ⟨true, ["t"]⟩).length := by
  let G : Nat → PPath → Prop := fun m p =>
    ∃ names, LoopNames names ∧ names.length + m = 40 ∧ p = ⟨true, "t" :: names⟩
  have hlist : ∀ m p, G m p → listdir twoWorld p = .ok ["a", "b", "s.torrent"] := by
    rintro m p ⟨names, hn, hl, rfl⟩
    simp only [listdir, C18_two_loops_resolve names hn (by omega)]; rfl
  refine find_branching twoWorld "a" "b" ["a", "b", "s.torrent"] (by decide) G
    hlist ?_ ?_ 40 100 _
    ⟨[], by simp [LoopNames], rfl, rfl⟩ (by omega)
  · rintro m p ⟨names, hn, hl, rfl⟩
    exact ⟨⟨names ++ ["a"], hn.concat (.inl rfl), by simp; omega, rfl⟩,
      ⟨names ++ ["b"], hn.concat (.inr rfl), by simp; omega, rfl⟩⟩
  · -- a member with no level to go still yields its `s.torrent` (or the overflow marker)
    rintro p fuel ⟨names, hn, hl, rfl⟩
    have hf := two_loops_file names hn (by omega)
    cases fuel with
    | zero => simp [find]
    | succ f =>
      rw [find_dir (hlist 0 _ ⟨names, hn, hl, rfl⟩)]
      have hs : 1 ≤ (find twoWorld f (push ⟨true, "t" :: names⟩ "s.torrent")).length := by
        cases f with
        | zero => simp [find]
        | succ g =>
          rw [find_file (sz := 100) (by simp only [isdir, push, List.cons_append, hf])
            (by rw [basename_push]; decide +kernel)
            (by simp only [getsize, push, List.cons_append, hf]; rfl) (by decide)]
          exact Nat.le_refl _
      simp only [List.flatMap_cons, List.flatMap_nil, List.length_append]
      omega

end Torf.C18
