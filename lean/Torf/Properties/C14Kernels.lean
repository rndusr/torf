/-
  C14 — bridge theorems to the two validation patterns of `Magnet` (`_INFOHASH_REGEX`, `_XT_REGEX`),
  translated from the source on every run (`Generated.infohashRegex`, `Generated.xtRegex`: the pattern
  text is parsed by Python's own `re._parser`, every character set is enumerated with the `re`
  engine under the flags written in the source). The hand-written matchers of the model
  (`Magnet.infohashRe`, `Magnet.xtRe`), about which all acceptance theorems of C14 are
  proved, are equal to the generic semantics (`Rx.Shape.run`) of the generated shapes on every text —
  so a changed count, character set, anchor, flag (`re.ASCII` dropped: U+212A and U+017F enter the
  letter sets) or prefix in the source breaks these proofs.
-/
import Torf.Generated.Kernels
import Torf.Lemmas.MagnetHash
namespace Torf.C14
-- a text is `List Char` in this file: `Rx.Str` and `Magnet.Str` both abbreviate it, and with both namespaces
-- open `Str` is ambiguous
open Torf.Generated Torf.Magnet Torf.Rx

-- `reHex` unfolds to the right-hand side of `inSet_hex`
private theorem hexSet_eq : inSet [(48, 57), (65, 70), (97, 102)] = reHex := funext inSet_hex

private theorem b32Set_eq : inSet [(50, 55), (65, 90), (97, 122)] = reB32 := by
  funext c
  simp only [inSet, List.any_cons, List.any_nil, Bool.or_false, reB32, isB32Ascii, isLowerAZ, isUpperAZ, inR]
  cases decide (50 ≤ c.toNat) && decide (c.toNat ≤ 55) <;>
    cases decide (65 ≤ c.toNat) && decide (c.toNat ≤ 90) <;>
    cases decide (97 ≤ c.toNat) && decide (c.toNat ≤ 122) <;> rfl

private theorem alt_eq (rs : CSet) (p : Char → Bool) (h : inSet rs = p) (n : Nat) (cs : List Char) :
    matchAlt .absolute ⟨rs, n, some n⟩ cs = altEnd p n cs := by
  rw [matchAlt_exact, h, altEnd, repeatExact_eq]
  by_cases hc : n ≤ cs.length ∧ (cs.take n).all p = true
  · simp only [hc, true_and, if_true, endOk]
  · rw [if_neg hc, if_neg fun x => hc x.1]

private theorem group_eq (cs : List Char) :
    matchAlts .absolute [⟨[(48, 57), (65, 70), (97, 102)], 40, some 40⟩,
                         ⟨[(50, 55), (65, 90), (97, 122)], 32, some 32⟩] cs = hashGroupEnd cs := by
  simp only [matchAlts, alt_eq _ _ hexSet_eq, alt_eq _ _ b32Set_eq, hashGroupEnd]
  cases altEnd reHex 40 cs <;> cases altEnd reB32 32 cs <;> rfl

/-- `_INFOHASH_REGEX.match(v)` as written in the source = the model's matcher, for every text -/
theorem C14_kernel_infohash_regex (v : List Char) : infohashRegex.run v = infohashRe v := by
  unfold infohashRegex Shape.run infohashRe
  simp only [matchPre]
  exact group_eq v

private theorem char_beq (a b : Char) : (a == b) = decide (a.toNat = b.toNat) := by
  by_cases h : a = b
  · subst h; simp
  · have : a.toNat ≠ b.toNat := fun hh => h (Char.toNat_inj.mp hh)
    simp [h, this]

/-- a literal position under `IGNORECASE | ASCII`: `c` matches the pattern character with code `l` iff
    `c`, with an upper-case ASCII letter moved to lower case, has code `l` -/
private theorem asciiLower_beq (l : Nat) (hl : l < 55296) (c : Char) :
    (asciiLower c == Char.ofNat l) =
      decide ((if 65 ≤ c.toNat ∧ c.toNat ≤ 90 then c.toNat + 32 else c.toNat) = l) := by
  rw [char_beq, toNat_ofNat_lt l hl]
  simp only [asciiLower, isUpperAZ, inR_iff]
  split
  · rw [toNat_ofNat_lt _ (by omega)]
  · rfl

/-- one position: the generated set `[(u, u), (l, l)]` (upper and lower case of one letter) is the
    model's `reLit` of the lower-case letter -/
private theorem letter_eq (l : Nat) (hl1 : 97 ≤ l) (hl2 : l ≤ 122) :
    inSet [(l - 32, l - 32), (l, l)] = reLit (Char.ofNat l) := by
  funext c
  rw [reLit, asciiLower_beq l (by omega), Bool.eq_iff_iff]
  simp only [inSet, List.any_cons, List.any_nil, Bool.or_false, Bool.or_eq_true, Bool.and_eq_true,
    decide_eq_true_eq]
  split <;> omega

private theorem colon_eq : inSet [(58, 58)] = reLit ':' := by
  funext c
  rw [reLit, show ':' = Char.ofNat 58 from rfl, asciiLower_beq 58 (by omega), Bool.eq_iff_iff]
  simp only [inSet, List.any_cons, List.any_nil, Bool.or_false, Bool.and_eq_true, decide_eq_true_eq]
  split <;> omega

private theorem matchPre_cons {s : CSet} {p : Char} (h : inSet s = reLit p) {ss : List CSet} {ps : List Char}
    (ih : ∀ v, matchPre ss v = litI ps v) : ∀ v, matchPre (s :: ss) v = litI (p :: ps) v
  | [] => rfl
  | c :: cs => by simp only [matchPre, litI, h, ih cs]

private theorem pre_eq : ∀ (v : List Char),
    matchPre [[(85, 85), (117, 117)], [(82, 82), (114, 114)], [(78, 78), (110, 110)], [(58, 58)],
              [(66, 66), (98, 98)], [(84, 84), (116, 116)], [(73, 73), (105, 105)], [(72, 72), (104, 104)],
              [(58, 58)]] v = litI urnPrefix v :=
  matchPre_cons (letter_eq 117 (by decide) (by decide)) <|
  matchPre_cons (letter_eq 114 (by decide) (by decide)) <|
  matchPre_cons (letter_eq 110 (by decide) (by decide)) <|
  matchPre_cons colon_eq <|
  matchPre_cons (letter_eq 98 (by decide) (by decide)) <|
  matchPre_cons (letter_eq 116 (by decide) (by decide)) <|
  matchPre_cons (letter_eq 105 (by decide) (by decide)) <|
  matchPre_cons (letter_eq 104 (by decide) (by decide)) <|
  matchPre_cons colon_eq fun v => by cases v <;> rfl

/-- `_XT_REGEX.match(v)` as written in the source = the model's matcher, for every text -/
theorem C14_kernel_xt_regex (v : List Char) : xtRegex.run v = xtRe v := by
  unfold xtRegex Shape.run xtRe
  simp only [pre_eq]
  cases litI urnPrefix v with
  | none => rfl
  | some rest => exact group_eq rest

/-- non-vacuity: both patterns accept and reject something -/
example : infohashRegex.run ("c12fe1c06bba254a9dc9f519b335aa7c1367a88a".toList) =
    some "c12fe1c06bba254a9dc9f519b335aa7c1367a88a".toList := by
  -- a literal as the list of its characters: the kernel is slow on `String.toList` of a literal
  repeat rw [String.toList_ofList]
  decide +kernel
example : xtRegex.run ("URN:btih:YNCKHTQCWBTRNJIV4WNAE52SJUQCZO5C".toList) =
    some "YNCKHTQCWBTRNJIV4WNAE52SJUQCZO5C".toList := by
  repeat rw [String.toList_ofList]
  decide +kernel
example : infohashRegex.run ("c12fe1c06bba254a9dc9f519b335aa7c1367a88a\n".toList) = none := by
  repeat rw [String.toList_ofList]
  decide +kernel

end Torf.C14
