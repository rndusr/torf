/-
  C14 — magnet fields accept exactly the valid values, whatever the object held before.
  Property theorems only (helper lemmas: Torf.Lemmas.MagnetHash, for the conversion Torf.Lemmas.MagnetDigits).
  Where a property theorem is a lemma of those modules under the property's name (`C14_torrent_hash` is
  `infohashAsBase16_valid`, …), proofs cite the lemma, here as in every other module.
-/
import Torf.Lemmas.MagnetHash
namespace Torf.C14
open Torf Torf.Magnet

/-- `Magnet.xt = v` (and `Magnet(v)`, which is the same setter on a fresh object), for **every**
    string and from every prior state: accepted iff `v` is a valid hash (40 hex or 32 base32 ASCII
    characters, any case) optionally prefixed by `urn:btih:`; what is stored is the hash without
    the prefix. -/
theorem C14_accept_iff_xt (st : HState) (v : Str) :
    ((setXt st v).1 = none ↔ xtAccepts v = true) ∧
    ((setXt st v).1 = none → (setXt st v).2 = some (xtStored v)) := by
  rw [setXt_eq]
  cases xtAccepts v <;> simp

/-- the constructor is the xt setter on an object that holds nothing yet -/
theorem C14_accept_iff_constructor (v : Str) :
    ((construct v).1 = none ↔ xtAccepts v = true) ∧
    ((construct v).1 = none → (construct v).2 = some (xtStored v)) :=
  C14_accept_iff_xt none v

/-- `Magnet.infohash = v`, every string, every prior state: accepted iff `v` is a valid hash (no
    prefix allowed here); stored unchanged. -/
theorem C14_accept_iff_infohash (st : HState) (v : Str) :
    ((setInfohash st v).1 = none ↔ infohashAccepts v = true) ∧
    ((setInfohash st v).1 = none → (setInfohash st v).2 = some v) := by
  rw [setInfohash_eq]
  cases infohashAccepts v <;> simp

/-- regression for the repaired finding D14f: the characters that `re.IGNORECASE` alone folds onto
    ASCII letters are rejected — 32 Kelvin signs (U+212A) are no base32 hash, `urn:btİh:` (U+0130)
    is no prefix — by both setters, and the previous value stays. -/
example : setXt (some ['x']) (List.replicate 32 (Char.ofNat 0x212a)) = (some .magnet, some ['x']) ∧
    setInfohash (some ['x']) (List.replicate 32 (Char.ofNat 0x212a)) = (some .magnet, some ['x']) ∧
    xtAccepts (List.replicate 32 (Char.ofNat 0x212a)) = false ∧
    (setXt none ("urn:bt".toList ++ Char.ofNat 0x130 :: "h:".toList ++ List.replicate 40 'a')).1 = some .magnet ∧
    (setXt none (List.replicate 31 'a' ++ [Char.ofNat 0x17f])).1 = some .magnet := by decide +kernel

/-- every rejected assignment raises the magnet error and leaves the previous value intact —
    all strings, all prior states, all three entry points -/
theorem C14_reject_keeps (st : HState) (v : Str) :
    ((setXt st v).1 ≠ none → setXt st v = (some .magnet, st)) ∧
    ((setInfohash st v).1 ≠ none → setInfohash st v = (some .magnet, st)) := by
  rw [setXt_eq, setInfohash_eq]
  cases xtAccepts v <;> cases infohashAccepts v <;> simp

/-- Whether an assignment is accepted never depends on what the object held before, and after
    any history the object holds the value of the last accepted assignment (or the initial
    value): a history behaves like each of its assignments judged on a fresh object. -/
theorem C14_history_independent (st : HState) (ops : List HashOp) :
    (runHash st ops).1 = ops.map (fun op => (stepHash none op).1) ∧
    (runHash st ops).2 =
      ops.foldl (fun s op => match stepHash none op with | (none, some x) => some x | _ => s) st := by
  induction ops generalizing st with
  | nil => exact ⟨rfl, rfl⟩
  | cons op ops ih =>
    have key : (stepHash st op).1 = (stepHash none op).1 ∧
        (stepHash st op).2 = (match stepHash none op with | (none, some x) => some x | _ => st) := by
      rw [stepHash_eq, stepHash_eq none]
      cases specAssign op <;> exact ⟨rfl, rfl⟩
    obtain ⟨ih1, ih2⟩ := ih (stepHash st op).2
    simp only [runHash, List.map_cons, List.foldl_cons]
    refine ⟨by rw [ih1, key.1], ?_⟩
    rw [ih2, key.2]

/-- The stored value always is something the info hash pattern accepts. -/
theorem C14_history_invariant (st : HState) (ops : List HashOp)
    (hst : ∀ s, st = some s → (infohashRe s).isSome = true) :
    ∀ s, (runHash st ops).2 = some s → (infohashRe s).isSome = true := by
  induction ops generalizing st with
  | nil => exact hst
  | cons op ops ih =>
    apply ih
    intro s hs
    rw [stepHash_eq] at hs
    cases ha : specAssign op with
    | none => rw [ha] at hs; exact hst s hs
    | some x =>
      rw [ha] at hs
      cases hs
      rw [infohashRe_isSome]; exact specAssign_valid op s ha

theorem C14_hashVal_lt (v : Str) (h : validHash v = true) : hashVal v < 2 ^ 160 :=
  hashVal_lt v h

/-- Every accepted hash — 40 hex digits or 32 base32 digits, any letter case — converts
    without error to the lower-case 40-digit hexadecimal form of the number it denotes. -/
theorem C14_torrent_hash (v : Str) (h : validHash v = true) :
    infohashAsBase16 v = .ok (hexLower40 (hashVal v)) :=
  infohashAsBase16_valid v h

/-- the canonical form denotes the number it was made from -/
theorem C14_hashVal_hexLower40 (n : Nat) (h : n < 2 ^ 160) : hashVal (hexLower40 n) = n :=
  hashVal_hexLower40 n h

/-- 40 lower-case hex digits are a valid hash in canonical form -/
theorem C14_lowerHex_canonical (s : Str) (h : LowerHex40 s = true) :
    validHash s = true ∧ hexLower40 (hashVal s) = s :=
  lowerHex40_canonical h

/-- A served torrent (whose `infohash` is 40 lower-case hex digits, as `Torrent.infohash`
    always is) is adopted iff it denotes the hash of the magnet — whatever notation and letter
    case the magnet uses; otherwise the documented MetainfoError is raised. -/
theorem C14_adopt_iff (own served : Str) (h : validHash own = true) (hs : LowerHex40 served = true) :
    getInfo true own [.torrent served true] 0 =
      (if hashVal served = hashVal own then .adopted served 1 else .raised .metainfo 1) := by
  simp only [getInfo_cons, setInfoFrom_ok (infohashAsBase16_valid own h), ← eq_hexLower40_iff h hs]
  by_cases e : served = hexLower40 (hashVal own) <;> simp only [e, if_true, if_false]

/-- Over any list of sources (failed downloads, unreadable data, torrents): with validation on,
    metadata is only ever adopted from a torrent that denotes the magnet's hash. -/
theorem C14_adopt_sound (own : Str) (h : validHash own = true) (srcs : List Served) (k n : Nat)
    (ih : Str) (hg : getInfo true own srcs k = .adopted ih n) :
    hexLower40 (hashVal own) = ih ∧ Served.torrent ih true ∈ srcs := by
  induction srcs generalizing k with
  | nil => cases hg
  | cons s rest ihr =>
    rw [getInfo_cons] at hg
    cases s with
    | connError | unreadable => exact (ihr _ hg).imp_right (List.mem_cons_of_mem _)
    | torrent h' ne =>
      rw [setInfoFrom_ok (infohashAsBase16_valid own h)] at hg
      by_cases e : h' = hexLower40 (hashVal own)
      · rw [if_pos e] at hg
        cases ne with
        | true => cases hg; exact ⟨e.symm, List.mem_cons_self⟩
        | false => exact (ihr _ hg).imp_right (List.mem_cons_of_mem _)
      · rw [if_neg e] at hg; cases hg

/-- The HTTP-tracker request carries the `%XX`-encoding (`quote_from_bytes`) of exactly the 20
    bytes of the hash the magnet denotes, whatever notation the magnet uses. -/
theorem C14_tracker_request (v : Str) (h : validHash v = true) :
    (infohashAsBase16 v >>= infoHashEnc) = .ok (hashBytesEnc (hashVal v)) := by
  rw [infohashAsBase16_valid v h]
  simp only [bind, Except.bind]
  exact infoHashEnc_hexLower40 _ (hashVal_lt v h)

/-- `xl` is accepted iff it is `None` or `int()` works on it and gives at least 1; otherwise
    the magnet error is raised and the stored length is unchanged. -/
theorem C14_xl (st : Option Int) (v : Option IntResult) :
    ((setXl st v).1 = none ↔ (v = none ∨ ∃ i : Int, v = some (some i) ∧ 1 ≤ i)) ∧
    ((setXl st v).1 ≠ none → setXl st v = (some .magnet, st)) ∧
    (∀ i : Int, v = some (some i) → 1 ≤ i → setXl st v = (none, some i)) := by
  unfold setXl
  match v with
  | none => simp
  | some none => simp
  | some (some i) =>
    by_cases hi : i < 1
    · simp [hi]
    · simp [hi]; omega

/-- URL fields, URL validity (`utils.is_url`) being an arbitrary predicate.  A URL is accepted iff it
    is valid as given **and** in the form that is stored (spaces replaced by '+').  Lists (`tr`,
    `ws`): accepted iff every item is; a rejected list raises URLError and the field keeps its
    previous content (atomic: the second coercion inside `insert`, after the list was cleared, can
    never fail); an accepted list holds the items with ' ' → '+', in order, each at its first
    occurrence only, and every stored item is valid for `is_url` and free of spaces.  Single URLs
    (`xs`, `as_`) likewise. -/
theorem C14_urls (isUrl : Str → Bool) (st : List Str) (vs : List Str) (st1 : Option Str) (v : Str) :
    ((setUrls isUrl st vs).1 = none ↔ vs.all (urlAccepts isUrl) = true) ∧
    ((setUrls isUrl st vs).1 ≠ none → setUrls isUrl st vs = (some .url, st)) ∧
    ((setUrls isUrl st vs).1 = none →
      (setUrls isUrl st vs).2 = keepFirst (vs.map plusForSpace) ∧
      ∀ u ∈ (setUrls isUrl st vs).2, isUrl u = true ∧ ' ' ∉ u) ∧
    (setUrl isUrl st1 (some v) =
      if urlAccepts isUrl v then (none, some (plusForSpace v)) else (some .url, st1)) ∧
    (setUrl isUrl st1 none = (none, none)) := by
  rw [setUrls_eq, setUrl_eq]
  refine ⟨?_, ?_, ?_, rfl, rfl⟩
  · by_cases h : vs.all (urlAccepts isUrl) = true <;> simp [h]
  · by_cases h : vs.all (urlAccepts isUrl) = true <;> simp [h]
  · by_cases h : vs.all (urlAccepts isUrl) = true
    · simp only [h, if_true, true_and, forall_const]
      exact stored_valid h
    · simp [h]

/-- what `keepFirst` means: no duplicates, the same members -/
theorem C14_keepFirst (us : List Str) :
    (keepFirst us).Nodup ∧ ∀ u, u ∈ keepFirst us ↔ u ∈ us :=
  ⟨keepFirst_nodup us, mem_keepFirst us⟩

/-- regression for the repaired findings D14g / D13e: a URL that is valid only with its leading
    space (`is_url(' a')` but not `is_url('+a')`) is rejected and the previous trackers stay;
    before the repair the list was cleared, partly refilled and URLError raised. -/
example : setUrls (fun s => s = [' ', 'a'] || s = ['b']) [['c']] [['b'], [' ', 'a']] = (some .url, [['c']]) ∧
    setUrl (fun s => s = [' ', 'a'] || s = ['b']) (some ['c']) (some [' ', 'a']) = (some .url, some ['c']) := by
  decide +kernel

/-- a value the xt setter accepts is stored as a valid hash -/
theorem C14_xtStored_valid (v : Str) (h : xtAccepts v = true) : validHash (xtStored v) = true :=
  xtStored_valid v h

/-- on an object that holds no metadata, `get_info` is the function `getInfo` of `C14_adopt_iff` /
    `C14_adopt_sound` -/
theorem C14_fetch_fresh (validate : Bool) (ih : Str) (srcs : List Served) (k : Nat) :
    fetchLoop validate ih none srcs k =
      (match getInfo validate ih srcs k with
       | .raised e n => (some e, none, n)
       | .adopted h n => (none, some h, n)
       | .nothing n => (none, none, n)) := by
  induction srcs generalizing k with
  | nil => rfl
  | cons s rest ihr =>
    rw [getInfo_cons, fetchLoop]
    cases setInfoFrom validate ih none s with
    | error e => rfl
    | ok o =>
      cases o with
      | some h => rfl
      | none => exact ihr _

/-- one step of a history keeps the invariant "valid hash, adopted metadata denotes it" -/
theorem C14_assign_spec (st : MState) (hst : StateOk st) (op : HashOp) :
    stepM st op =
      (match specAssign op with
       | some s => (none, { hash := some s, info := if st.hash = some s then st.info else none })
       | none => (some .magnet, st)) ∧
    StateOk (stepM st op).2 := by
  refine ⟨stepM_spec st op, ?_⟩
  rcases stepM_cases st op with e | ⟨s, hv, e⟩ <;> rw [e]
  · exact hst
  · exact ⟨fun x hx => by cases hx; exact hv, nofun⟩

/-- On one object, in any history of assignments (either setter, accepted or rejected, **any**
    strings), conversions (`torrent()`) and validating metadata downloads (`get_info()` over any
    list of sources): the code does exactly what the specification `specUse` says — every
    assignment is judged on its own; every `torrent()` yields, without error, the lower-case
    40-digit hexadecimal form of the number denoted by the value that was accepted last, no matter
    what was converted or downloaded earlier; metadata is adopted only from a torrent whose infohash
    denotes the hash held at that moment (else MetainfoError) and is forgotten as soon as another
    hash is stored.  Hypotheses: the object starts with a valid hash (or nothing) and with metadata
    that denotes it (or none) — what every constructed object satisfies; every `get_info()` of the
    history validates. -/
theorem C14_convert_history (st : MState) (ops : List UseOp)
    (hst : StateOk st) (hops : useValidated ops = true) :
    runUse st ops = specUse st ops := by
  induction ops generalizing st with
  | nil => rfl
  | cons op ops ih =>
    cases op with
    | convert =>
      simp only [useValidated] at hops
      simp only [runUse, specUse, ih st hst hops]
      cases hh : st.hash with
      | some s => rw [convertM_eq hh (hst.1 s hh) (hst.info_eq hh)]
      | none =>
        cases hi : st.info with
        | none => simp only [convertM, hh, hi]
        | some a => obtain ⟨s, hs, _⟩ := hst.2 a hi; rw [hh] at hs; cases hs
    | assign a =>
      simp only [useValidated] at hops
      obtain ⟨h1, h2⟩ := C14_assign_spec st hst a
      simp only [runUse, specUse]
      rw [ih _ h2 hops, h1]
      cases specAssign a <;> rfl
    | fetch v served =>
      simp only [useValidated, Bool.and_eq_true] at hops
      obtain ⟨rfl, hops⟩ := hops
      simp only [runUse, specUse]
      cases hh : st.hash with
      | none => simp only [ih st hst hops]
      | some s =>
        have hv := hst.1 s hh
        simp only [fetchLoop_spec (infohashAsBase16_valid s hv) (hst.info_eq hh) served 0]
        rw [ih _ _ hops]
        · cases (specFetch (hexLower40 (hashVal s)) st.info.isSome served 0).2.1 <;> simp
        · refine ⟨fun x hx => by cases hx; exact hv, fun a ha => ⟨s, rfl, ?_⟩⟩
          dsimp only at ha
          split at ha <;> cases ha
          rfl

/-- Regression for the repaired finding D14h, for every valid hash `b`, every other stored string
    `a` and whatever metadata `x` the object held: after `infohash = b` the metadata is gone and
    `torrent()` reports the 40-digit form of `b`. -/
theorem C14_reassign_forgets (a b x : Str) (hb : validHash b = true) (hne : a ≠ b) :
    (runUse { hash := some a, info := some x } [.assign (.infohash b), .assign (.xt b), .convert]).1 =
      [.assigned none, .assigned none, .converted (.ok (hexLower40 (hashVal b))) false] := by
  have hg : infohashRe b = some b := by rw [infohashRe_eq, if_pos hb]
  have hne' : ¬ some a = some b := fun h => hne (Option.some.inj h)
  simp [runUse, stepM, setInfohashM, setXtM, setInfohashAttr, hg, hne', convertM, infohashAsBase16_valid b hb]

/-- With adopted metadata — **any** info section `a`, values of any type — and whatever the magnet's
    own fields are (`dn`, `xl`, trackers, webseeds; agreeing with the metadata or not), `torrent()`
    returns exactly the specified torrent: its info section **is** `a` (no `name` from `dn`, no
    `length` from `xl` survives, nothing is added or lost), trackers and webseeds are the magnet's,
    no fallback hash is set; hence `Torrent.infohash` is whatever `a` itself hashes to (and the
    MetainfoError of `validate()` if `a` is invalid — only possible after `validate=False`). -/
theorem C14_torrent_after_adoption {V : Type} (ofStr : Str → V) (ofInt : Int → V) (ih : Str)
    (f : Fields) (a : Info V) :
    torrentOf ofStr ofInt ih f (some a) = .ok (specTorrent ofStr ofInt ih f (some a)) ∧
    (specTorrent ofStr ofInt ih f (some a)).info = a ∧
    (specTorrent ofStr ofInt ih f (some a)).trackers = f.tr ∧
    (specTorrent ofStr ofInt ih f (some a)).webseeds = f.ws ∧
    (∀ hashOf : Info V → Option Str,
      torrentInfohash hashOf (specTorrent ofStr ofInt ih f (some a)) =
        (match hashOf a with | some h => .ok h | none => .error .metainfo)) := by
  refine ⟨?_, rfl, rfl, rfl, ?_⟩
  · simp only [torrentOf, specTorrent, ite_isEmpty_self]
  · intro hashOf
    simp only [torrentInfohash, specTorrent]
    cases hashOf a <;> rfl

/-- … and if that metadata was adopted by a validating `get_info()` (`_set_info_from_torrent`
    accepted a torrent whose infohash `h` is what `a` hashes to), then `torrent().infohash` is the
    40-digit hexadecimal form of the magnet's hash — for every notation of the magnet's hash, all
    own fields, every info section. -/
theorem C14_torrent_adopted_hash {V : Type} (ofStr : Str → V) (ofInt : Int → V) (ih : Str)
    (hv : validHash ih = true) (f : Fields) (a : Info V) (hashOf : Info V → Option Str) (h : Str)
    (before : Option Str) (hh : hashOf a = some h)
    (had : setInfoFrom true ih before (.torrent h true) = .ok (some h)) :
    (torrentOf ofStr ofInt ih f (some a) >>= torrentInfohash hashOf) = .ok (hexLower40 (hashVal ih)) := by
  obtain ⟨e, _, _, _, ei⟩ := C14_torrent_after_adoption ofStr ofInt ih f a
  have hown : h = hexLower40 (hashVal ih) := by
    rw [setInfoFrom_ok (infohashAsBase16_valid ih hv)] at had
    split at had
    · assumption
    · cases had
  rw [e]
  show torrentInfohash hashOf _ = _
  rw [ei hashOf, hh, hown]

/-- Without metadata: name and size come from `dn` and `xl` (and nothing else is in the info
    section), trackers and webseeds are the magnet's, and the hash is handed over explicitly as the
    40-digit form — which `Torrent.infohash` returns because such an info section cannot validate. -/
theorem C14_torrent_before_adoption {V : Type} (ofStr : Str → V) (ofInt : Int → V) (ih : Str)
    (hv : validHash ih = true) (f : Fields) (hxl : ∀ n, f.xl = some n → 1 ≤ n) :
    torrentOf ofStr ofInt ih f none = .ok (specTorrent ofStr ofInt ih f none) ∧
    (∀ hashOf : Info V → Option Str, hashOf (specTorrent ofStr ofInt ih f none).info = none →
      torrentInfohash hashOf (specTorrent ofStr ofInt ih f none) = .ok (hexLower40 (hashVal ih))) := by
  constructor
  · simp only [torrentOf, specTorrent, ite_isEmpty_self, infohashAsBase16_valid ih hv]
    cases hd : f.dn with
    | none =>
      cases hx : f.xl with
      | none => rfl
      | some n =>
        have : n ≠ 0 := by have := hxl n hx; omega
        simp [this, dictPop, dictSet]
    | some d =>
      cases hx : f.xl with
      | none => simp [dictSet]
      | some n =>
        have : n ≠ 0 := by have := hxl n hx; omega
        have hk : ¬ kName = kLength := by decide
        simp [this, dictSet, hk]
  · intro hashOf hn
    simp only [torrentInfohash, hn]
    rfl

/-- The conversions of the history theorem (`convertM`, `C14_convert_history`) are the infohash of
    this full `torrent()`: for a state whose metadata is the hash of the adopted info section. -/
theorem C14_torrent_convertM {V : Type} (ofStr : Str → V) (ofInt : Int → V) (s : Str)
    (hv : validHash s = true) (f : Fields) (hxl : ∀ n, f.xl = some n → 1 ≤ n)
    (adopted : Option (Info V)) (hashOf : Info V → Option Str) (info : Option Str)
    (hinfo : ∀ a, adopted = some a → hashOf a = info ∧ info.isSome = true)
    (hnone : adopted = none → info = none ∧ hashOf (specTorrent ofStr ofInt s f none).info = none) :
    convertM { hash := some s, info := info } =
      .converted (torrentOf ofStr ofInt s f adopted >>= torrentInfohash hashOf) adopted.isSome := by
  cases adopted with
  | some a =>
    obtain ⟨e, _, _, _, ei⟩ := C14_torrent_after_adoption ofStr ofInt s f a
    obtain ⟨h1, h2⟩ := hinfo a rfl
    rw [e]
    show _ = UseObs.converted (torrentInfohash hashOf _) _
    rw [ei hashOf, h1]
    cases info with
    | none => cases h2
    | some h => rfl
  | none =>
    obtain ⟨e, ei⟩ := C14_torrent_before_adoption ofStr ofInt s hv f hxl
    obtain ⟨h1, h2⟩ := hnone rfl
    rw [e, h1]
    show _ = UseObs.converted (torrentInfohash hashOf _) _
    rw [ei hashOf h2]
    simp [convertM, infohashAsBase16_valid s hv]

/-- Every `torrent()` result is independent of what the caller did to earlier results: in any
    history of `torrent()` calls, in-place edits of any earlier result (any function of it, any
    depth) and changes of the magnet's own fields, (1) each `torrent()` returns the torrent specified
    for the fields held at that moment and the metadata `get_info()` adopted (`specRunT` ignores the
    edits), (2) the magnet still holds exactly the adopted metadata afterwards, and (3) an edit
    touches only the result it is applied to — every other result handed out so far is unchanged.
    (Regression statement for the repaired finding D14i; with `C14_torrent_after_adoption` each
    result's info section is the adopted one.) -/
theorem C14_torrent_results_independent {V : Type} (ofStr : Str → V) (ofInt : Int → V) (ih : Str)
    (st : TState V) (ops : List (TOp V)) :
    (runT ofStr ofInt ih st ops).1 = specRunT ofStr ofInt ih st.fields st.adopted ops ∧
    (runT ofStr ofInt ih st ops).2.adopted = st.adopted ∧
    (∀ (i : Nat) (g : TorrentOut V → TorrentOut V) (j : Nat), j ≠ i →
      (stepT ofStr ofInt ih st (.edit i g)).2.results[j]? = st.results[j]?) := by
  have run : (runT ofStr ofInt ih st ops).1 = specRunT ofStr ofInt ih st.fields st.adopted ops ∧
      (runT ofStr ofInt ih st ops).2.adopted = st.adopted := by
    induction ops generalizing st with
    | nil => exact ⟨rfl, rfl⟩
    | cons op ops ih' =>
      cases op with
      | torrent =>
        simp only [runT, stepT, specRunT]
        cases torrentOf ofStr ofInt ih st.fields st.adopted <;> exact ⟨by rw [(ih' _).1], (ih' _).2⟩
      | edit i g | setFields f => exact ih' _
  refine ⟨run.1, run.2, fun i g j hji => ?_⟩
  simp only [stepT, List.getElem?_modify]
  have : ¬ i = j := fun e => hji e.symm
  simp [this]

/- Non-vacuity.  A string literal is first replaced by the list of its characters (`String.toList_ofList`): the
   kernel would otherwise run the UTF-8 encoder and decoder on it. -/

example : validHash ("ABCDEFabcdef0123456789abcdefABCDEF012345".toList) = true := by
  rw [String.toList_ofList]; decide +kernel
example : validHash ("vov2xk5lVOV2XK5LVOV2XK5LVOV2XK5L".toList) = true := by
  rw [String.toList_ofList]; decide +kernel
example : xtAccepts ("URN:btih:VOV2XK5LVOV2XK5LVOV2XK5LVOV2XK5L".toList) = true ∧
    xtAccepts ("urn:btih:VOV2XK5LVOV2XK5LVOV2XK5LVOV2XK5".toList) = false ∧
    infohashAccepts ("urn:btih:VOV2XK5LVOV2XK5LVOV2XK5LVOV2XK5L".toList) = false := by
  repeat rw [String.toList_ofList]
  decide +kernel
example : LowerHex40 ("abababababababababababababababababababab".toList) = true := by
  rw [String.toList_ofList]; decide +kernel
/-- `urlAccepts` is satisfiable and refutable, with and without spaces -/
example : urlAccepts (fun s => s.take 4 = "http".toList) "http://a/b c".toList = true ∧
    urlAccepts (fun s => s.take 4 = "http".toList) " http://a/b".toList = false := by
  repeat rw [String.toList_ofList]
  decide +kernel
/-- hypotheses of `C14_convert_history` on: download (adopted) → torrent() → assign another hash →
    a rejected assignment → torrent() → download -/
example : StateOk { hash := some "abababababababababababababababababababab".toList } ∧
    useValidated [.fetch true [.connError, .torrent "abababababababababababababababababababab".toList true],
               .convert, .assign (.infohash "CDCDCDCDCDCDCDCDCDCDCDCDCDCDCDCDCDCDCDCD".toList),
               .assign (.xt "junk".toList), .convert, .fetch true [.unreadable]] = true := by
  repeat rw [String.toList_ofList]
  refine ⟨⟨?_, ?_⟩, by decide +kernel⟩
  · intro s hs; cases hs; decide +kernel
  · intro a ha; cases ha
/-- … and an object that holds adopted metadata satisfies `StateOk` too -/
example : StateOk { hash := some "ABABABABABABABABABABABABABABABABABABABAB".toList,
                    info := some (hexLower40 (hashVal "ABABABABABABABABABABABABABABABABABABABAB".toList)) } := by
  rw [String.toList_ofList]
  exact ⟨by intro s hs; cases hs; decide +kernel, by intro a ha; exact ⟨_, rfl, (Option.some.inj ha).symm⟩⟩

/-- `C14_torrent_adopted_hash`: its adoption hypothesis is satisfiable (a b32 magnet and the matching
    40-digit infohash), and a multi-file-like info section next to `dn`/`xl` comes out untouched -/
example : setInfoFrom true "VOV2XK5LVOV2XK5LVOV2XK5LVOV2XK5L".toList none
      (.torrent (hexLower40 (hashVal "VOV2XK5LVOV2XK5LVOV2XK5LVOV2XK5L".toList)) true) =
    .ok (some (hexLower40 (hashVal "VOV2XK5LVOV2XK5LVOV2XK5LVOV2XK5L".toList))) := by
  rw [String.toList_ofList, setInfoFrom_ok (infohashAsBase16_valid _ (by decide +kernel)), if_pos rfl]
  rfl
example : ((torrentOf (V := Nat) (fun _ => 0) (fun _ => 1) ("ab".toList) { dn := some ['x'], xl := some 7 }
      (some [("files".toList, 5), (kName, 6)])).toOption.map (·.info)) =
    some [("files".toList, 5), (kName, 6)] := by decide +kernel
/-- … while without metadata `dn` and `xl` make the info section -/
example : ((torrentOf (V := Nat) (fun _ => 0) (fun _ => 1) (List.replicate 40 'a') { dn := some ['x'], xl := some 7 }
      none).toOption.map (·.info)) = some [(kName, 0), (kLength, 1)] := by decide +kernel

/-- a concrete history get_info → torrent() → edit the result (info section wiped, trackers
    replaced) → torrent(): the second result is the first one as it was returned -/
example : (runT (V := Nat) (fun _ => 0) (fun _ => 1) (List.replicate 40 'a')
      { fields := { dn := some ['x'], xl := some 7, tr := [['t']] }, adopted := some [("files".toList, 5), (kName, 6)], results := [] }
      [.torrent, .edit 0 (fun t => { t with info := [], trackers := [] }), .torrent]).1.map
        (fun r => r.toOption.map fun t => (t.info, t.trackers)) =
    [some ([("files".toList, 5), (kName, 6)], [['t']]), some ([("files".toList, 5), (kName, 6)], [['t']])] := by
  decide

end Torf.C14
