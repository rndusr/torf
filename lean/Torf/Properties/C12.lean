/-
  C12 — progress reports count every piece once and always finish.  Property theorems only.

  `Callbacks.calls verify interval total evs` is the sequence of user-callback invocations for the
  results `evs` in the order in which the collector receives them.  The theorems hold for EVERY
  arrival order (hence for every thread schedule: by C03 the arrival order of a complete run is a
  permutation of all pieces), every reporting interval and every clock (the value of
  `time_monotonic()` at each gate evaluation is an arbitrary integer; only the theorems that compare
  with a zero interval, `C12_zero_interval`, `C12_zero_interval_counts` and `C12_thins_out`, need
  the clock to be monotone).
-/
import Torf.Lemmas.Callbacks
namespace Torf.C12
open Torf.Callbacks

/-- the done-counter of every call lies within 1 … number of results collected so far (≤ total) -/
theorem C12_args (verify : Bool) (interval : Int) (total : Nat) (evs : List Ev)
    (hlen : evs.length ≤ total) (c : Call) (hc : c ∈ calls verify interval total evs) :
    1 ≤ c.done ∧ c.done ≤ total := by
  rw [calls_eq] at hc
  have := mem_allCalls verify 1 evs c ((callsFrom_sublist verify interval total evs (-1) 0).subset hc)
  omega

/-- the done-counter never decreases, and a value repeats only to deliver several errors for
    the same piece (both calls concern the same piece and both carry an exception) -/
theorem C12_monotone (verify : Bool) (interval : Int) (total : Nat) (evs : List Ev) :
    (calls verify interval total evs).Pairwise
      (fun a b => a.done ≤ b.done ∧ (a.done = b.done → a.piece = b.piece ∧ a.exc.isSome ∧ b.exc.isSome)) := by
  rw [calls_eq]
  exact (allCalls_pairwise verify 1 evs).sublist (callsFrom_sublist verify interval total evs (-1) 0)

/-- with a zero interval (and a monotone clock starting at ≥ -1, as `time.monotonic()` is) every
    collected result is reported: the calls are exactly the reports of result 1, 2, 3, … in turn -/
theorem C12_zero_interval (verify : Bool) (total : Nat) (evs : List Ev)
    (hclk : ClockMono (-1) evs) :
    calls verify 0 total evs = (evs.zipIdx 1).flatMap fun (e, i) => emit verify i e := by
  rw [calls_eq]
  exact callsFrom_zero verify 0 (Int.le_refl 0) total evs (-1) 0 hclk

/-- … in particular the distinct values of the done-counter are 1, 2, …, n in this order -/
theorem C12_zero_interval_counts (verify : Bool) (total : Nat) (evs : List Ev)
    (hclk : ClockMono (-1) evs) (hexc : ∀ e ∈ evs, e.kind = .exc → verify = true ∧ 1 ≤ e.nexc)
    (i : Nat) (hi : i < evs.length) :
    ∃ c ∈ calls verify 0 total evs, c.done = i + 1 := by
  rw [C12_zero_interval verify total evs hclk]
  have hmem : (evs[i], i + 1) ∈ evs.zipIdx 1 := by
    rw [List.mem_zipIdx_iff_le_and_getElem?_sub]
    simp [hi]
  have hne := emit_ne_nil verify (i + 1) evs[i] (hexc evs[i] (List.getElem_mem hi))
  obtain ⟨c, hc⟩ := List.exists_mem_of_ne_nil _ hne
  refine ⟨c, ?_, (mem_emit verify (i + 1) evs[i] c hc).1⟩
  rw [List.mem_flatMap]
  exact ⟨(evs[i], i + 1), hmem, hc⟩

/-- unless the run is cancelled or raises (all `total` results collected; in a hashing run no
    result is an error item — `generate()` raises it —, in a verification every error item carries
    at least one exception) the last call reports `done = total`, whatever reporting interval is
    requested and whatever the clock does -/
theorem C12_final (verify : Bool) (interval : Int) (total : Nat) (evs : List Ev)
    (hlen : evs.length = total) (hpos : 0 < total)
    (hexc : ∀ e ∈ evs, e.kind = .exc → verify = true ∧ 1 ≤ e.nexc) :
    ∃ c, (calls verify interval total evs).getLast? = some c ∧ c.done = total := by
  rw [calls_eq]
  have hne : evs ≠ [] := by intro h0; subst h0; simp at hlen; omega
  exact callsFrom_final verify interval total evs (-1) 0 hne (by omega) hexc

/-- verification: the interval never suppresses a read/size error or a hash mismatch — the calls
    that carry an exception are exactly one per exception of every error item and one per
    mismatching piece, in arrival order, for every interval and every clock -/
theorem C12_errors_forced (interval : Int) (total : Nat) (evs : List Ev) :
    (calls true interval total evs).filter (fun c => c.exc.isSome) = forcedErrorCalls evs := by
  rw [calls_eq, callsFrom_errors]
  unfold allCalls forcedErrorCalls
  rw [List.filter_flatMap, List.zipIdx_succ, List.flatMap_map]
  congr 1
  funext ⟨e, i⟩
  cases hk : e.kind <;> simp [emit, hk]

/-- the interval only thins out: every call made with interval `i` is also made with interval 0
    (monotone clock) -/
theorem C12_thins_out (verify : Bool) (interval : Int) (total : Nat) (evs : List Ev)
    (hclk : ClockMono (-1) evs) (c : Call) (hc : c ∈ calls verify interval total evs) :
    c ∈ calls verify 0 total evs := by
  rw [C12_zero_interval verify total evs hclk]
  rw [calls_eq] at hc
  exact (callsFrom_sublist verify interval total evs (-1) 0).subset hc

/-! Non-vacuity: a verify run with 4 results arriving out of order, a huge interval and a frozen
    clock: the error item's two exceptions, the mismatch and the final result are still reported. -/
example : calls true 1000 4
    [⟨1, .data, 0, 5⟩, ⟨0, .exc, 2, 5⟩, ⟨3, .mismatch, 0, 5⟩, ⟨2, .data, 0, 5⟩]
    = [⟨2, 0, some 0⟩, ⟨2, 0, some 1⟩, ⟨3, 3, some 0⟩, ⟨4, 2, none⟩] := by decide +kernel
example : ClockMono (-1) [⟨1, .data, 0, 5⟩, ⟨0, .exc, 2, 5⟩, ⟨3, .mismatch, 0, 7⟩] := by
  simp [ClockMono]

end Torf.C12
