/-
  C15 — the torrent created from a path depends on the content tree and the settings only.
  The lemmas about the path algebra and the stages of `_set_files` are in Torf.Lemmas.Create.

  * `C15_created` … wherever the tree is, whatever the working directory is and however the path
    is spelled, `Torrent.path = spelling` computes `Spec.created tree settings` (which mentions no
    environment) and raises nothing; `C15_independent` … so two ways of addressing the same tree
    give the same torrent.  Proved for the code as of /repo 1742c6d: while the defects D15a–D15d
    were in /repo (repaired by d89a92e, 42ec9ba, 1742c6d) their witnesses refuted both
    statements; they are positive regression `example`s below.
  * `C15_created_env` … the same refinement over abstract environments under `Spec.hypB`.
  * `C15_no_empty_file(_addressed)` … empty files are never stored.
-/
import Torf.Lemmas.Create
namespace Torf.C15
open Torf Torf.Paths Torf.Create

/-- Under `hypB` — nothing but well-formedness of (environment, tree): real names, the spelled path
    leads to something called like the tree, what the walk listed exists, the walk listed the tree
    — `Torrent.path = spelling` computes exactly the specified torrent and raises nothing.
    No conjunct restricts the working directory, the spelling (`..`, `sub/..`, `../..` included),
    the shape of the tree or the patterns. -/
theorem C15_created_env (o : Oracles) (st : Settings) (env : Env) (t : Tree)
    (h : Spec.hypB env t = true) :
    pathSetter o st env = .ok (Spec.created o st t) := by
  simp only [Spec.hypB, Bool.and_eq_true] at h
  obtain ⟨⟨⟨⟨hct, hsp⟩, hnm⟩, hex⟩, hord⟩ := h
  obtain ⟨L, hL, hp⟩ := pathSetter_listing o st env
  rw [hp]
  exact setFiles_eq_created o st env.cwd env.pathExists _ t L (hL.trans (List.isPerm_iff.mp hord))
    (pathlibNorm_mem env.spelling) hct (beq_iff_eq.mp hnm) hsp (List.all_eq_true.mp hex)

/-- … hence working directory, spelling, walk order and the rest of the file system do not
    matter. -/
theorem C15_independent_env (o : Oracles) (st : Settings) (t : Tree) (env₁ env₂ : Env)
    (h₁ : Spec.hypB env₁ t = true) (h₂ : Spec.hypB env₂ t = true) :
    pathSetter o st env₁ = pathSetter o st env₂ := by
  rw [C15_created_env o st env₁ t h₁, C15_created_env o st env₂ t h₂]

theorem C15_no_internal_error (o : Oracles) (st : Settings) (env : Env) (t : Tree)
    (h : Spec.hypB env t = true) : ∃ c, pathSetter o st env = .ok c :=
  ⟨_, C15_created_env o st env t h⟩

/-- Which files are stored: exactly the non-hidden, non-empty ones that are not (excluded and not
    included), patterns being matched against `name/rel/path`. -/
theorem C15_filter_spec (o : Oracles) (st : Settings) (env : Env) (t : Tree)
    (h : Spec.hypB env t = true) (f : FileEnt) (hf : f ∈ t.files) :
    (f.rel, f.size) ∈ filesOf (pathSetter o st env) ↔
      (isHidden f.rel = false ∧ f.size ≠ 0 ∧
        ¬ (Spec.excluded o st (Spec.patPath t.name f) = true ∧
           Spec.included o st (Spec.patPath t.name f) = false)) := by
  rw [C15_created_env o st env t h, mem_filesOf_created, mem_kept, keep_iff]
  exact ⟨fun h => h.2, fun h => ⟨hf, h⟩⟩

/-- … and they are stored in the order of their component lists, whatever the walk order. -/
theorem C15_stored_order (o : Oracles) (st : Settings) (env : Env) (t : Tree)
    (h : Spec.hypB env t = true) :
    filesOf (pathSetter o st env) = (Spec.kept o st t).map fun f => (f.rel, f.size) := by
  rw [C15_created_env o st env t h, filesOf_created]

theorem C15_glob_case_spec (o : Oracles) (st st' : Settings) (p p' : String)
    (hp : o.cf p = o.cf p') (hex : st.exGlobs.map o.cf = st'.exGlobs.map o.cf)
    (hin : st.inGlobs.map o.cf = st'.inGlobs.map o.cf)
    (hr : st.exRegexs = [] ∧ st.inRegexs = [] ∧ st'.exRegexs = [] ∧ st'.inRegexs = []) :
    Spec.excluded o st p = Spec.excluded o st' p' ∧
    Spec.included o st p = Spec.included o st' p' := by
  obtain ⟨h1, h2, h3, h4⟩ := hr
  unfold Spec.excluded Spec.included
  simp only [any_glob_cf, h1, h2, h3, h4, hp, hex, hin, List.any_nil, and_self]

/-- Glob patterns and the path are only seen case-folded. -/
theorem C15_glob_case (o : Oracles) (st st' : Settings) (p p' : String)
    (hp : o.cf p = o.cf p') (hex : st.exGlobs.map o.cf = st'.exGlobs.map o.cf)
    (hin : st.inGlobs.map o.cf = st'.inGlobs.map o.cf)
    (hr : st.exRegexs = [] ∧ st.inRegexs = [] ∧ st'.exRegexs = [] ∧ st'.inRegexs = []) :
    isExcluded o st p = isExcluded o st' p' := by
  obtain ⟨he, hi⟩ := C15_glob_case_spec o st st' p p' hp hex hin hr
  rw [isExcluded_eq, isExcluded_eq, he, hi]

/-- Regular expressions see the path as it is: case folding (`cf`) and `fnmatch` play no role. -/
theorem C15_regex_case (o o' : Oracles) (st : Settings) (p : String) (ho : o.rex = o'.rex)
    (hg : st.exGlobs = [] ∧ st.inGlobs = []) :
    isExcluded o st p = isExcluded o' st p ∧
    isExcluded o st p =
      (!(st.inRegexs.any fun r => o.rex r p) && st.exRegexs.any fun r => o.rex r p) := by
  obtain ⟨h1, h2⟩ := hg
  rw [isExcluded_eq, isExcluded_eq]
  unfold Spec.excluded Spec.included
  simp only [h1, h2, ho, List.any_nil, Bool.or_false, true_and]
  exact Bool.and_comm _ _

/-- case matters for a regular expression (here: literal match), not for the glob beside it -/
example :
    let o : Oracles := ⟨fun s => if s == "T/B.txt" then "T/b.txt" else s, fun text pat => text == pat, fun pat text => pat == text⟩
    isExcluded o ⟨[], ["T/b.txt"], [], []⟩ "T/B.txt" = false ∧
    isExcluded o ⟨[], ["T/b.txt"], [], []⟩ "T/b.txt" = true ∧
    isExcluded o ⟨["T/b.txt"], [], [], []⟩ "T/B.txt" = true := by decide +kernel

/-- the environment in which file system `fs` is seen from `cwd` -/
def envOf (fs : FS) (cwd : Comps) (sp : PPath) (order : List FileEnt) : Env :=
  ⟨cwd, sp, order, fsExists fs cwd⟩

/-- the spelling `sp`, read in `cwd`, leads to a place of file system `fs` that holds exactly
    tree `t`; a tree that is a single file is spelled with its name last (no file system resolves
    `f.bin/x/..`; on component lists it would lead to the file) -/
def Addresses (fs : FS) (cwd : Comps) (sp : PPath) (t : Tree) : Bool :=
  let loc := normpath true (if sp.abs then sp.comps else cwd ++ sp.comps)
  loc.getLast? == some t.name &&
  t.files.all (fun f => fs.contains (loc ++ f.rel, some f.size)) &&
  fs.all (fun e => !(loc.isPrefixOf e.1) || e.2.isNone ||
    t.files.any (fun f => e == (loc ++ f.rel, some f.size))) &&
  (!t.files.any (·.rel.isEmpty) || isClean (name (pathlibNorm sp).comps))

/-- the three things the model needs from `Addresses` (the third conjunct, "nothing else is there",
    is realism of the witness file systems only) -/
theorem addresses_elim {fs : FS} {cwd : Comps} {sp : PPath} {t : Tree}
    (h : Addresses fs cwd sp t = true) :
    ((abspath cwd sp).getLast? == some t.name) = true ∧
    (∀ f ∈ t.files, fs.contains (abspath cwd sp ++ f.rel, some f.size) = true) ∧
    (!t.files.any (·.rel.isEmpty) || isClean (name (pathlibNorm sp).comps)) = true := by
  simp only [Addresses, Bool.and_eq_true] at h
  exact ⟨h.1.1.1, List.all_eq_true.mp h.1.1.2, h.2⟩

/-- the spelled path, made absolute as `_set_files` does it (`normpath(join(cwd, p))`), is the
    place the spelling leads to — for every spelling and every cwd -/
theorem C15_nameOK_of_addresses (fs : FS) (cwd : Comps) (sp : PPath) (t : Tree)
    (ord : List FileEnt) (hadr : Addresses fs cwd sp t = true) :
    Spec.nameOK (envOf fs cwd sp ord) t = true := by
  show ((abspath cwd (pathlibNorm sp)).getLast? == some t.name) = true
  rw [abspath_pathlibNorm]
  exact (addresses_elim hadr).1

/-- what the walk listed exists, wherever the tree is and however it is addressed -/
theorem C15_listedExist_of_addresses (fs : FS) (cwd : Comps) (sp : PPath) (t : Tree)
    (ord : List FileEnt) (hct : Spec.cleanTree t = true) (hadr : Addresses fs cwd sp t = true) :
    Spec.listedExist (envOf fs cwd sp ord) t = true :=
  List.all_eq_true.mpr fun f hf =>
    fsExists_listed fs cwd sp f ((cleanTree_elim hct).2.1 f hf) ((addresses_elim hadr).2.1 f hf)

/-- a tree that is addressed satisfies the hypothesis of the refinement -/
theorem C15_hypB_of_addresses (fs : FS) (cwd : Comps) (sp : PPath) (t : Tree)
    (ord : List FileEnt) (hct : Spec.cleanTree t = true) (hadr : Addresses fs cwd sp t = true)
    (hord : ord.Perm t.files) : Spec.hypB (envOf fs cwd sp ord) t = true := by
  have h1 := C15_nameOK_of_addresses fs cwd sp t ord hadr
  have h2 := C15_listedExist_of_addresses fs cwd sp t ord hct hadr
  have h3 : Spec.fileSpellOK (envOf fs cwd sp ord) t = true := (addresses_elim hadr).2.2
  have h4 : (envOf fs cwd sp ord).order.isPerm t.files = true := List.isPerm_iff.mpr hord
  simp only [Spec.hypB, hct, h1, h2, h3, h4, Bool.and_self]

/-- **C15.**  Wherever the tree is (`fs`), whatever the working directory is and however the
    path is spelled — relative, absolute, with `.` or `..` (`..`, `sub/..`, `../..`, `x/../T`), a
    trailing slash — and in whatever order the file system lists the entries: the created torrent
    is the specified one, a function of the tree and the settings only; nothing is raised. -/
theorem C15_created (o : Oracles) (st : Settings) (t : Tree) (fs : FS) (cwd : Comps) (sp : PPath)
    (ord : List FileEnt)
    (hct : Spec.cleanTree t = true) (hadr : Addresses fs cwd sp t = true) (hord : ord.Perm t.files) :
    pathSetter o st (envOf fs cwd sp ord) = .ok (Spec.created o st t) :=
  C15_created_env o st _ t (C15_hypB_of_addresses fs cwd sp t ord hct hadr hord)

/-- … in particular two ways of addressing the same tree — two file systems, locations, working
    directories, spellings, listing orders — give the same torrent. -/
theorem C15_independent (o : Oracles) (st : Settings) (t : Tree) (fs₁ fs₂ : FS) (cwd₁ cwd₂ : Comps)
    (sp₁ sp₂ : PPath) (ord₁ ord₂ : List FileEnt)
    (hct : Spec.cleanTree t = true) (h₁ : Addresses fs₁ cwd₁ sp₁ t = true)
    (h₂ : Addresses fs₂ cwd₂ sp₂ t = true) (ho₁ : ord₁.Perm t.files) (ho₂ : ord₂.Perm t.files) :
    pathSetter o st (envOf fs₁ cwd₁ sp₁ ord₁) = pathSetter o st (envOf fs₂ cwd₂ sp₂ ord₂) := by
  rw [C15_created o st t fs₁ cwd₁ sp₁ ord₁ hct h₁ ho₁, C15_created o st t fs₂ cwd₂ sp₂ ord₂ hct h₂ ho₂]

/-- `_set_files` drops a file of size 0 when `os.path.exists` of the path it was listed with says
    yes.  For `Torrent.path = …` those are the paths `list_files` has just found, so — with no
    condition on the spelling, the cwd, the patterns or the shape of the tree — no stored entry
    has length 0. -/
theorem C15_no_empty_file (o : Oracles) (st : Settings) (env : Env)
    (hex : ∀ f ∈ env.order, f.size = 0 →
      env.pathExists (listedPath (pathlibNorm env.spelling) f) = true) :
    ∀ e ∈ filesOf (pathSetter o st env), e.2 ≠ 0 := by
  obtain ⟨L, hL, hp⟩ := pathSetter_listing o st env
  rw [hp]
  intro e he hz
  -- a stored size is that of a listed file which `_set_files`' empty-file rule let through
  obtain ⟨it, hit, hsz⟩ := setFiles_sizes _ _ _ _ _ _ e he
  obtain ⟨hit, hkeep⟩ := List.mem_filter.mp hit
  obtain ⟨f, hf, rfl⟩ := List.mem_map.mp hit
  have hf0 : f.size = 0 := hsz.symm.trans hz
  simp [mkItem, hf0, hex f (hL.mem_iff.mp hf) hf0] at hkeep

theorem C15_no_empty_file_addressed (o : Oracles) (st : Settings) (t : Tree) (fs : FS)
    (cwd : Comps) (sp : PPath) (ord : List FileEnt) (hct : Spec.cleanTree t = true)
    (hadr : Addresses fs cwd sp t = true) (hord : ord.Perm t.files) :
    ∀ e ∈ filesOf (pathSetter o st (envOf fs cwd sp ord)), e.2 ≠ 0 := by
  refine C15_no_empty_file o st _ fun f hf _ => ?_
  exact List.all_eq_true.mp (C15_listedExist_of_addresses fs cwd sp t ord hct hadr) f
    (hord.mem_iff.mp hf)

/-! ### regression: the witnesses of the repaired defects D15a–D15d

  Each of these refuted `C15_created` / `C15_independent` while the defect was in /repo.  The
  model of the repaired code answers the specified torrent on every one of them, and each
  environment satisfies `Addresses`. -/

/-- witness oracles: no case folding, glob and regex are literal equality -/
def witO : Oracles := ⟨fun s => s, fun text pat => text == pat, fun pat text => pat == text⟩
def witNoPat : Settings := ⟨[], [], [], []⟩
def witExA : Settings := ⟨["T/a.txt"], [], [], []⟩

def witTa : Tree := ⟨"T", [⟨["a"], 3⟩, ⟨["e"], 0⟩]⟩
def witFSa : FS := [(["r", "P", "T", "a"], some 3), (["r", "P", "T", "e"], some 0)]
/-- an unrelated cwd `/r/U` that holds a same-named *empty* `T/a` and a non-empty `T/e` -/
def witFSa' : FS := witFSa ++ [(["r", "U", "T", "a"], some 0), (["r", "U", "T", "e"], some 5)]

/-- D15a (d89a92e): the empty-file test probed `name/rel` relative to the cwd -/
example :
    Spec.created witO witNoPat witTa = .multi "T" [(["a"], 3)] ∧
    -- `cd T; path = "."` (was: `[a, e(0)]`)
    pathSetter witO witNoPat (envOf witFSa ["r", "P", "T"] ⟨false, ["."]⟩ witTa.files)
      = .ok (Spec.created witO witNoPat witTa) ∧
    pathSetter witO witNoPat (envOf witFSa ["r", "P"] ⟨false, ["T"]⟩ witTa.files)
      = .ok (Spec.created witO witNoPat witTa) ∧
    -- `cd /r/U; path = "/r/P/T"` with the decoys below the cwd (was: no file at all)
    pathSetter witO witNoPat (envOf witFSa' ["r", "U"] ⟨true, ["r", "P", "T"]⟩ witTa.files)
      = .ok (Spec.created witO witNoPat witTa) ∧
    pathSetter witO witNoPat (envOf witFSa' ["r", "U"] ⟨false, ["..", "P", "T"]⟩ witTa.files.reverse)
      = .ok (Spec.created witO witNoPat witTa) ∧
    Addresses witFSa ["r", "P", "T"] ⟨false, ["."]⟩ witTa = true ∧
    Addresses witFSa' ["r", "U"] ⟨true, ["r", "P", "T"]⟩ witTa = true := by decide +kernel

def witTb : Tree := ⟨"T", [⟨["a.txt"], 3⟩, ⟨["sub", "b.txt"], 1⟩]⟩
def witFSb : FS := [(["r", "P", "T", "a.txt"], some 3), (["r", "P", "T", "sub", "b.txt"], some 1)]

/-- D15b (42ec9ba): `cd T/sub; path = ".."` — the exclude pattern `T/a.txt` was matched against
    `../a.txt` and `a.txt` stayed; on the repaired code `..`, `./../` and `cd P; path = "T"` agree -/
example :
    Spec.created witO witExA witTb = .multi "T" [(["sub", "b.txt"], 1)] ∧
    pathSetter witO witExA (envOf witFSb ["r", "P", "T", "sub"] ⟨false, [".."]⟩ witTb.files)
      = .ok (Spec.created witO witExA witTb) ∧
    pathSetter witO witExA (envOf witFSb ["r", "P", "T", "sub"] ⟨false, [".", "..", ""]⟩ witTb.files)
      = .ok (Spec.created witO witExA witTb) ∧
    pathSetter witO witExA (envOf witFSb ["r", "P"] ⟨false, ["T"]⟩ witTb.files)
      = .ok (Spec.created witO witExA witTb) ∧
    Addresses witFSb ["r", "P", "T", "sub"] ⟨false, [".."]⟩ witTb = true := by decide +kernel

def witTc : Tree := ⟨"T", [⟨["a.txt"], 3⟩]⟩
def witFSc : FS := [(["r", "P", "T", "a.txt"], some 3)]
def witTc' : Tree := ⟨"T", [⟨[".hid", "a"], 3⟩, ⟨[".hid", "b"], 1⟩]⟩
def witFSc' : FS := [(["r", "P", "T", ".hid", "a"], some 3), (["r", "P", "T", ".hid", "b"], some 1)]
def witTcE : Tree := ⟨"T", [⟨["a.txt"], 3⟩, ⟨["e"], 0⟩]⟩
def witFScE : FS := [(["r", "P", "T", "a.txt"], some 3), (["r", "P", "T", "e"], some 0)]

/-- D15c (1742c6d): a directory with one file (pattern saw `T/T/a.txt`), all files below a hidden
    directory (hidden test started below it), one non-empty file beside an empty one (the reach
    d89a92e had added) -/
example :
    Spec.created witO witExA witTc = .empty ∧
    pathSetter witO witExA (envOf witFSc ["r", "P"] ⟨false, ["T"]⟩ witTc.files) = .ok .empty ∧
    Spec.created witO witNoPat witTc' = .empty ∧
    pathSetter witO witNoPat (envOf witFSc' ["r", "P"] ⟨false, ["T"]⟩ witTc'.files) = .ok .empty ∧
    Spec.created witO witExA witTcE = .empty ∧
    pathSetter witO witExA (envOf witFScE ["r", "P"] ⟨false, ["T"]⟩ witTcE.files) = .ok .empty ∧
    -- without the pattern the single file of the directory is a multi-file torrent
    pathSetter witO witNoPat (envOf witFSc ["r", "P"] ⟨false, ["T"]⟩ witTc.files)
      = .ok (.multi "T" [(["a.txt"], 3)]) := by decide +kernel

def witTd : Tree := ⟨"T", [⟨["a"], 3⟩, ⟨["sub", "b"], 1⟩]⟩
def witFSd : FS := [(["r", "P", "T", "a"], some 3), (["r", "P", "T", "sub", "b"], some 1)]

/-- D15d (42ec9ba): `cd T; path = "sub/.."` gave the name `""`, `cd T/sub; path = "../sub/.."`
    and `cd T/sub/x; path = "../.."` the name `".."` -/
example :
    Spec.created witO witNoPat witTd = .multi "T" [(["a"], 3), (["sub", "b"], 1)] ∧
    pathSetter witO witNoPat (envOf witFSd ["r", "P", "T"] ⟨false, ["sub", ".."]⟩ witTd.files)
      = .ok (Spec.created witO witNoPat witTd) ∧
    pathSetter witO witNoPat (envOf witFSd ["r", "P", "T", "sub"] ⟨false, ["..", "sub", ".."]⟩ witTd.files)
      = .ok (Spec.created witO witNoPat witTd) ∧
    pathSetter witO witNoPat (envOf witFSd ["r", "P", "T", "sub", "x"] ⟨false, ["..", ".."]⟩ witTd.files)
      = .ok (Spec.created witO witNoPat witTd) ∧
    -- patterns under such a spelling see `T/…` as well
    pathSetter witO ⟨["T/a"], [], [], []⟩
        (envOf witFSd ["r", "P", "T", "sub", "x"] ⟨false, ["..", ".."]⟩ witTd.files)
      = .ok (.multi "T" [(["sub", "b"], 1)]) ∧
    Addresses witFSd ["r", "P", "T"] ⟨false, ["sub", ".."]⟩ witTd = true := by decide +kernel

/-- the same through the theorem -/
example : pathSetter witO witExA (envOf witFSb ["r", "P", "T", "sub"] ⟨false, [".."]⟩ witTb.files)
    = pathSetter witO witExA (envOf witFSb ["r", "Q"] ⟨true, ["r", "P", "x", "..", "T", ""]⟩
        witTb.files.reverse) :=
  C15_independent witO witExA witTb witFSb witFSb _ _ _ _ _ _ (by decide +kernel) (by decide +kernel) (by decide +kernel)
    (List.Perm.refl _) (List.reverse_perm _)

/-- hidden entries at both levels, an excluded file, an excluded-but-included file -/
def witTm : Tree := ⟨"T", [⟨["a.txt"], 3⟩, ⟨["sub", "b.txt"], 1⟩, ⟨["sub", "c.log"], 2⟩,
  ⟨[".hid", "x"], 5⟩, ⟨["sub", ".h"], 4⟩]⟩
def witStm : Settings := ⟨["T/sub/b.txt", "T/sub/c.log"], [], ["T/sub/c.log"], []⟩
def witFSm : FS := [(["r", "P", "T", "a.txt"], some 3), (["r", "P", "T", "sub", "b.txt"], some 1),
  (["r", "P", "T", "sub", "c.log"], some 2), (["r", "P", "T", ".hid", "x"], some 5),
  (["r", "P", "T", "sub", ".h"], some 4), (["r", "P", "other"], some 0)]
/-- `cd /r/P; path = "../P/T"` -/
def witE1 : Env := envOf witFSm ["r", "P"] ⟨false, ["..", "P", "T"]⟩ witTm.files
/-- `cd /r/P/T; path = "/."` read relative, i.e. `.`; reversed walk order -/
def witE2 : Env := envOf witFSm ["r", "P", "T"] ⟨false, ["", "."]⟩ witTm.files.reverse
/-- `cd /r/P; path = "/r/P/x/../T"` -/
def witE3 : Env := envOf witFSm ["r", "P"] ⟨true, ["r", "P", "x", "..", "T"]⟩ witTm.files
/-- `cd /r/Q; path = "/r/P/T/"`, a cwd that does not exist in `witFSm`, reversed walk order -/
def witE4 : Env := envOf witFSm ["r", "Q"] ⟨true, ["r", "P", "T", ""]⟩ witTm.files.reverse
/-- `cd /r/P/T/sub; path = ".."` -/
def witE5 : Env := envOf witFSm ["r", "P", "T", "sub"] ⟨false, [".."]⟩ witTm.files

theorem witE1_hypB : Spec.hypB witE1 witTm = true := by decide +kernel
theorem witE3_hypB : Spec.hypB witE3 witTm = true := by decide +kernel
theorem witE5_hypB : Spec.hypB witE5 witTm = true := by decide +kernel
theorem witTm_created :
    Spec.created witO witStm witTm = .multi "T" [(["a.txt"], 3), (["sub", "c.log"], 2)] := by
  decide +kernel

example : Spec.hypB witE1 witTm = true := witE1_hypB
example : Spec.hypB witE2 witTm = true := by decide +kernel
example : Spec.hypB witE3 witTm = true := witE3_hypB
example : Spec.hypB witE4 witTm = true := by decide +kernel
example : Spec.hypB witE5 witTm = true := witE5_hypB
example : Addresses witFSm ["r", "P", "T", "sub"] ⟨false, [".."]⟩ witTm = true := by decide +kernel
example : Spec.created witO witStm witTm = .multi "T" [(["a.txt"], 3), (["sub", "c.log"], 2)] :=
  witTm_created
example : pathSetter witO witStm witE1 = pathSetter witO witStm witE5 :=
  C15_independent_env witO witStm witTm witE1 witE5 witE1_hypB witE5_hypB
example : pathSetter witO witStm witE3 = .ok (.multi "T" [(["a.txt"], 3), (["sub", "c.log"], 2)]) :=
  (C15_created_env witO witStm witE3 witTm witE3_hypB).trans (congrArg _ witTm_created)

/-- a tree with an empty and a hidden file: from its parent directory (two spellings/orders),
    from inside, by absolute path from elsewhere -/
def witTn : Tree := ⟨"T", [⟨["a"], 3⟩, ⟨["e"], 0⟩, ⟨[".h"], 2⟩]⟩
def witFSn : FS := [(["r", "P", "T", "a"], some 3), (["r", "P", "T", "e"], some 0),
  (["r", "P", "T", ".h"], some 2)]
example : Spec.hypB (envOf witFSn ["r", "P"] ⟨false, ["T"]⟩ witTn.files) witTn = true := by
  decide +kernel
example : Spec.hypB (envOf witFSn ["r", "P"] ⟨false, [".", "T", ""]⟩ witTn.files.reverse)
    witTn = true := by decide +kernel
example : Spec.hypB (envOf witFSn ["r", "P", "T"] ⟨false, [".", ""]⟩ witTn.files) witTn = true := by
  decide +kernel
example : Spec.hypB (envOf witFSn ["x"] ⟨true, ["r", "P", "T"]⟩ witTn.files) witTn = true := by
  decide +kernel
example : Spec.created witO witNoPat witTn = .multi "T" [(["a"], 3)] := by decide +kernel

/-- all files empty, the only file empty (directory and single-file tree): nothing is created -/
example :
    Spec.hypB (envOf [(["r", "P", "T", "e"], some 0), (["r", "P", "T", "s", "f"], some 0)]
      ["r", "P", "T", "s"] ⟨true, ["r", "P", "T"]⟩ [⟨["e"], 0⟩, ⟨["s", "f"], 0⟩])
      ⟨"T", [⟨["e"], 0⟩, ⟨["s", "f"], 0⟩]⟩ = true ∧
    Spec.created witO witNoPat ⟨"T", [⟨["e"], 0⟩, ⟨["s", "f"], 0⟩]⟩ = .empty ∧
    Spec.hypB (envOf [(["r", "P", "e.bin"], some 0)] ["r"] ⟨false, ["P", "e.bin"]⟩ [⟨[], 0⟩])
      ⟨"e.bin", [⟨[], 0⟩]⟩ = true ∧
    Spec.created witO witNoPat ⟨"e.bin", [⟨[], 0⟩]⟩ = .empty := by decide +kernel

/-- an empty file that an include pattern matches is still left out (cwd inside the tree; since
    1742c6d also when it is the only other file) -/
example :
    Spec.created witO ⟨[], [], ["T/e"], []⟩ witTa = .multi "T" [(["a"], 3)] ∧
    pathSetter witO ⟨[], [], ["T/e"], []⟩ (envOf witFSa ["r", "P", "T"] ⟨false, ["."]⟩ witTa.files)
      = .ok (.multi "T" [(["a"], 3)]) := by decide +kernel

/-- a tree that is a single file: by name, through `sub/..`, from elsewhere; a hidden file as the
    tree is kept (the top level may be hidden) and patterns see its name -/
example :
    let fs : FS := [(["r", "P", "f.bin"], some 7), (["r", "P", "sub", "x"], some 1),
      (["r", "P", ".h"], some 2)]
    Addresses fs ["r", "P"] ⟨false, ["sub", "..", "f.bin"]⟩ ⟨"f.bin", [⟨[], 7⟩]⟩ = true ∧
    pathSetter witO witNoPat (envOf fs ["r", "P"] ⟨false, ["sub", "..", "f.bin"]⟩ [⟨[], 7⟩])
      = .ok (.single "f.bin" 7) ∧
    pathSetter witO witNoPat (envOf fs ["r", "P", "sub"] ⟨false, ["..", ".h"]⟩ [⟨[], 2⟩])
      = .ok (.single ".h" 2) ∧
    pathSetter witO ⟨["f.bin"], [], [], []⟩ (envOf fs ["r", "Q"] ⟨true, ["r", "P", "f.bin"]⟩ [⟨[], 7⟩])
      = .ok .empty ∧
    -- not addressed: no file system resolves a path through a file
    Addresses fs ["r", "P"] ⟨false, ["f.bin", "x", ".."]⟩ ⟨"f.bin", [⟨[], 7⟩]⟩ = false := by decide +kernel

/-! ### `Torrent.files = …` (outside C15's statement): what is left of the cwd dependence

  The `File` objects of the `files` setter carry torrent-relative paths, so `os.path.exists(f)` is
  a probe below the cwd: `File('T/e', 0)` is dropped where something called `T/e` exists and kept
  (with length 0) elsewhere.  The sizes themselves are not re-read from the file system.
  Since 1742c6d the hidden test and the patterns are relative to the common directory of the given
  files (which becomes the torrent's name): a hidden `T/.h/x` is dropped also when it is the only
  file that is left. -/
example :
    filesSetter witO witNoPat ["r", "P"] (fsExists witFSa' ["r", "P"])
      [(["T", "a"], 3), (["T", "e"], 0), (["T", "zz"], 0)]
      = .ok (.multi "T" [(["a"], 3), (["zz"], 0)]) ∧
    filesSetter witO witNoPat ["r", "Q"] (fsExists witFSa' ["r", "Q"])
      [(["T", "a"], 3), (["T", "e"], 0), (["T", "zz"], 0)]
      = .ok (.multi "T" [(["a"], 3), (["e"], 0), (["zz"], 0)]) ∧
    -- the decoy `U/T/a` is empty, the given size 3 is what counts
    filesSetter witO witNoPat ["r", "U"] (fsExists witFSa' ["r", "U"])
      [(["T", "a"], 3), (["T", "e"], 0), (["T", "zz"], 0)]
      = .ok (.multi "T" [(["a"], 3), (["zz"], 0)]) ∧
    filesSetter witO witNoPat ["r", "P"] (fsExists witFSa' ["r", "P"])
      [(["T", ".h", "x"], 4), (["T", "e"], 0)] = .ok .empty := by decide +kernel

end Torf.C15
