/-
  C16, values of any Python type: an operation on the tracker / seed lists whose value
  is a `URLs` object (another tier, `torrent.webseeds`, a tier of another torrent, `urls + […]`), a
  `Trackers` object, a tuple, a generator / iterator, a set or dict (in iteration order), a `URL`
  object or another `str` subclass, or nested deeper than needed behaves exactly like the same
  operation with the list of its URL strings — the type and origin of a value are irrelevant,
  everything goes through the same coercion and the same de-duplication filter
  (`Torf.Lists.lowerOp`, Torf/Model/ListValues.lean).  The sync invariant therefore holds over the
  enlarged alphabet.
-/
import Torf.Model.ListValues
import Torf.Lemmas.Lists
namespace Torf.C16
open Torf.Lists

theorem strPrefix_map_str (us : List String) : strPrefix (us.map PyV.str) = (us, false) := by
  induction us with
  | nil => rfl
  | cons u us ih => simp [strPrefix, ih]

theorem strPrefix_false {xs : List PyV} {ss : List String} (h : strPrefix xs = (ss, false)) :
    xs = ss.map PyV.str := by
  induction xs generalizing ss with
  | nil => simp [strPrefix] at h; subst h; rfl
  | cons x xs ih =>
    cases x with
    | str s =>
      simp only [strPrefix, Prod.mk.injEq] at h
      obtain ⟨h1, h2⟩ := h
      subst h1
      have := ih (ss := (strPrefix xs).1) (by rw [← h2])
      simp [← this]
    | seq ys => simp [strPrefix] at h

theorem flatList_map_str (us : List String) : flatList (us.map PyV.str) = us := by
  induction us with
  | nil => simp [flatList]
  | cons u us ih => simp [flatList, PyV.flat, ih]

theorem flatList_append (xs ys : List PyV) : flatList (xs ++ ys) = flatList xs ++ flatList ys := by
  induction xs with
  | nil => simp [flatList]
  | cons x xs ih => simp [flatList, ih]

theorem tierVal_toPy (v : TierVal) : v.toPy.tierVal = v := by
  cases v with
  | str s => rfl
  | list us => simp [TierVal.toPy, PyV.ofList, PyV.tierVal, flatList_map_str]

theorem map_tierVal_toPy (vs : List TierVal) : vs.map (PyV.tierVal ∘ TierVal.toPy) = vs := by
  induction vs with
  | nil => rfl
  | cons v vs ih => simp [tierVal_toPy, ih]

theorem lowerU_toV (o : UOp) : lowerU o.toV = .op o := by
  cases o <;> simp [UOp.toV, lowerU, PyV.item, PyV.iter, PyV.ofList, strPrefix_map_str]

theorem lowerS_toV (mk : SOp → Op) (o : SOp) : lowerS mk o.toV = .op (mk o) := by
  cases o with
  | set v => cases v <;> simp [SOp.toV, lowerS, PyV.ofList, flatList_map_str]
  | edit u => simp [SOp.toV, lowerS, lowerU_toV]

theorem lowerT_toV (t : TOp) : lowerT t.toV = .op (.trackers t) := by
  cases t with
  | set v => cases v <;> simp [TOp.toV, lowerT, map_tierVal_toPy]
  | tier ti u => simp [TOp.toV, lowerT, lowerU_toV]
  | _ => simp [TOp.toV, lowerT, tierVal_toPy, map_tierVal_toPy, PyV.iter]

/-- THE statement: whenever an operation with Python values lowers to an operation `o` on URL
    strings — which it does for every value at the level of the tiers container and of the
    attribute setters, and for every value whose items are strings at the level of a URL list — it
    behaves EXACTLY like `o`: same metainfo, same outcome, from every state.  And two operations
    whose values flatten to the same URL strings (`lowerOp` equal) are indistinguishable, whatever
    containers the strings came in. -/
theorem C16_value_type_irrelevant (isUrl : String → Bool) (s : MI) :
    (∀ op o, lowerOp op = .op o → stepV isUrl s op = step isUrl s o) ∧
    (∀ op₁ op₂, lowerOp op₁ = lowerOp op₂ → stepV isUrl s op₁ = stepV isUrl s op₂) := by
  refine ⟨fun op o h => ?_, fun op₁ op₂ h => ?_⟩
  · simp only [stepV, h, runLow]
  · simp only [stepV, h]

/-- what "the list of its URL strings" is, site by site (all by unfolding `lowerOp`):
    a value given for ONE TIER (`append`, `insert`, `tr[i] = v`) is its flattened strings — or the one
    string; a value given for SEVERAL tiers (`extend`, `+=`, `replace`, `torrent.trackers = v`) is
    iterated and each item is such a tier value; a value assigned to a seed attribute is flattened -/
theorem C16_value_lowering_tiers (isUrl : String → Bool) (s : MI) :
    (∀ i v, stepV isUrl s (.trackers (.insert i v)) = step isUrl s (.trackers (.insert i v.tierVal))) ∧
    (∀ v, stepV isUrl s (.trackers (.append v)) = step isUrl s (.trackers (.append v.tierVal))) ∧
    (∀ i v, stepV isUrl s (.trackers (.setItem i v)) = step isUrl s (.trackers (.setItem i v.tierVal))) ∧
    (∀ vs, stepV isUrl s (.trackers (.extend vs)) =
      step isUrl s (.trackers (.extend (vs.iter.map PyV.tierVal)))) ∧
    (∀ vs, stepV isUrl s (.trackers (.iadd vs)) =
      step isUrl s (.trackers (.iadd (vs.iter.map PyV.tierVal)))) ∧
    (∀ xs, stepV isUrl s (.trackers (.replace (.seq xs))) =
      step isUrl s (.trackers (.replace (xs.map PyV.tierVal)))) ∧
    (∀ xs, stepV isUrl s (.trackers (.set (.seq xs))) =
      step isUrl s (.trackers (.set (.list (xs.map PyV.tierVal))))) ∧
    (∀ xs, stepV isUrl s (.webseeds (.set (.seq xs))) =
      step isUrl s (.webseeds (.set (.list (flatList xs))))) ∧
    (∀ xs, stepV isUrl s (.httpseeds (.set (.seq xs))) =
      step isUrl s (.httpseeds (.set (.list (flatList xs))))) ∧
    (∀ xs, (PyV.seq xs).tierVal = .list (flatList xs)) ∧ (∀ u, (PyV.str u).tierVal = .str u) :=
  ⟨fun _ _ => rfl, fun _ => rfl, fun _ _ => rfl, fun _ => rfl, fun _ => rfl, fun _ => rfl,
   fun _ => rfl, fun _ => rfl, fun _ => rfl, fun _ => rfl, fun _ => rfl⟩

/-- … and on a URL list (webseeds, httpseeds, `trackers[ti]`): an in-place operation whose value
    yields the strings `ss` when iterated (a tuple, a generator, a set in its iteration order, a
    `URLs` object, dict keys … of strings, `URL` objects or other `str` subclasses) is the operation
    with the list `ss`; nothing is flattened here -/
theorem C16_value_lowering_urllist (isUrl : String → Bool) (s : MI) (vs : PyV) (ss : List String)
    (h : vs.iter = ss.map PyV.str) (mk : UVOp → VOp) (mk' : UOp → Op)
    (hmk : (mk = (fun o => .webseeds (.edit o)) ∧ mk' = (fun o => .webseeds (.edit o))) ∨
           (mk = (fun o => .httpseeds (.edit o)) ∧ mk' = (fun o => .httpseeds (.edit o))) ∨
           (∃ ti, mk = (fun o => .trackers (.tier ti o)) ∧ mk' = (fun o => .trackers (.tier ti o)))) :
    stepV isUrl s (mk (.extend vs)) = step isUrl s (mk' (.extend ss)) ∧
    stepV isUrl s (mk (.iadd vs)) = step isUrl s (mk' (.iadd ss)) ∧
    (∀ a b st, stepV isUrl s (mk (.setSlice a b st vs)) = step isUrl s (mk' (.setSlice a b st ss))) ∧
    (∀ xs, vs = .seq xs → stepV isUrl s (mk (.replace vs)) = step isUrl s (mk' (.replace ss))) ∧
    (∀ i u, stepV isUrl s (mk (.insert i (.str u))) = step isUrl s (mk' (.insert i u))) ∧
    (∀ u, stepV isUrl s (mk (.append (.str u))) = step isUrl s (mk' (.append u))) ∧
    (∀ i u, stepV isUrl s (mk (.setItem i (.str u))) = step isUrl s (mk' (.setItem i u))) := by
  have hp : strPrefix vs.iter = (ss, false) := h ▸ strPrefix_map_str ss
  -- at each of the three sites an operation that lowers to `o` IS `o`
  have key : ∀ {vop o}, lowerU vop = .op o → stepV isUrl s (mk vop) = step isUrl s (mk' o) := by
    intro vop o hl
    rcases hmk with ⟨rfl, rfl⟩ | ⟨rfl, rfl⟩ | ⟨ti, rfl, rfl⟩ <;>
      simp only [stepV, lowerOp, lowerS, lowerT, hl, runLow]
  refine ⟨key ?_, key ?_, fun a b st => key ?_, fun xs hx => key ?_,
    fun i u => key rfl, fun u => key rfl, fun i u => key rfl⟩
  · simp only [lowerU, hp]
  · simp only [lowerU, hp]
  · simp only [lowerU, hp]
  · subst hx
    simp only [lowerU, show strPrefix xs = (ss, false) from hp]

/-- the model with Python values EXTENDS the model on URL strings: an operation of `Torf.Lists`
    read as an operation with values (strings and lists of strings) is that operation -/
theorem C16_value_flat_embedding (isUrl : String → Bool) (s : MI) (o : Op) :
    lowerOp o.toV = .op o ∧ stepV isUrl s o.toV = step isUrl s o := by
  have h : lowerOp o.toV = .op o := by
    cases o <;> simp only [Op.toV, lowerOp, lowerT_toV, lowerS_toV]
  exact ⟨h, by simp only [stepV, h, runLow]⟩

/-- an in-place operation on a seed list that is given something that is not a string where one
    URL is expected (`webseeds.append([u])`, `webseeds.extend(trackers)`, `webseeds[0] = tier`,
    `webseeds.replace([[u]])`: nothing is flattened there) raises, and — unless it is extend / +=,
    which keep the strings before it — changes nothing; a `str` given to `replace` is the
    ValueError "Not an iterable" -/
theorem C16_value_nonstring_item_rejected (isUrl : String → Bool) (s : MI) (vop : UVOp) :
    (lowerU vop = .rejectAtomic ∨ lowerU vop = .valueErr →
      (stepV isUrl s (.webseeds (.edit vop))).1 = s ∧ (stepV isUrl s (.webseeds (.edit vop))).2 ≠ .ok) ∧
    (∀ o, lowerU vop = .rejectAfter o →
      (stepV isUrl s (.webseeds (.edit vop))).2 ≠ .ok ∧
      ((stepV isUrl s (.webseeds (.edit vop))).1 = s ∨
       (stepV isUrl s (.webseeds (.edit vop))).1 = (step isUrl s (.webseeds (.edit o))).1)) := by
  constructor
  · intro h
    rcases h with h | h <;>
    · simp only [stepV, lowerOp, lowerS, h, runLow]
      split <;> simp
  · intro o h
    simp only [stepV, lowerOp, lowerS, h, runLow]
    split <;> simp

/-- on a state that satisfies the invariant the error of such an operation is the URL error -/
theorem C16_value_nonstring_item_url_error (isUrl : String → Bool) (s : MI) (vop : UVOp)
    (hs : Inv isUrl s) (h : lowerU vop = .rejectAtomic) :
    stepV isUrl s (.webseeds (.edit vop)) = (s, .error .url) := by
  obtain ⟨_, ⟨W, hW, hw⟩, _⟩ := hs
  simp [stepV, lowerOp, lowerS, h, runLow, step, seedsOp, hw, getSeeds_writeSeeds hW, urlsOp,
    extendLoop]

/-- a lowered operation keeps the invariant: it is an operation of `Torf.Lists`, or one that is cut
    short by an error -/
theorem runLow_inv {isUrl : String → Bool} {s : MI} {l : Low} (hs : Inv isUrl s)
    (hl : l.affected = false) : Inv isUrl (runLow isUrl s l).1 := by
  cases l with
  | op o => exact step_inv hs hl
  | raiseAfter o acc e =>
    simp only [runLow]
    split
    · exact hs
    · cases o with
      | none => exact hs
      | some o => exact step_inv hs hl

/-- one step with values of any type: the invariant and the property are preserved by every
    operation that is not (does not contain) a slice assignment on the tiers container (D16b) -/
theorem C16_inv_stepV_partial (isUrl : String → Bool) (s : MI) (op : VOp)
    (hs : Inv isUrl s) (hop : (lowerOp op).affected = false) :
    Inv isUrl (stepV isUrl s op).1 ∧
    Spec.holds isUrl (stepV isUrl s op).1 (readBack isUrl (stepV isUrl s op).1) = true := by
  have hi := runLow_inv hs hop
  exact ⟨hi, Inv_holds hi⟩

theorem runV_inv {isUrl : String → Bool} {s : MI} {ops : List VOp} (hs : Inv isUrl s)
    (hop : ∀ op ∈ ops, (lowerOp op).affected = false) : Inv isUrl (runV isUrl s ops) := by
  induction ops generalizing s with
  | nil => exact hs
  | cons op ops ih =>
    have hop' := List.forall_mem_cons.1 hop
    exact ih (runLow_inv hs hop'.1) hop'.2

/-- every history of operations with values of any type (any length, failed operations included,
    anything but `trackers[a:b] = …`) from the empty torrent ends in a state that satisfies C16 -/
theorem C16_inv_reachableV_partial (isUrl : String → Bool) (ops : List VOp)
    (hops : ∀ op ∈ ops, (lowerOp op).affected = false) :
    Spec.holds isUrl (runV isUrl MI.init ops) (readBack isUrl (runV isUrl MI.init ops)) = true :=
  Inv_holds (runV_inv Inv_init hops)

/-- … and from every state that satisfies the invariant -/
theorem C16_inv_fromV_partial (isUrl : String → Bool) (s : MI) (ops : List VOp)
    (hs : Inv isUrl s) (hops : ∀ op ∈ ops, (lowerOp op).affected = false) :
    Spec.holds isUrl (runV isUrl s ops) (readBack isUrl (runV isUrl s ops)) = true :=
  Inv_holds (runV_inv hs hops)

/-! ### non-vacuity / regression (seeded change C16/3a) -/

def vIsUrl (s : String) : Bool :=
  s == "http://a/1" || s == "http://b/2" || s == "udp://c:80/3" || s == "http://d/4"

/-- `trackers = [[a, b], [c]]; trackers.append(trackers[0] + [d])` — the value is a `URLs` object
    `[a, b, d]` that partly overlaps tier 0: the new tier is `[d]` (the seeded fast path stored
    `[a, b, d]`); the same with the value as a generator of nested tuples; `webseeds.append([d])`
    raises; `webseeds.extend(trackers)` (its items are tiers) raises -/
example :
    let s := run vIsUrl MI.init [.trackers (.set (.list [.list ["http://a/1", "http://b/2"], .str "udp://c:80/3"]))]
    let want : MI := { announce := some "http://a/1",
                       announceList := some [["http://a/1", "http://b/2"], ["udp://c:80/3"], ["http://d/4"]] }
    stepV vIsUrl s (.trackers (.append (.seq [.str "http://a/1", .str "http://b/2", .str "http://d/4"]))) = (want, .ok) ∧
    stepV vIsUrl s (.trackers (.append (.seq [.seq [.str "http://a/1"], .seq [.seq [.str "http://b/2", .str "http://d/4"]]]))) = (want, .ok) ∧
    stepV vIsUrl s (.trackers (.extend (.seq [.seq [.str "http://a/1", .str "http://d/4"], .str "udp://c:80/3"]))) = (want, .ok) ∧
    stepV vIsUrl s (.webseeds (.edit (.append (.seq [.str "http://d/4"])))) = (s, .error .url) ∧
    stepV vIsUrl s (.webseeds (.edit (.extend (.seq [.str "http://d/4", .seq [.str "http://a/1"]])))) =
      ({ s with urlList := some ["http://d/4"] }, .error .url) ∧
    stepV vIsUrl s (.webseeds (.edit (.replace (.str "http://d/4")))) = (s, .error .value) ∧
    stepV vIsUrl s (.trackers (.tier 5 (.append (.seq [])))) = (s, .error .index) ∧
    stepV vIsUrl s (.webseeds (.set (.seq [.seq [.str "http://d/4"], .seq [.str "http://a/1", .seq [.str "http://d/4"]]]))) =
      ({ s with urlList := some ["http://d/4", "http://a/1"] }, .ok) := by
  decide +kernel

end Torf.C16
