/-
  C01 — hashing over a read layer that fails the way a buffered reader over a failing raw file
  does: a `read(size)` call may consume k bytes and then raise (`Model/StreamFault.lean`).

  The demand: `generate()` returns True only with exactly the digests of the chunks of the files'
  bytes; a lost byte must surface as ReadError (or at least not as True).
-/
import Torf.Properties.C01
import Torf.Lemmas.StreamFault
namespace Torf.C01
open Torf Torf.Stream Torf.Generate Torf.StreamFault

/-- **OSErrors.**  The code as it is (no retry of OSErrors — also every variant without one): for
    EVERY fault plan, if an OSError was raised by a read, `generate()` does not return: the
    reader's ReadError reaches the caller and nothing is stored.  Whatever the error consumed. -/
theorem C01_read_fault_never_true (pol : Policy) (hp : pol.retryOs = none) (H : List α → δ) (L : Nat)
    (files : List (List α)) (plan : List Ev)
    (hraised : 0 < (StreamFault.iterPieces pol L files plan).2.osRaised) :
    StreamFault.generate pol H L files plan = none := by
  unfold StreamFault.generate
  cases hr : (StreamFault.iterPieces pol L files plan).1 with
  | none => rfl
  | some ps => exact absurd (iterPieces_os hp L files plan ps hr) (Nat.ne_of_gt hraised)

/-- … in particular for the code itself. -/
theorem C01_read_fault_never_true_code (H : List α → δ) (L : Nat) (files : List (List α))
    (plan : List Ev) (hraised : 0 < (StreamFault.iterPieces .code L files plan).2.osRaised) :
    StreamFault.generate .code H L files plan = none :=
  C01_read_fault_never_true .code rfl H L files plan hraised

theorem generate_eq_some {pol : Policy} {H : List α → δ} {L : Nat} {files : List (List α)}
    {plan : List Ev} {o : Outcome δ} (h : StreamFault.generate pol H L files plan = some o) :
    ∃ ps, (StreamFault.iterPieces pol L files plan).1 = some ps ∧
      o = finish (torrentPieces (files.map List.length).sum L) (ps.map H) := by
  unfold StreamFault.generate at h
  cases hr : (StreamFault.iterPieces pol L files plan).1 with
  | none => rw [hr] at h; cases h
  | some ps => rw [hr] at h; exact ⟨ps, rfl, (Option.some.inj h).symm⟩

/-- **No byte lost ⇒ exact.**  Any policy, any plan: a run that does not fail and in which no read
    lost a byte stores exactly `map H (chunks L stream)` and returns True. -/
theorem C01_read_fault_no_loss_exact (pol : Policy) (H : List α → δ) (L : Nat) (hL : 0 < L)
    (files : List (List α)) (hne : 0 < (files.map List.length).sum) (plan : List Ev) (o : Outcome δ)
    (h : StreamFault.generate pol H L files plan = some o)
    (hl : (StreamFault.iterPieces pol L files plan).2.lost = 0) :
    o = .stored ((chunks L files.flatten).map H) := by
  obtain ⟨ps, hr, rfl⟩ := generate_eq_some h
  rw [iterPieces_lost_zero pol L files plan ps hr hl, C01_iter_eq_chunks L hL,
    finish_chunks H L hL files hne]

theorem generate_sound_of_no_loss (pol : Policy) (H : List α → δ) (L : Nat) (hL : 0 < L)
    (files : List (List α)) (hne : 0 < (files.map List.length).sum) (plan : List Ev)
    (hl : ∀ ps, (StreamFault.iterPieces pol L files plan).1 = some ps →
      (StreamFault.iterPieces pol L files plan).2.lost = 0) :
    StreamFault.generate pol H L files plan = none ∨
      StreamFault.generate pol H L files plan = some (.stored ((chunks L files.flatten).map H)) := by
  cases hg : StreamFault.generate pol H L files plan with
  | none => exact Or.inl rfl
  | some o =>
    obtain ⟨ps, hr, _⟩ := generate_eq_some hg
    rw [C01_read_fault_no_loss_exact pol H L hL files hne plan o hg (hl ps hr)]
    exact Or.inr rfl

/-- **The code, partial.**  OSErrors anywhere, MemoryErrors only before the failing read consumed
    anything (the allocation of the result fails up front — the case `Reader._handle_oom` is
    written for): `generate()` raises ReadError or returns True with exactly the right digests. -/
theorem C01_read_fault_code_partial (H : List α → δ) (L : Nat) (hL : 0 < L) (files : List (List α))
    (hne : 0 < (files.map List.length).sum) (plan : List Ev) (hm : memUpFront plan) :
    StreamFault.generate .code H L files plan = none ∨
      StreamFault.generate .code H L files plan = some (.stored ((chunks L files.flatten).map H)) :=
  generate_sound_of_no_loss .code H L hL files hne plan
    (iterPieces_memUpFront (pol := .code) rfl L files plan hm)

/-- The full statement for the code — *every* plan, MemoryErrors in the middle of a read included —
    is false: the out-of-memory retry of `_read_from_fh` reads again without restoring the
    position, so a MemoryError that strikes after the read consumed a byte shifts every later
    chunk (finding D01a). -/
def C01_read_fault_code_full : Prop :=
  ∀ (L : Nat) (files : List (List Nat)) (plan : List Ev), 0 < L → 0 < (files.map List.length).sum →
    StreamFault.generate .code (fun p => p) L files plan = none ∨
      StreamFault.generate .code (fun p => p) L files plan =
        some (.stored ((chunks L files.flatten).map fun p => p))

theorem C01_read_fault_code_counterexample : ¬ C01_read_fault_code_full := by
  intro h
  have h0 := h 3 [[1, 2, 3, 4, 5, 6, 7, 8]] [.ok, .fail 1 .mem] (by decide) (by decide)
  have h1 : StreamFault.generate .code (fun p : List Nat => p) 3 [[1, 2, 3, 4, 5, 6, 7, 8]]
      [.ok, .fail 1 .mem] = some (.stored [[1, 2, 3], [5, 6, 7], [8]]) := by decide +kernel
  rw [h1, ← C01_iter_eq_chunks 3 (by decide)] at h0
  revert h0
  decide +kernel

/-- **Seeking back is sound.**  A variant that restores the position before it reads again — after
    whatever errors, however often — never stores anything but the right digests. -/
theorem C01_read_fault_seek_back_sound (pol : Policy) (hp : pol.seekBack = true) (H : List α → δ)
    (L : Nat) (hL : 0 < L) (files : List (List α)) (hne : 0 < (files.map List.length).sum)
    (plan : List Ev) :
    StreamFault.generate pol H L files plan = none ∨
      StreamFault.generate pol H L files plan = some (.stored ((chunks L files.flatten).map H)) :=
  generate_sound_of_no_loss pol H L hL files hne plan (iterPieces_seekBack hp L files plan)

/-- Retrying an OSError *without* seeking back (the seeded change C01/b of round 4: up to 3
    attempts for "transient" errnos) is not sound: the first read consumes one byte and fails with
    ESTALE, the retry continues behind it, the piece count is unchanged, `generate()` returns True
    with the digests of shifted chunks. -/
def C01_read_fault_retry_no_seek_full : Prop :=
  ∀ (L : Nat) (files : List (List Nat)) (plan : List Ev), 0 < L → 0 < (files.map List.length).sum →
    StreamFault.generate { retryOs := some 3 } (fun p => p) L files plan = none ∨
      StreamFault.generate { retryOs := some 3 } (fun p => p) L files plan =
        some (.stored ((chunks L files.flatten).map fun p => p))

theorem C01_read_fault_retry_no_seek_counterexample : ¬ C01_read_fault_retry_no_seek_full := by
  intro h
  have h0 := h 3 [[1, 2, 3, 4, 5], [6, 7, 8]] [.ok, .fail 1 .os] (by decide) (by decide)
  have h1 : StreamFault.generate { retryOs := some 3 } (fun p : List Nat => p) 3 [[1, 2, 3, 4, 5], [6, 7, 8]]
      [.ok, .fail 1 .os] = some (.stored [[1, 2, 3], [5, 6, 7], [8]]) := by decide +kernel
  rw [h1, ← C01_iter_eq_chunks 3 (by decide)] at h0
  revert h0
  decide +kernel

/-! Non-vacuity. An OSError that consumed two bytes of the second file's first read: the code raises. -/
example : (StreamFault.iterPieces .code 3 [[1, 2, 3, 4], [5, 6, 7, 8]] [.ok, .ok, .ok, .fail 2 .os]).2.osRaised = 1 := by
  decide +kernel
example : StreamFault.generate .code (fun p : List Nat => p) 3 [[1, 2, 3, 4], [5, 6, 7, 8]]
    [.ok, .ok, .ok, .fail 2 .os] = none := by decide +kernel
/-! A MemoryError up front, twice, then success: the code recovers exactly. -/
example : StreamFault.generate .code (fun p : List Nat => p) 3 [[1, 2, 3, 4], [5, 6, 7, 8]]
    [.ok, .fail 0 .mem, .fail 0 .mem, .ok] = some (.stored [[1, 2, 3], [4, 5, 6], [7, 8]]) := by decide +kernel

end Torf.C01
