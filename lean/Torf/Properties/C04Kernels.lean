/-
  C04 — bridge theorems to the kernels translated from `Reader._handle_oom` (regenerated from the
  source on every run): the out-of-memory handler of the reader shrinks the bound of the piece queue.

  `queue.Queue` reads a bound of 0 (or less) as "unbounded".  The pipeline theorems (C03/C04: bounded
  work after a stop request, termination) hold for every capacity ≥ 1; these theorems show that the
  handler keeps the bound inside that range for ever, strictly shrinks it while it is above 1, and
  gives up (raises `ReadError(ENOMEM)`) exactly when the bound has reached 1 — after at most
  `cap - 1` effective calls, so a persistent shortage of memory always ends the run.
-/
import Torf.Generated.Kernels
namespace Torf.C04
open Torf.Generated

/-- the bound never becomes 0 (= unbounded), whatever it was -/
theorem C04_kernel_oom_positive (old : Int) : 1 ≤ oomNewMaxsize old := by
  unfold oomNewMaxsize
  omega

/-- a bound above 1 strictly shrinks (and the handler goes on) -/
theorem C04_kernel_oom_shrinks (old : Int) (h : 2 ≤ old) :
    oomNewMaxsize old < old ∧ oomGoesOn (oomNewMaxsize old) old = true := by
  unfold oomGoesOn oomNewMaxsize
  have : max (1 : Int) (old * 9 / 10) < old := by omega
  exact ⟨this, by simp; omega⟩

/-- at a bound of 1 the handler gives up: the bound stays and `ReadError(ENOMEM)` is raised -/
theorem C04_kernel_oom_gives_up : oomNewMaxsize 1 = 1 ∧ oomGoesOn (oomNewMaxsize 1) 1 = false := by
  decide

/-- the handler goes on iff the bound is above 1 (for every valid bound) -/
theorem C04_kernel_oom_goes_on_iff (old : Int) (h : 1 ≤ old) :
    oomGoesOn (oomNewMaxsize old) old = true ↔ 2 ≤ old := by
  constructor
  · intro hg
    by_cases h2 : 2 ≤ old
    · exact h2
    · have : old = 1 := by omega
      subst this
      exact absurd hg (by decide)
  · intro h2
    exact (C04_kernel_oom_shrinks old h2).2

/-- the bound after `n` effective calls of the handler -/
def oomAfter : Nat → Int → Int
  | 0, cap => cap
  | n + 1, cap => oomAfter n (oomNewMaxsize cap)

theorem oomAfter_bounds (n : Nat) (cap : Int) (h1 : 1 ≤ cap) :
    1 ≤ oomAfter n cap ∧ (oomAfter n cap = 1 ∨ oomAfter n cap + n ≤ cap) := by
  induction n generalizing cap with
  | zero => exact ⟨h1, .inr (Int.le_of_eq (Int.add_zero _))⟩
  | succ k ih =>
    have hle : oomNewMaxsize cap = 1 ∨ oomNewMaxsize cap + 1 ≤ cap := by unfold oomNewMaxsize; omega
    have ⟨h2, h3⟩ := ih _ (C04_kernel_oom_positive cap)
    exact ⟨h2, by simp only [oomAfter]; omega⟩

/-- a persistent shortage always ends the run: from a bound `cap ≥ 1`, after `cap - 1` effective calls
    (or any larger number) the bound is 1, where the handler gives up -/
theorem C04_kernel_oom_terminates (n : Nat) (cap : Int) (h1 : 1 ≤ cap) (hn : cap ≤ n + 1) :
    oomAfter n cap = 1 := by
  have := oomAfter_bounds n cap h1
  omega

/-- … and every bound on the way is a valid capacity of the transition system -/
theorem C04_kernel_oom_always_bounded (n : Nat) (cap : Int) (h1 : 1 ≤ cap) :
    1 ≤ oomAfter n cap ∧ oomAfter n cap ≤ cap := by
  have := oomAfter_bounds n cap h1
  omega

/-! Non-vacuity: the bounds the code goes through for one and two hasher threads (3·N) -/
example : (List.range 4).map (fun n => oomAfter n 3) = [3, 2, 1, 1] := by decide
example : (List.range 7).map (fun n => oomAfter n 6) = [6, 5, 4, 3, 2, 1, 1] := by decide

end Torf.C04
