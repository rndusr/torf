/-
  C02 ∘ C03 — content verification gives the sequential verdict under every schedule.

  `Verify.verifySeq` (C02) consumes the reader's items in piece order; the real `Torrent.verify`
  runs them through the threaded pipeline.  This file composes the two models: the pipeline
  configuration whose item kinds are those of the reader's items (`kindOf`) reaches, under every
  interleaving, number of hashers, queue capacity and timing of the timeouts, a terminal state
  whose result is the one of the sequential reference — the same Boolean when it returns, the
  error of *one of* the bad pieces when the reference raises the error of the first (C03: "if
  several files are damaged and no callback is given, any one of the corresponding errors").
-/
import Torf.Lemmas.VerifySchedule
import Torf.Properties.C03
namespace Torf.C02
open Torf Torf.Missing Torf.Verify Torf.Pipeline

variable {α δ : Type} [DecidableEq δ]

/-- **Verification gives the sequential verdict under every schedule.**  Let `items` be what the
    reader's generator yields for the disk (`iterItems`, C10), `stored` the torrent's piece hashes
    (at least one per item, as `validate()` guarantees) and `cfg` any pipeline configuration whose
    item kinds are those of `items` (any number of hashers, any queue capacity), run without
    faults and with a passive callback or none.  In every reachable terminal state:
    * if the sequential reference `verifySeq` returns `b`, `collect()` returned and comparing the
      digests in piece order with the stored hashes gives the same `b` (with a callback it always
      returns; the callback trace is C12's subject);
    * if the reference raises — the documented error of the first bad piece — the threaded run
      raises the error of one of the bad pieces. -/
theorem C02_any_schedule (H : List α → δ) (L : Nat) (sizes : List Nat)
    (disk : List (Option (List α))) (stored : List δ) (hasCb : Bool) (items : List (Item α))
    (hit : iterItems L sizes disk = some items) (hlen : items.length ≤ stored.length)
    (cfg : Cfg) (hcfg : cfg.items = items.zipIdx.map (kindOf H stored))
    (hraise : cfg.raiseOnBad = !hasCb)
    (hwf : wf cfg = true) (hnf : noFaults cfg = true) (hcb : ∀ k d, cfg.cb k d = .pass)
    (s : State) (hreach : Reachable cfg s) (hterm : terminal s = true) :
    match (verifySeq H L sizes disk stored hasCb false true).1 with
    | .ok b => ∃ c, result? s = some (.returned c) ∧
        b = ((c.mergeSort (fun a b => decide (a ≤ b))).filterMap (digestAt H items) == stored)
    | .error e => ∃ k0 k, itemErr L sizes items k0 = some e ∧ isBad H stored items k0 = true ∧
        (∀ j, j < k0 → isBad H stored items j = false) ∧
        result? s = some (.raised (.item k)) ∧ isBad H stored items k = true := by
  have hinv := seqInv_items H L sizes stored hasCb items hlen
  have hout := Torf.C03.outcome_cases hwf hnf hcb hreach hterm
  simp only [verifySeq, Bool.false_and, Bool.false_eq_true, if_false, Bool.not_false, Bool.not_true,
    Bool.true_and, hit]
  generalize hacc : items.zipIdx.foldl (Verify.collectItem H L sizes stored hasCb) {} = acc at hinv
  cases hra : acc.raised with
  | none =>
    -- the reference returns: no piece is bad for this run
    simp only
    have hnb := hinv.raised_none.mp hra
    have hbad : badItems cfg = [] := by
      rw [List.eq_nil_iff_forall_not_mem]
      intro k hk
      obtain ⟨hr', hb⟩ := (mem_badItems H stored items cfg hcfg k).mp hk
      rcases hnb with h | h
      · rw [hraise, h] at hr'; exact absurd hr' (by simp)
      · have hk' : k < items.length :=
          length_items H stored items cfg hcfg ▸ List.mem_range.1 (List.mem_filter.1 hk).1
        rw [h k hk'] at hb; exact absurd hb (by simp)
    rcases hout with ⟨c, hr, _, hsort⟩ | ⟨k, _, hk⟩
    · refine ⟨c, hr, ?_⟩
      rw [hsort, digests_of_hashed H stored items cfg hcfg, ← hinv.collected hra]
    · rw [hbad] at hk; cases hk
  | some e =>
    simp only
    obtain ⟨k0, hk0, hb0, hmin, herr⟩ := hinv.raised_some e hra
    have hcbf : hasCb = false := by
      cases h : hasCb with
      | false => rfl
      | true => rw [hinv.raised_none.mpr (Or.inl h)] at hra; exact absurd hra (by simp)
    have hrb : cfg.raiseOnBad = true := by rw [hraise, hcbf]; rfl
    have hmem : k0 ∈ badItems cfg := (mem_badItems H stored items cfg hcfg k0).mpr ⟨hrb, hb0⟩
    rcases hout with ⟨c, _, hbad, _⟩ | ⟨k, hr, hk⟩
    · rw [hbad] at hmem; cases hmem
    · exact ⟨k0, k, herr, hb0, hmin, hr, ((mem_badItems H stored items cfg hcfg k).mp hk).2⟩

/-! ### the hypotheses are satisfiable -/


/-- one file of one piece, read back intact / with a flipped byte; `H` = identity -/
private def exItems (d : List Nat) : List (Item Nat) := [⟨some d, 0, []⟩]

private def exCfg (d : List Nat) (hasCb : Bool) : Cfg :=
  { N := 1, cap := 1, items := (exItems d).zipIdx.map (kindOf id [[1, 2]]), readFault := none,
    refuse := [], raiseOnBad := !hasCb, cb := fun _ _ => .pass }

private def schedOk : List Label :=
  [lM, lM, lM, lM, lM, lM, lR, lR, lH, lH, lR, lH, lH, lH, lH, lJ, lJ, lJ, lJ, lM, lM, lM, lM, lM]

private def schedBad : List Label :=
  [lM, lM, lM, lM, lM, lM, lR, lR, lH, lH, lR, lH, lM, lM, lM, lH, lH, lH, lM, lM, lJ, lJ, lJ, lJ, lM]

private def after (cfg : Cfg) (ls : List Label) : State := (run cfg (init cfg) ls).getD (init cfg)

private theorem reach_after {cfg : Cfg} {ls : List Label}
    (h : (run cfg (init cfg) ls).isSome = true) : Reachable cfg (after cfg ls) :=
  .of_isSome h

/-- intact content, with a callback: the reader's generator yields `exItems [1,2]`, the schedule is
    complete, and the theorem's conclusion is "returned, verdict True" -/
example : iterItems 2 [2] [some [1, 2]] = some (exItems [1, 2]) ∧
    Reachable (exCfg [1, 2] true) (after (exCfg [1, 2] true) schedOk) ∧
    terminal (after (exCfg [1, 2] true) schedOk) = true ∧
    (verifySeq id 2 [2] [some [1, 2]] [[1, 2]] true false true).1 = .ok true ∧
    result? (after (exCfg [1, 2] true) schedOk) = some (.returned [0]) :=
  ⟨by rfl, reach_after (by decide +kernel), by decide +kernel⟩

/-- corrupt content, no callback: the reference raises the content error of piece 0 and so does
    the threaded run -/
example : iterItems 2 [2] [some [1, 3]] = some (exItems [1, 3]) ∧
    Reachable (exCfg [1, 3] false) (after (exCfg [1, 3] false) schedBad) ∧
    terminal (after (exCfg [1, 3] false) schedBad) = true ∧
    (verifySeq id 2 [2] [some [1, 3]] [[1, 2]] false false true).1 = .error (.content 0 [0]) ∧
    result? (after (exCfg [1, 3] false) schedBad) = some (.raised (.item 0)) :=
  ⟨by rfl, reach_after (by decide +kernel), by decide +kernel⟩

end Torf.C02
