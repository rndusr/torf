/-
  C04 — failures shut the pipeline down cleanly: faults in the reader's other OS calls and
  failures of the calling thread (`Model/PipelineExit.lean`; proofs in `Lemmas/PipelineExit.lean`).

  1. What reaches the caller when the reader thread died (`C04_reader_exc_result`,
     `C04_close_error_surfaces`, `C04_read_seek_error_is_read_error`, `C04_exit_read_refined`):
     `reader.join()` re-raises exactly the exception the reader stored — the one of a failing
     `stream.close()` if there was one, otherwise the one that ended the generator.  It is the
     library's read error for read/seek/out-of-memory faults; for a failing `close()` (in the
     `finally` block or of an evicted file) it is a bare `OSError`:
     `C04_reader_failure_is_read_error_full` is false (`…_counterexample`, finding D04d),
     `…_partial` is what holds.
  2. Threads (`C04_exit_threads_done_partial`): with no failure window, whatever the reader's
     faults, nothing is left running.  A failure of the calling thread between the start of the
     first worker and `collect()` always leaves a running worker behind
     (`C04_main_failure_leaks`), nobody ever stops or joins it (`C04_main_failure_final`), and
     after a failure in `HasherPool.__init__` the reader of a torrent with at least `cap` pieces
     never ends (`C04_pool_failure_reader_never_ends`): `C04_exit_threads_done_full` is false
     (`…_counterexample`, finding D04c; same window as D04a).
-/
import Torf.Properties.C03Exit
import Torf.Properties.C04
namespace Torf.C04
open Torf.Pipeline Torf.PipelineExit Torf.C03

/-- What the caller gets when the run is over (no refused start, no failure window): if the
    reader thread stored an exception, `reader.join()` re-raises it and it replaces everything
    else (a callback's exception, an error item, the return value); otherwise the result of the
    base system.  The stored exception is the `close()` error of the `finally` block if that call
    failed, else the exception that ended the generator. -/
theorem C04_reader_exc_result {c : CfgE} {x : StateE} (hrf : c.base.refuse = [])
    (hmf : c.mainFail = none) (h : ReachableE c x) (ht : terminalE x = true) :
    resultE? x = (match exitExc c x.base with
                  | some k => some (.readerExc k)
                  | none => (result? x.base).map .base) ∧
    exitExc c x.base = (if c.closeFault = true then some .osError
                        else if x.base.rexc = true then some c.faultCall.exc else none) := by
  have hf := failed_none hmf h
  have hterm := terminal_of_terminalE hmf h ht
  obtain ⟨r, hr⟩ := result_of_terminal hterm
  have hI := Inv.of_reachable hrf h.base
  have hpost := postReaderJoin_of_terminal hterm
  have hd := hI.b1.rjoined hpost
  have hj := (InvJ.of_reachable hrf h).joined hpost
  have hk := (InvX.of_reachable h).kind
  constructor
  · simp only [resultE?, hf, result?, hr, hj, hk]
    cases exitExc c x.base <;> rfl
  · simp [exitExc, hd]

/-- A failing `close()` of the stream always surfaces: the run still shuts down
    (`C03_exit_threads_done`), and the caller gets that error — as a bare `OSError`. -/
theorem C04_close_error_surfaces {c : CfgE} {x : StateE} (hrf : c.base.refuse = [])
    (hmf : c.mainFail = none) (hcf : c.closeFault = true) (h : ReachableE c x)
    (ht : terminalE x = true) : resultE? x = some (.readerExc .osError) := by
  obtain ⟨h1, h2⟩ := C04_reader_exc_result hrf hmf h ht
  rw [h1, h2]
  simp [hcf]

/-- A failing read or seek (or the out-of-memory handler giving up) surfaces as the library's
    read error, provided closing the stream does not fail on top of it. -/
theorem C04_read_seek_error_is_read_error {c : CfgE} {x : StateE} (hrf : c.base.refuse = [])
    (hmf : c.mainFail = none) (hcf : c.closeFault = false) (hfc : c.faultCall ≠ .evict)
    (h : ReachableE c x) (ht : terminalE x = true) (hx : x.base.rexc = true) :
    resultE? x = some (.readerExc .readError) := by
  obtain ⟨h1, h2⟩ := C04_reader_exc_result hrf hmf h ht
  rw [h1, h2]
  cases hc : c.faultCall <;> simp_all [FaultCall.exc]

/-- The base system's "the reader's own exception" never reaches the caller unrefined: the
    extended system always says which class it has. -/
theorem C04_exit_read_refined {c : CfgE} {x : StateE} (hrf : c.base.refuse = [])
    (hmf : c.mainFail = none) (h : ReachableE c x) (ht : terminalE x = true) :
    resultE? x ≠ some (.base (.raised .read)) := by
  obtain ⟨h1, h2⟩ := C04_reader_exc_result hrf hmf h ht
  intro hres
  rw [h1] at hres
  cases he : exitExc c x.base with
  | some k => simp [he] at hres
  | none =>
    simp only [he, Option.map_eq_some_iff, ResultE.base.injEq, exists_eq_right] at hres
    have hm := terminal_of_result hres
    have hrx := (InvG.of_reachable h.base).rdExc (by simp [hm, mainExc])
    rw [h2, hrx] at he
    cases hc : c.closeFault <;> simp [hc] at he

/-- the full statement of the property for the reader's failures: whatever ends the reader, the
    caller sees the library's read error -/
def C04_reader_failure_is_read_error_full : Prop :=
  ∀ (c : CfgE) (x : StateE) (k : RExc), c.base.refuse = [] → c.mainFail = none → ReachableE c x →
    resultE? x = some (.readerExc k) → k = .readError

/-- … holds when no `close()` call fails … -/
theorem C04_reader_failure_is_read_error_partial {c : CfgE} {x : StateE} {k : RExc}
    (hrf : c.base.refuse = []) (hmf : c.mainFail = none) (hcf : c.closeFault = false)
    (hfc : c.faultCall ≠ .evict) (h : ReachableE c x) (hres : resultE? x = some (.readerExc k)) :
    k = .readError := by
  have ht : terminalE x = true := by
    simp only [resultE?, failed_none hmf h] at hres
    cases hr : result? x.base with
    | none => simp [hr] at hres
    | some r => simp [terminalE, terminal, terminal_of_result hr]
  obtain ⟨h1, h2⟩ := C04_reader_exc_result hrf hmf h ht
  rw [h1, h2] at hres
  cases hc : c.faultCall <;> cases hx : x.base.rexc <;> simp_all [FaultCall.exc]

private def baseOne (items : List ItemKind) (cap : Nat) : Cfg :=
  { N := 1, cap := cap, items := items, readFault := none, refuse := [], raiseOnBad := false,
    cb := fun _ _ => .pass }

/-- one hasher, capacity 1, one data piece, `stream.close()` fails -/
private def cfgClose : CfgE := { base := baseOne [.data] 1, closeFault := true }

private def schedClose : List Label :=
  [lM, lM, lM, lM, lM, lM, lR, lR, lH, lH, lR, lH, lH, lH, lH, lJ, lJ, lJ, lJ, lM, lM, lM, lM, lM]

private def afterE (c : CfgE) (ls : List Label) : StateE := (runE c (initE c) ls).getD (initE c)

/-- … and is false in general: a failing `close()` reaches the caller as a bare `OSError`
    (finding D04d) -/
theorem C04_reader_failure_is_read_error_counterexample : ¬ C04_reader_failure_is_read_error_full := by
  intro hfull
  have := hfull cfgClose (afterE cfgClose schedClose) .osError rfl rfl (.of_isSome (by decide +kernel))
    (by decide)
  simp at this

/-- the hypotheses of `C04_close_error_surfaces` are satisfiable -/
example : cfgClose.base.refuse = [] ∧ cfgClose.mainFail = none ∧ cfgClose.closeFault = true ∧
    ReachableE cfgClose (afterE cfgClose schedClose) ∧ terminalE (afterE cfgClose schedClose) = true ∧
    allThreadsDone (afterE cfgClose schedClose).base = true :=
  ⟨rfl, rfl, rfl, .of_isSome (by decide +kernel), by decide +kernel⟩

/-- a failing seek: the reader dies before the first piece, the caller gets the read error -/
private def cfgSeek : CfgE :=
  { base := { baseOne [.data] 1 with readFault := some 0 }, faultCall := .seek }

private def schedSeek : List Label :=
  [lM, lM, lM, lM, lM, lM, lR, lR, lH, lH, lH, lH, lJ, lJ, lJ, lJ, lM, lM, lM, lM]

example : cfgSeek.closeFault = false ∧ cfgSeek.faultCall ≠ .evict ∧
    ReachableE cfgSeek (afterE cfgSeek schedSeek) ∧ terminalE (afterE cfgSeek schedSeek) = true ∧
    (afterE cfgSeek schedSeek).base.rexc = true ∧
    resultE? (afterE cfgSeek schedSeek) = some (.readerExc .readError) :=
  ⟨rfl, by decide, .of_isSome (by decide +kernel), by decide +kernel⟩

/-- With no failure window the run leaves no worker thread behind, whatever OS call of the reader
    fails and whatever the callback does (no refused start). -/
theorem C04_exit_threads_done_partial {c : CfgE} {x : StateE} (hwf : wf c.base = true)
    (hrf : c.base.refuse = []) (hmf : c.mainFail = none) (h : ReachableE c x)
    (ht : terminalE x = true) : allThreadsDone x.base = true :=
  C03_exit_threads_done hwf hrf hmf h ht

/-- A failure of the calling thread between the start of the first worker and `collect()` always
    leaves a running worker behind: at the moment the call raises, the thread started last (the
    reader for a failure in `HasherPool.__init__`, the janitor for one before `collect()`) is
    running.  Every configuration, every schedule. -/
theorem C04_main_failure_leaks {c : CfgE} {x x' : StateE} {l : Label} {p : MainPoint}
    (hs : stepE c x l = some x') (h0 : x.failed = none) (hp : x'.failed = some p) :
    terminalE x' = true ∧ resultE? x' = some (.mainFailed p) ∧ allThreadsDone x'.base = false := by
  refine ⟨by simp [terminalE, hp], by simp [resultE?, hp], ?_⟩
  cases StepE.of_step hs with
  | main _ hb =>
    -- the thread whose start opened the window
    rcases (windowOf_cases hp).2 with ⟨-, -, hbr⟩ | ⟨-, -, hbj⟩
    · simp [allThreadsDone, hbr, RPc.running]
    · simp [allThreadsDone, hbj, JPc.running]
  | readerExit | reader | worker => rw [show _ = x.failed from rfl, h0] at hp; cases hp

/-- … and nobody will ever stop or join it: after the failure the calling thread takes no
    further step of the protocol (it has left `generate()`/`verify()`), the failure is final. -/
theorem C04_main_failure_final {c : CfgE} {x x' : StateE} {l : Label} {p : MainPoint}
    (hp : x.failed = some p) (hs : stepE c x l = some x') : l.tid ≠ .main ∧ x'.failed = some p := by
  cases StepE.of_step hs with
  | main h0 => rw [h0] at hp; cases hp
  | readerExit | reader => exact ⟨nofun, hp⟩
  | worker hm => exact ⟨hm, hp⟩

/-- After a failure in `HasherPool.__init__` (a thread count that is not an integer) the reader
    thread of a torrent with at least `cap` pieces never ends, under any schedule: no hasher will
    ever take a piece, the reader fills the piece queue and blocks. -/
theorem C04_pool_failure_reader_never_ends {c : CfgE} {x : StateE} (h : ReachableE c x)
    (hp : x.failed = some .poolInit) (hnf : c.base.readFault = none)
    (hbig : c.base.cap ≤ c.base.items.length) : x.base.rpc.running = true := by
  have hP := InvP.of_reachable h
  rcases hP.started hp with hr | hd
  · exact hr
  · exfalso
    obtain ⟨q1, q2, _, q4, q5, q6⟩ := hP.quiet (.inl hp)
    have hA := InvA.of_reachable h.base
    have hG := InvG.of_reachable h.base
    have hrx : x.base.rexc = false := by
      cases hx : x.base.rexc with
      | false => rfl
      | true => obtain ⟨r, hr, _⟩ := hG.rexcCfg hx; simp [hnf] at hr
    have hfull := hA.full (.inr hd) q1 hrx
    have hcap := hG.pqcap
    simp only [inFlight, q4, q5, held_nil_of_notStarted q2, List.filterMap_nil, List.append_nil,
      List.nil_append] at hfull
    simp only [hd, ↓reduceIte] at q6
    omega

/-- the full statement: when the call returns or raises, no worker thread is running — for every
    configuration without refused starts, failure windows included -/
def C04_exit_threads_done_full : Prop :=
  ∀ (c : CfgE) (x : StateE), wf c.base = true → c.base.refuse = [] → ReachableE c x →
    terminalE x = true → allThreadsDone x.base = true

/-- three pieces, capacity 1: the thread count makes `HasherPool.__init__` fail -/
private def cfgPool : CfgE := { base := baseOne [.data, .data, .data] 1, mainFail := some .poolInit }

/-- a callback wrapper whose constructor raises (not the code as it is: the seeded change C03-6b) -/
private def cfgBefore : CfgE := { base := baseOne [.data] 1, mainFail := some .beforeCollect }

/-- finding D04c: the call raises from `HasherPool.__init__`, the reader is left behind — here
    blocked for ever on the full piece queue, with no thread able to move -/
theorem C04_exit_threads_done_full_counterexample : ¬ C04_exit_threads_done_full := by
  intro hfull
  have := hfull cfgPool (afterE cfgPool [lM, lM, lR, lR]) (by decide) rfl (.of_isSome (by decide +kernel))
    (by decide)
  revert this
  decide

example : ReachableE cfgPool (afterE cfgPool [lM, lM, lR, lR]) ∧
    resultE? (afterE cfgPool [lM, lM, lR, lR]) = some (.mainFailed .poolInit) ∧
    (afterE cfgPool [lM, lM, lR, lR]).base.rpc = .putting 1 ∧
    (∀ l ∈ allLabels cfgPool.base, stepE cfgPool (afterE cfgPool [lM, lM, lR, lR]) l = none) :=
  ⟨.of_isSome (by decide +kernel), by decide +kernel⟩

/-- the hypotheses of `C04_pool_failure_reader_never_ends` and `C04_main_failure_leaks` are
    satisfiable; a failure before `collect()` leaves all three workers running -/
example : (afterE cfgPool [lM, lM]).failed = some .poolInit ∧ cfgPool.base.readFault = none ∧
    cfgPool.base.cap ≤ cfgPool.base.items.length ∧ ReachableE cfgPool (afterE cfgPool [lM, lM]) :=
  ⟨by decide, rfl, by decide, .of_isSome (by decide +kernel)⟩

example : stepE cfgBefore (afterE cfgBefore [lM, lM, lM, lM, lM]) lM = some (afterE cfgBefore [lM, lM, lM, lM, lM, lM]) ∧
    (afterE cfgBefore [lM, lM, lM, lM, lM]).failed = none ∧
    (afterE cfgBefore [lM, lM, lM, lM, lM, lM]).failed = some .beforeCollect ∧
    (afterE cfgBefore [lM, lM, lM, lM, lM, lM]).base.rpc.running = true ∧
    hasherRunning (afterE cfgBefore [lM, lM, lM, lM, lM, lM]).base 0 = true ∧
    (afterE cfgBefore [lM, lM, lM, lM, lM, lM]).base.jan.running = true :=
  ⟨by decide, by decide, by decide, by decide, by decide, by decide⟩

/-- the hypotheses of `C04_main_failure_final` are satisfiable: after the failure the reader moves -/
example : (afterE cfgPool [lM, lM]).failed = some .poolInit ∧
    stepE cfgPool (afterE cfgPool [lM, lM]) lR = some (afterE cfgPool [lM, lM, lR]) :=
  ⟨by decide, by decide⟩

end Torf.C04
