/-
  C06 — the infohash is the SHA-1 of exactly the info bytes that are written; dumps are
  canonical bencoding.
-/
import Torf.Lemmas.Codec
import Torf.Lemmas.CodecLookup
import Torf.Lemmas.Span
import Torf.Lemmas.Magnet
import Torf.Lemmas.Base32
import Torf.Lemmas.Dump
import Torf.Lemmas.BencodeSmallMono
import Torf.Lemmas.ExplicitValidate
import Torf.Lemmas.WriteInfo
import Torf.Model.ReadStream
namespace Torf.C06
open Torf Torf.Bencode Torf.Codec Torf.ReadStream

/-- `bs` is canonical bencoding: it is the serialisation of a value whose dictionary keys are
    strictly ascending as raw bytes at every level (hence no duplicates), numerals are minimal
    (`ser` only produces those) and the conforming parser consumes all of it. -/
def CanonBytes (lim : Nat) (bs : Bytes) : Prop :=
  ∃ v, canon v = true ∧ small lim v = true ∧ ser v = bs ∧ parseStrict lim bs = some v

/-- Whatever `Torrent.dump()` returns is canonical bencoding — for every metainfo that is a Python
    dict (`wf`: pairwise distinct `str` keys at every level) and that the converter accepts (any
    extra fields and value types), with or without validation. -/
theorem C06_canonical (env : Env) (md : List (PyVal × PyVal)) (validate : Bool) (bs : Bytes)
    (hw : wf (.dict (ensureInfo md)) = true) (h : dump env md validate = .ok bs) :
    CanonBytes env.lim bs := by
  obtain ⟨u, hu, hs, rfl⟩ := dump_ok h
  obtain ⟨v, hc, hsv, he, hp⟩ := ser_canonical env.lim u (uniq_encodeValue _ _ hu hw) hs
  exact ⟨v, hc, hsv, he.symm, hp⟩

/-- The bytes that `Torrent.infohash` feeds to SHA-1 are produced by the same converter and encoder
    as the whole file (`ser ∘ encode_dict`), and for an `info` that is a Python dict (`wf`) they are
    themselves canonical bencoding. -/
theorem C06_info_canonical (env : Env) (md : List (PyVal × PyVal)) (ib : Bytes)
    (h : infoBytes env md = .ok ib) :
    ∃ ikvs iu, PyVal.lookupStr "info" (ensureInfo md) = some (.dict ikvs) ∧
      encodeDict ikvs = .ok iu ∧ ib = ser iu ∧ (wf (.dict ikvs) = true → CanonBytes env.lim ib) := by
  obtain ⟨ikvs, iu, -, hl, hiu, hs, rfl⟩ := infoBytes_ok_iff.mp h
  refine ⟨ikvs, iu, hl, hiu, rfl, fun hwi => ?_⟩
  obtain ⟨v, hc, hsv, he, hp⟩ := ser_canonical env.lim iu (uniq_encodeValue _ _ hiu hwi) hs
  exact ⟨v, hc, hsv, he.symm, hp⟩

/-- Every conforming parser computes the same value from canonical bytes: the canonical value
    with a given serialisation is unique (no digit limit involved). -/
theorem C06_conforming_unique (bs : Bytes) (v w : BVal)
    (hv : canon v = true) (hw : canon w = true)
    (h1 : ser v = bs) (h2 : ser w = bs) : v = w :=
  ser_inj_canon v w hv hw (h1.trans h2.symm)

/-- `infohash` is the lower-case hex of `H` applied to exactly the info bytes. -/
theorem C06_infohash_def (env : Env) (H : Bytes → Bytes) (md : List (PyVal × PyVal)) (h : Bytes)
    (hh : infohash env H md = .ok h) :
    ∃ ib, infoBytes env md = .ok ib ∧ h = Base32.hexLower (H ib) := by
  unfold infohash at hh
  split at hh
  · rename_i ib hib
    simp only [Except.ok.injEq] at hh
    exact ⟨ib, hib, hh.symm⟩
  · exact absurd hh (by simp)

/-- **The hashed bytes are a slice of the written file, at the place where a conforming parser
    finds the value of the top-level key `info`.**  For every metainfo that is a Python dict
    (`wf`), whenever `dump()` returns `bs` and `infohash` returns `h`: `bs` splits as
    `pre ++ ser (encode_dict info) ++ post`, the strict parser's span (offset, length) of the
    value of top-level key `info` in `bs` is exactly `(|pre|, |ser (encode_dict info)|)`, and `h`
    is the hex digest of that slice. -/
theorem C06_span (env : Env) (H : Bytes → Bytes) (md : List (PyVal × PyVal)) (validate : Bool)
    (bs h : Bytes) (hw : wf (.dict (ensureInfo md)) = true)
    (hd : dump env md validate = .ok bs) (hh : infohash env H md = .ok h) :
    ∃ pre post ikvs iu, PyVal.lookupStr "info" (ensureInfo md) = some (.dict ikvs) ∧
      encodeDict ikvs = .ok iu ∧
      bs = pre ++ ser iu ++ post ∧
      spanOf env.lim kInfo bs = some (pre.length, (ser iu).length) ∧
      (bs.drop pre.length).take (ser iu).length = ser iu ∧
      h = Base32.hexLower (H (ser iu)) := by
  obtain ⟨ib, hib, rfl⟩ := C06_infohash_def env H md h hh
  obtain ⟨pre, post, ikvs, iu, hl, hiu, rfl, hsplit, hspan⟩ := infoBytes_span hw hd hib
  exact ⟨pre, post, ikvs, iu, hl, hiu, hsplit, hspan, by simp [hsplit], rfl⟩

/-- **`magnet().xt` is `'urn:btih:'` followed by the infohash** — whenever the `xt` setter
    accepts it (otherwise `MagnetError`; see `C06_magnet_ok`). -/
theorem C06_magnet (env : Env) (H : Bytes → Bytes) (md : List (PyVal × PyVal)) (g h : Bytes)
    (hg : magnetXtOf env H md = .ok g) (hh : infohash env H md = .ok h) :
    g = urnBtih ++ h := by
  simp only [magnetXtOf, hh, magnetXt_urn] at hg
  split at hg
  · exact (Except.ok.inj hg).symm
  · exact absurd hg (by simp)

/-- **No `MagnetError`:** for a 20-byte digest function `magnet().xt` exists (and by `C06_magnet`
    is `'urn:btih:' + infohash`). -/
theorem C06_magnet_ok (env : Env) (H : Bytes → Bytes) (md : List (PyVal × PyVal)) (h : Bytes)
    (hH : ∀ x, (H x).length = 20) (hh : infohash env H md = .ok h) :
    magnetXtOf env H md = .ok (urnBtih ++ h) := by
  obtain ⟨ib, _, rfl⟩ := C06_infohash_def env H md h hh
  simp only [magnetXtOf, hh, magnetXt_urn, matchesInfohash_hexLower _ (hH ib), if_true]

/-- **`b32decode(infohash_base32) == bytes.fromhex(infohash)` (= the digest).**  For every digest
    function `H` (any output length, in particular all 20-byte digests): `infohash_base32`
    never raises once `infohash` succeeds, and decoding it with `base64.b32decode` gives the
    same bytes as un-hexing `infohash`, namely `H(info bytes)`.  Proved from the general
    regrouping lemmas `Base32.b32decode_b32encode` (40-bit quanta ↔ 8 base-32 digits ↔ 5
    base-256 digits, all four padded tails) and `b16decode_upper_hexLower`; no enumeration. -/
theorem C06_base32 (env : Env) (H : Bytes → Bytes) (md : List (PyVal × PyVal)) (h : Bytes)
    (hh : infohash env H md = .ok h) :
    ∃ ib e, infoBytes env md = .ok ib ∧ infohashBase32 env H md = .ok e ∧
      Base32.b32decode e = some (H ib) ∧ Base32.unhexLower h = some (H ib) := by
  obtain ⟨ib, hib, rfl⟩ := C06_infohash_def env H md h hh
  refine ⟨ib, Base32.b32encode (H ib), hib, ?_, Base32.b32decode_b32encode _,
    Base32.unhexLower_hexLower _⟩
  simp only [infohashBase32, hh, Base32.b16decode_upper_hexLower]

/-- for 20-byte digests `infohash_base32` is 32 characters of `A-Z2-7` without padding (what
    `_INFOHASH_REGEX` and BEP 9 expect) -/
theorem C06_base32_shape (env : Env) (H : Bytes → Bytes) (md : List (PyVal × PyVal)) (e : Bytes)
    (hH : ∀ x, (H x).length = 20) (he : infohashBase32 env H md = .ok e) :
    e.length = 32 ∧ ∀ c ∈ e, (65 ≤ c.toNat ∧ c.toNat ≤ 90) ∨ (50 ≤ c.toNat ∧ c.toNat ≤ 55) := by
  unfold infohashBase32 at he
  split at he
  · rename_i h hh
    obtain ⟨ib, _, rfl⟩ := C06_infohash_def env H md h hh
    simp only [Base32.b16decode_upper_hexLower, Except.ok.injEq] at he
    subst he
    have h5 : (H ib).length % 5 = 0 := by rw [hH]
    exact ⟨by rw [Base32.b32encode_length, hH], Base32.b32encode_all_alpha_of_dvd _ h5⟩
  · exact absurd he (by simp)

/-! ### objects that carry an explicitly stored hash (`Torrent._infohash`, set by `Magnet.torrent()`)

  `infohashOf env H md explicit` is `Torrent.infohash` with its `try`/`except` structure; `explicit`
  ranges over *all* strings (and `none` = no such attribute), `md` over all metainfo.  `ValidInfoDict`
  is what `Torrent.validate()` guarantees about the shape of `info` (proved for the C07 model of
  `validate` in `C06_explicit_validate_model`; evaluated by the driver as part of `hyp`). -/

/-- validation only accepts a metainfo whose `info` entry is a dict -/
def ValidInfoDict (env : Env) (md : List (PyVal × PyVal)) : Prop :=
  env.validate (.dict (ensureInfo md)) = true →
    ∃ ikvs, PyVal.lookupStr "info" (ensureInfo md) = some (.dict ikvs)

/-- An object without `_infohash` (every Torrent that does not come from `Magnet.torrent()` on a
    magnet without metadata): the three reports are those of the theorems above. -/
theorem C06_explicit_absent (env : Env) (H : Bytes → Bytes) (md : List (PyVal × PyVal)) :
    infohashOf env H md none = infohash env H md ∧
    infohashBase32Of env H md none = infohashBase32 env H md ∧
    magnetXtOfE env H md none = magnetXtOf env H md := by
  have h1 : infohashOf env H md none = infohash env H md := by
    rw [infohashOf_eq, infohash]
    cases hib : infoBytes env md with
    | ok ib => rfl
    | error e => cases infoBytes_err hib; rfl
  refine ⟨h1, ?_, ?_⟩
  · simp only [infohashBase32Of, infohashBase32, h1]
  · simp only [magnetXtOfE, magnetXtOf, h1]

/-- **Precisely when the stored hash is reported.**  `infohash` returns `h` on an object with
    stored hash `x` iff the calculation succeeds with `h`, or the calculation fails (always with
    `MetainfoError`) and `h` is `x`.  In particular a calculable hash always wins. -/
theorem C06_explicit_iff (env : Env) (H : Bytes → Bytes) (md : List (PyVal × PyVal)) (x h : Bytes) :
    infohashOf env H md (some x) = .ok h ↔
      (∃ ib, infoBytes env md = .ok ib ∧ h = Base32.hexLower (H ib)) ∨
      (infoBytes env md = .error .metainfo ∧ h = x) := by
  rw [infohashOf_eq]
  cases hib : infoBytes env md with
  | ok ib => simp [eq_comm]
  | error e => cases infoBytes_err hib; simp [eq_comm]

/-- **When the hash cannot be calculated** (the only situations in which a stored hash is
    reported): validation refuses the metainfo, or `info` is no dict, or the converter refuses a
    value inside `info`, or a numeral inside `info` exceeds the digit limit.  Every such failure is
    a `MetainfoError`. -/
theorem C06_incalculable_iff (env : Env) (md : List (PyVal × PyVal)) :
    infoBytes env md = .error .metainfo ↔
      (env.validate (.dict (ensureInfo md)) = false ∨
       (∀ ikvs, PyVal.lookupStr "info" (ensureInfo md) ≠ some (.dict ikvs)) ∨
       ∃ ikvs, PyVal.lookupStr "info" (ensureInfo md) = some (.dict ikvs) ∧
         ((∃ e, encodeDict ikvs = .error e) ∨ ∃ iu, encodeDict ikvs = .ok iu ∧ small env.lim iu = false)) := by
  by_cases hd : ∃ ikvs, PyVal.lookupStr "info" (ensureInfo md) = some (.dict ikvs)
  · -- `info` is a dict: both sides speak of the same `ikvs`, and `infoBytes` is a case table
    obtain ⟨ikvs, hl⟩ := hd
    rw [infoBytes_of_info hl]
    simp only [hl, Option.some.injEq, PyVal.dict.injEq, ne_eq, forall_eq', false_or, exists_eq_left']
    cases hv : env.validate (.dict (ensureInfo md)) <;> simp [emit_err_iff]
  · have : infoBytes env md = .error .metainfo := by
      cases hib : infoBytes env md with
      | ok ib => obtain ⟨ikvs, _, _, hl, _⟩ := infoBytes_ok_iff.mp hib; exact absurd ⟨ikvs, hl⟩ hd
      | error e => rw [infoBytes_err hib]
    exact iff_of_true this (.inr (.inl fun ikvs hl => hd ⟨ikvs, hl⟩))

/-- **A torrent that can be written has a calculable hash — the stored one is never reported for
    it.**  For all metainfo and all stored hashes: if validation accepts and `dump` (with either
    value of its `validate` argument) returns bytes, `infohash` is the calculated one. -/
theorem C06_explicit_unused (env : Env) (H : Bytes → Bytes) (md : List (PyVal × PyVal))
    (explicit : Option Bytes) (validate : Bool) (bs : Bytes)
    (hval : ValidInfoDict env md) (hv : env.validate (.dict (ensureInfo md)) = true)
    (hd : dump env md validate = .ok bs) :
    ∃ ib, infoBytes env md = .ok ib ∧
      infohashOf env H md explicit = .ok (Base32.hexLower (H ib)) ∧
      infohash env H md = .ok (Base32.hexLower (H ib)) := by
  obtain ⟨ib, hib⟩ := infoBytes_of_dump hv hval hd
  have hh := infohash_of_infoBytes (H := H) hib
  exact ⟨ib, hib, by simp only [infohashOf, hh], hh⟩

/-- **The headline for magnet-born torrents.**  For every metainfo that is a Python dict, every
    stored hash `explicit` (any string, or none), every digest function: whenever validation
    accepts and `dump()` returns `bs`, then `bs = pre ++ ser (encode_dict info) ++ post`, the
    conforming parser finds the value of `info` at exactly that span, and
    * `infohash` is the hex digest of that span (not the stored hash),
    * `infohash_base32` does not raise and decodes to the digest of that span,
    * `magnet().xt` is `'urn:btih:'` + that hex digest whenever the `xt` setter accepts it, and it
      accepts whenever digests are 20 bytes long. -/
theorem C06_explicit_span (env : Env) (H : Bytes → Bytes) (md : List (PyVal × PyVal))
    (explicit : Option Bytes) (validate : Bool) (bs : Bytes)
    (hw : wf (.dict (ensureInfo md)) = true) (hval : ValidInfoDict env md)
    (hv : env.validate (.dict (ensureInfo md)) = true)
    (hd : dump env md validate = .ok bs) :
    ∃ pre post ikvs iu e, PyVal.lookupStr "info" (ensureInfo md) = some (.dict ikvs) ∧
      encodeDict ikvs = .ok iu ∧
      bs = pre ++ ser iu ++ post ∧
      spanOf env.lim kInfo bs = some (pre.length, (ser iu).length) ∧
      (bs.drop pre.length).take (ser iu).length = ser iu ∧
      infohashOf env H md explicit = .ok (Base32.hexLower (H (ser iu))) ∧
      infohashBase32Of env H md explicit = .ok e ∧ Base32.b32decode e = some (H (ser iu)) ∧
      (∀ g, magnetXtOfE env H md explicit = .ok g → g = urnBtih ++ Base32.hexLower (H (ser iu))) ∧
      ((∀ x, (H x).length = 20) →
        magnetXtOfE env H md explicit = .ok (urnBtih ++ Base32.hexLower (H (ser iu)))) := by
  obtain ⟨ib, hib, hx, hh⟩ := C06_explicit_unused env H md explicit validate bs hval hv hd
  obtain ⟨pre, post, ikvs, iu, hl, hiu, rfl, hsplit, hspan⟩ := infoBytes_span hw hd hib
  have hm : magnetXtOfE env H md explicit = magnetXtOf env H md := by
    simp only [magnetXtOfE, magnetXtOf, hx, hh]
  refine ⟨pre, post, ikvs, iu, _, hl, hiu, hsplit, hspan, by simp [hsplit], hx,
    by simp only [infohashBase32Of, hx, Base32.b16decode_upper_hexLower], Base32.b32decode_b32encode _,
    fun g hg => C06_magnet env H md g _ (hm ▸ hg) hh, fun hH => hm ▸ C06_magnet_ok env H md _ hH hh⟩

/-- the same for `dump(validate=True)`: its success already says that validation accepted -/
theorem C06_explicit_span_validated (env : Env) (H : Bytes → Bytes) (md : List (PyVal × PyVal))
    (explicit : Option Bytes) (bs : Bytes)
    (hw : wf (.dict (ensureInfo md)) = true) (hval : ValidInfoDict env md)
    (hd : dump env md true = .ok bs) :
    ∃ o l e, spanOf env.lim kInfo bs = some (o, l) ∧
      infohashOf env H md explicit = .ok (Base32.hexLower (H ((bs.drop o).take l))) ∧
      infohashBase32Of env H md explicit = .ok e ∧
      Base32.b32decode e = some (H ((bs.drop o).take l)) ∧
      ((∀ x, (H x).length = 20) →
        magnetXtOfE env H md explicit = .ok (urnBtih ++ Base32.hexLower (H ((bs.drop o).take l)))) := by
  obtain ⟨pre, post, ikvs, iu, e, _, _, _, hspan, hslice, hx, he, hdec, _, hm⟩ :=
    C06_explicit_span env H md explicit true bs hw hval (validate_of_dump_true hd) hd
  exact ⟨pre.length, (ser iu).length, e, hspan, by rw [hslice]; exact hx, he, by rw [hslice]; exact hdec,
    by rw [hslice]; exact hm⟩

/-- **Histories on one object.**  Start from whatever `Magnet.torrent()` returns (metadata adopted
    or not, any magnet hash), apply any sequence of metainfo changes and `copy()`s: in the state
    reached, whenever `dump(validate=True)` succeeds the three reports are those of the SHA-1 of
    the info span of the dumped bytes. -/
theorem C06_history (env : Env) (H : Bytes → Bytes) (md0 : List (PyVal × PyVal)) (adopted : Bool)
    (base16 : Bytes) (steps : List Step) (bs : Bytes)
    (hw : wf (.dict (ensureInfo ((ofMagnet md0 adopted base16).run steps).md)) = true)
    (hval : ValidInfoDict env ((ofMagnet md0 adopted base16).run steps).md)
    (hd : dump env ((ofMagnet md0 adopted base16).run steps).md true = .ok bs) :
    ∃ o l e, spanOf env.lim kInfo bs = some (o, l) ∧
      ((ofMagnet md0 adopted base16).run steps).infohash env H =
        .ok (Base32.hexLower (H ((bs.drop o).take l))) ∧
      ((ofMagnet md0 adopted base16).run steps).infohashBase32 env H = .ok e ∧
      Base32.b32decode e = some (H ((bs.drop o).take l)) ∧
      ((∀ x, (H x).length = 20) →
        ((ofMagnet md0 adopted base16).run steps).magnetXt env H =
          .ok (urnBtih ++ Base32.hexLower (H ((bs.drop o).take l)))) :=
  C06_explicit_span_validated env H _ _ bs hw hval hd

theorem run_explicit (o : Obj) (steps : List Step) :
    (o.run steps).explicit =
      if steps.any (fun s => match s with | .copy => true | .mutate _ => false) then none
      else o.explicit := by
  induction steps generalizing o with
  | nil => rfl
  | cons s t ih =>
    rw [show o.run (s :: t) = (o.step s).run t from rfl, ih]
    cases s <;> simp [Obj.step]

/-- the stored hash along a history: it is the magnet's hash until the first `copy()`, absent
    afterwards and absent throughout if the magnet had adopted metadata — no metainfo change
    touches it -/
theorem C06_history_explicit (md0 : List (PyVal × PyVal)) (adopted : Bool) (base16 : Bytes)
    (steps : List Step) :
    ((ofMagnet md0 adopted base16).run steps).explicit =
      if adopted || steps.any (fun s => match s with | .copy => true | .mutate _ => false)
      then none else some base16 := by
  rw [run_explicit]
  cases adopted <;> simp [ofMagnet]

/-- the hypothesis `ValidInfoDict` holds for the model of `Torrent.validate()` that C07 reasons
    about, for every URL oracle and every file-system oracle -/
theorem C06_explicit_validate_model (urlOk : List UInt8 → Bool) (fs : Validate.FsOracle)
    (fromTs : Int → Option PyVal) (md : List (PyVal × PyVal)) :
    ValidInfoDict { fromTs := fromTs, validate := validateOracle urlOk fs } md :=
  validateOracle_info_dict urlOk fs md

/-- The boundary is sharp: for a metainfo that validation refuses, an *unvalidated* dump succeeds
    and the reported hash is the stored one, not the digest of the dumped info span (this is the
    state `Magnet.torrent()` returns for a magnet without metadata; such a metainfo is not an
    exportable torrent).  Hence the hypothesis "validation accepts" cannot be dropped. -/
def C06_explicit_any_dump_full : Prop :=
  ∀ (env : Env) (H : Bytes → Bytes) (md : List (PyVal × PyVal)) (x bs : Bytes) (o l : Nat),
    wf (.dict (ensureInfo md)) = true → dump env md false = .ok bs →
    spanOf env.lim kInfo bs = some (o, l) →
    infohashOf env H md (some x) = .ok (Base32.hexLower (H ((bs.drop o).take l)))

/-- `Magnet('urn:btih:4141…41', dn='n', xl=1).torrent()`: `dump(validate=False)` is
    `d4:infod6:lengthi1e4:name1:nee`, `infohash` is the magnet's -/
def stubMd : List (PyVal × PyVal) := [(.str "info", .dict [(.str "name", .str "n"), (.str "length", .int 1)])]
def stubEnv : Env := { fromTs := fun _ => none, validate := fun _ => false }
def stubDump : Bytes :=
  [100, 52, 58, 105, 110, 102, 111, 100, 54, 58, 108, 101, 110, 103, 116, 104, 105, 49, 101, 52, 58,
   110, 97, 109, 101, 49, 58, 110, 101, 101]

/-- validation refuses the stub, so whatever is stored is reported -/
theorem infohashOf_stub (H : Bytes → Bytes) (x : Bytes) : infohashOf stubEnv H stubMd (some x) = .ok x := by
  simp [infohashOf, infohash, infoBytes, stubEnv]

theorem C06_explicit_any_dump_counterexample : ¬ C06_explicit_any_dump_full := by
  intro h
  have hd : dump stubEnv stubMd false = .ok stubDump := by decide +kernel
  have hs : spanOf stubEnv.lim kInfo stubDump = some (7, 22) := by decide +kernel
  have := h stubEnv exH stubMd (List.replicate 40 65) stubDump 7 22 (by decide) hd hs
  rw [infohashOf_stub] at this
  have h2 := Except.ok.inj this
  revert h2
  decide +kernel

/-! ### "…inside the dumped *or written* file": `Torrent.write()` when the operating system may refuse
    or take only part of the bytes

  `WriteInfo.writeFile env md validate ov t` is C17's effect model of `Torrent.write` (what is at the
  path, the answer of `os.path.exists`, `open` fails, the opened file accepts `k` bytes, `close`
  fails — all of them universally quantified inputs `t`) fed with this property's `dump`. -/

/-- **A normal return of `write()` means the file holds exactly `dump()`'s bytes** — whatever was at
    the path (where a regular file can be) and whatever the operating system answered; and every
    other outcome is `WriteError`, or `dump`'s `MetainfoError` with the target untouched. -/
theorem C06_write_exact_or_error (env : Env) (md : List (PyVal × PyVal)) (validate ov : Bool)
    (t t' : Write.Target) (r : Except Export.ErrKind Unit) (log : List Write.Eff)
    (hreg : t.node.regular = true)
    (h : WriteInfo.writeFile env md validate ov t = (r, t', log)) :
    (r = .ok () ∧ ∃ bs, dump env md validate = .ok bs ∧ t'.node = .file bs) ∨
    r = .error .write ∨
    (r = .error .metainfo ∧ t' = t ∧ dump env md validate = .error .metainfo) := by
  rcases WriteInfo.writeFile_cases env md validate ov t t' r log h with h1 | h2 | ⟨h3, c, hd, hn, _⟩
  · exact .inr (.inl h1)
  · exact .inr (.inr h2)
  · refine .inl ⟨h3, c, hd, ?_⟩
    rw [hn]; simp [Write.Node.store, hreg]

/-- a short write is never a success: if the opened file accepts fewer bytes than `dump()` produced
    (file size limit, full disk, quota), `write()` raises `WriteError` -/
theorem C06_write_short_is_error (env : Env) (md : List (PyVal × PyVal)) (validate ov : Bool)
    (t t' : Write.Target) (r : Except Export.ErrKind Unit) (log : List Write.Eff) (bs : Bytes) (q : Nat)
    (hd : dump env md validate = .ok bs) (hq : t.env.quota = some q) (hlt : q < bs.length)
    (h : WriteInfo.writeFile env md validate ov t = (r, t', log)) : r = .error .write := by
  rcases WriteInfo.writeFile_cases env md validate ov t t' r log h with h1 | ⟨_, _, h2⟩ | ⟨_, c, hc, _, hacc, _⟩
  · exact h1
  · rw [hd] at h2; exact absurd h2 (by simp)
  · have : c = bs := Except.ok.inj (hc.symm.trans hd)
    subst this
    simp only [Write.Env.accepts, hq] at hacc
    omega

/-- **The written file carries the info dictionary whose SHA-1 is reported.**  For every metainfo
    that is a Python dict, every stored hash, every target and every behaviour of the operating
    system: if `write(filepath)` (validating) returns normally, the file content `bs` is canonical
    bencoding, the strict parser finds the value of `info` at a span `(o, l)`, and `infohash`,
    `infohash_base32`, `magnet().xt` are those of the SHA-1 of exactly `bs[o : o+l]`. -/
theorem C06_written_file (env : Env) (H : Bytes → Bytes) (md : List (PyVal × PyVal))
    (explicit : Option Bytes) (ov : Bool) (t t' : Write.Target) (log : List Write.Eff)
    (hw : wf (.dict (ensureInfo md)) = true) (hval : ValidInfoDict env md)
    (hreg : t.node.regular = true)
    (h : WriteInfo.writeFile env md true ov t = (.ok (), t', log)) :
    ∃ bs o l e, t'.node = .file bs ∧ CanonBytes env.lim bs ∧
      spanOf env.lim kInfo bs = some (o, l) ∧
      infohashOf env H md explicit = .ok (Base32.hexLower (H ((bs.drop o).take l))) ∧
      infohashBase32Of env H md explicit = .ok e ∧
      Base32.b32decode e = some (H ((bs.drop o).take l)) ∧
      ((∀ x, (H x).length = 20) →
        magnetXtOfE env H md explicit = .ok (urnBtih ++ Base32.hexLower (H ((bs.drop o).take l)))) := by
  rcases C06_write_exact_or_error env md true ov t t' _ log hreg h with ⟨_, bs, hd, hn⟩ | h2 | ⟨h3, _⟩
  · obtain ⟨o, l, e, hs, hi, hb, hdec, hm⟩ := C06_explicit_span_validated env H md explicit bs hw hval hd
    exact ⟨bs, o, l, e, hn, C06_canonical env md true bs hw hd, hs, hi, hb, hdec, hm⟩
  · exact absurd h2 (by simp)
  · exact absurd h3 (by simp)

/-! ### the keys of the metainfo and the keys of the output

  A Python mapping may hold keys of any hashable type; `'info'` and `b'info'` are two keys of
  `Torrent.metainfo` but would be one key of the output.  In the model a dict is a list of
  (key, value) pairs whose keys range over *all* of `PyVal` (str, bytes, int, bool, None, float,
  tuple, …); `encodeKvs` has the code's refusal of every key that is not a `str`
  (torf/_utils.py:852-857 `if not isinstance(key, str): raise ValueError`).  So the claims below
  are consequences of the model (`C06_canonical` gives "no key twice in the bytes"); they are
  stated so that the property says them, and the harness generator produces such keys. -/

/-- **Keys are neither merged nor dropped nor invented.**  If `encode_dict` returns for a dict whose
    `str` keys are pairwise distinct (a Python dict): every key of the dict is a `str`; the output
    has exactly as many entries as the dict has keys; no output key occurs twice; and every output
    entry `(kb, v)` is `(k.encode('utf8'), encoding of d[k])` for a `str` key `k` of the dict.
    (The converse — every `d[k]` is emitted under `k.encode()` — is `mem_encodeDict`, which
    `C06_span` rests on for `k = 'info'`.) -/
theorem C06_keys_unique (kvs : List (PyVal × PyVal)) (u : BVal)
    (h : encodeDict kvs = .ok u) (hn : (strKeys kvs).Nodup) :
    ∃ ukvs, u = .dict ukvs ∧
      (∀ p ∈ kvs, ∃ k, p.1 = .str k) ∧
      ukvs.length = kvs.length ∧
      (ukvs.map (·.1)).Nodup ∧
      (∀ kb v, (kb, v) ∈ ukvs →
        ∃ k m, PyVal.lookupStr k kvs = some m ∧ kb = utf8Enc k ∧ encodeValue m = .ok v) ∧
      (∀ k m, PyVal.lookupStr k kvs = some m → ∃ v, encodeValue m = .ok v ∧ (utf8Enc k, v) ∈ ukvs) := by
  obtain ⟨ukvs, hu, h1, h2, h3, h4⟩ := encodeDict_keys kvs u h hn
  refine ⟨ukvs, hu, h1, h2, h3, h4, fun k m hl => ?_⟩
  obtain ⟨ukvs', v, hu', hv, hm⟩ := mem_encodeDict k m kvs u h hl
  have : ukvs' = ukvs := by rw [hu] at hu'; exact (BVal.dict.inj hu').symm
  subst this
  exact ⟨v, hv, hm⟩

/-- **A key of any other type makes every export raise** (`bytes` — equal to an encoded `str` key or
    not, valid UTF-8 or not —, `int`, `bool`, `None`, `float`, `tuple`, …): at top level `dump` is a
    `MetainfoError`; inside `info` so is the calculation of the hash (`infohash` then raises, or
    reports the stored hash of a magnet-born object — `C06_explicit_iff`). -/
theorem C06_nonstr_key_refused (env : Env) (md : List (PyVal × PyVal)) (validate : Bool)
    (p : PyVal × PyVal) (hk : ∀ k, p.1 ≠ .str k) :
    (p ∈ ensureInfo md → dump env md validate = .error .metainfo) ∧
    (∀ ikvs, PyVal.lookupStr "info" (ensureInfo md) = some (.dict ikvs) → p ∈ ikvs →
      infoBytes env md = .error .metainfo) := by
  constructor
  · intro hp
    obtain ⟨e, he⟩ := encodeDict_nonstr_key _ p hp hk
    rw [dump_eq]
    split
    · rfl
    · exact emit_err_iff.mpr (.inl ⟨e, he⟩)
  · intro ikvs hl hp
    obtain ⟨e, he⟩ := encodeDict_nonstr_key _ p hp hk
    rw [infoBytes_of_info hl]
    split
    · rfl
    · exact emit_err_iff.mpr (.inl ⟨e, he⟩)

/-- `dump()` returned ⇒ the top-level dict and the `info` dict both went through `encode_dict`
    with the guarantees of `C06_keys_unique`: in particular `metainfo` has only `str` keys, so no
    `b'info'` next to `'info'`, and the entry emitted under `info` is the encoding of
    `metainfo['info']` — the value the hash is calculated from. -/
theorem C06_dump_keys (env : Env) (md : List (PyVal × PyVal)) (validate : Bool) (bs : Bytes)
    (hw : wf (.dict (ensureInfo md)) = true) (hd : dump env md validate = .ok bs) :
    ∃ ukvs, bs = ser (.dict ukvs) ∧
      (∀ p ∈ ensureInfo md, ∃ k, p.1 = .str k) ∧
      ukvs.length = (ensureInfo md).length ∧ (ukvs.map (·.1)).Nodup ∧
      (∀ iv, PyVal.lookupStr "info" (ensureInfo md) = some iv →
        ∃ v, encodeValue iv = .ok v ∧ (kInfo, v) ∈ ukvs ∧ ∀ v', (kInfo, v') ∈ ukvs → v' = v) := by
  obtain ⟨u, hu, _, hbs⟩ := dump_ok hd
  obtain ⟨ukvs, rfl, h1, h2, h3, _, h5⟩ := C06_keys_unique _ u hu (wf_dict hw).1
  refine ⟨ukvs, hbs, h1, h2, h3, fun iv hl => ?_⟩
  obtain ⟨v, hv, hm⟩ := h5 "info" iv hl
  rw [kInfo_eq] at hm
  -- two entries with the same key in a list whose keys are pairwise distinct are one entry
  exact ⟨v, hv, hm, fun v' hm' =>
    Option.some.inj ((lookup_of_mem kInfo v' ukvs h3 hm').symm.trans (lookup_of_mem kInfo v ukvs h3 hm))⟩

/-- non-vacuity of `C06_span`, `C06_magnet`, `C06_magnet_ok`, `C06_base32`, `C06_base32_shape`:
    their hypotheses hold together on `exMd` — `dump`, `infohash`, `infohash_base32` succeed, the
    digest function is 20 bytes long — and the span reported for `info` is (13, 33):
    `d4:name…16384e` starts right after `d1:ai5e4:info`. -/
example : wf (.dict (ensureInfo exMd)) = true ∧ (∀ x, (exH x).length = 20) ∧
    dump exEnv exMd true = .ok exDump ∧
    infohash exEnv exH exMd = .ok (List.replicate 20 [50, 49]).flatten ∧
    infohashBase32 exEnv exH exMd = .ok ((List.replicate 4 [69, 69, 81, 83, 67, 73, 74, 66]).flatten) ∧
    spanOf exEnv.lim kInfo exDump = some (13, 33) :=
  ⟨by decide +kernel, fun x => by simp [exH], dump_exMd, infohash_exMd,
   by decide +kernel, by decide +kernel⟩

/-- non-vacuity of `C06_canonical`: a metainfo with a bool, a float, a datetime, a tuple and a
    non-ASCII key is well-formed and dumps successfully. -/
example : wf (.dict (ensureInfo [(.str "é", .tuple [.bool true, .float (.fin 1 false false)]),
                                  (.str "a", .datetime (some 5))])) = true := by decide

/-- non-vacuity of `C06_explicit_unused`, `C06_explicit_span`, `C06_explicit_span_validated`,
    `C06_history`: on `exMd` validation accepts, `ValidInfoDict` holds, `dump` succeeds, and with a
    stored hash `"AAAA…"` the report is the calculated `"2121…"`; and of the second disjunct of
    `C06_explicit_iff` / `C06_incalculable_iff`: on the magnet stub the calculation fails and the
    stored hash is reported. -/
example : ValidInfoDict exEnv exMd ∧ exEnv.validate (.dict (ensureInfo exMd)) = true ∧
    dump exEnv exMd true = .ok exDump ∧
    infohashOf exEnv exH exMd (some (List.replicate 40 65)) = .ok (List.replicate 20 [50, 49]).flatten ∧
    ((ofMagnet exMd false (List.replicate 40 65)).run [.mutate stubMd, .mutate exMd]).infohash exEnv exH
      = .ok (List.replicate 20 [50, 49]).flatten ∧
    infoBytes stubEnv stubMd = .error .metainfo ∧
    infohashOf stubEnv exH stubMd (some (List.replicate 40 65)) = .ok (List.replicate 40 65) :=
  have hx : infohashOf exEnv exH exMd (some (List.replicate 40 65)) = .ok (List.replicate 20 [50, 49]).flatten := by
    simp only [infohashOf, infohash_exMd]
  ⟨fun _ => ⟨[(.str "name", .str "a"), (.str "piece length", .int 16384)], rfl⟩, rfl, dump_exMd, hx, hx,
   by simp [infoBytes, stubEnv], infohashOf_stub _ _⟩

/-- non-vacuity of `C06_write_exact_or_error` (first disjunct), `C06_written_file` and
    `C06_write_short_is_error`: on `exMd`, writing over an existing file succeeds when the
    operating system takes everything and leaves `exDump`; with a quota of 10 bytes it is an error. -/
example :
    (WriteInfo.writeFile exEnv exMd true true ⟨.file [1, 2, 3], { existsAns := true }⟩).1.toBool = true ∧
    (WriteInfo.writeFile exEnv exMd true true ⟨.file [1, 2, 3], { existsAns := true }⟩).2.1.node = .file exDump ∧
    (WriteInfo.writeFile exEnv exMd true true ⟨.absent, { existsAns := false, quota := some 10 }⟩).1.toBool = false := by
  simp only [WriteInfo.writeFile, WriteInfo.producer, dump_exMd]
  decide +kernel

/-- non-vacuity of `C06_keys_unique` / `C06_dump_keys` (hypotheses hold on `exMd`, see above) and of
    `C06_nonstr_key_refused`: `{'info': …, b'info': …}` — the colliding bytes key — is refused, and so
    are `{1: 2}`, `{True: 0}`, `{None: 0}`, `{('t',): 1}`. -/
example :
    (encodeDict [(.str "info", .dict []), (.bytes kInfo, .dict [(.str "name", .str "x")])]).toBool = false ∧
    (encodeDict [(.int 1, .int 2)]).toBool = false ∧ (encodeDict [(.bool true, .int 0)]).toBool = false ∧
    (encodeDict [(.none, .int 0)]).toBool = false ∧ (encodeDict [(.tuple [.str "t"], .int 1)]).toBool = false ∧
    (strKeys (ensureInfo exMd)).Nodup ∧ (encodeDict (ensureInfo exMd)).toBool = true :=
  ⟨by decide +kernel, by decide +kernel, by decide +kernel, by decide +kernel, by decide +kernel, by decide,
   by decide +kernel⟩

end Torf.C06
