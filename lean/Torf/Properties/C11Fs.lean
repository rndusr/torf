/-
  C11 — "bytes [i·L, (i+1)·L) of the stream": *which* stream.  The stream is the concatenation of
  the files the operating system finds under  content path / listed names,  the content path being
  the caller's spelling (per-call argument > class argument > `Torrent.path`,
  `C11_content_path_priority`), handed on unchanged.

  `Torf.Geometry.getPieceFs` (`Model/GeometryFs.lean`) = `get_piece` reading through
  `Torf.Reuse.resolve` (path_resolution(7) over an inode table with symbolic links and physical
  `..`, from C18).  Property theorems only; helper lemmas in `Lemmas/GeomFs.lean`.

  History on one stream object (handles left open — or closed — by earlier `iter_pieces`,
  `get_piece`, `close` calls) does not enter these statements: `Torf.C19.C19_independent` and
  `Torf.C19.C19_history` prove for the handle-table model that every operation on a used object
  answers as on a fresh one; the C11 harness asks each random-access query on used objects too and
  expects the answer of the theorems below.
-/
import Torf.Lemmas.GeomFs
import Torf.Properties.C11
namespace Torf.C11
open Torf Torf.Geometry Torf.GeomLemmas
open Torf.Paths (PPath)

/-- **The content path reaches the OS as it was given.**  If, under the spellings
    `content path / names[j]` (pathlib form for a multi-file torrent, the content path itself for a
    single-file torrent), the OS finds regular files holding `files[j]`, then on that disk
    `get_piece i` is the arithmetic slice of `files`' concatenation (ValueError outside
    `0 … ⌈T/L⌉-1`), `get_piece_hash i` its hash and `verify_piece i` the comparison with the stored
    hash — whatever the spelling looks like (`..` behind symbolic links, `.`, doubled slashes,
    relative to any working directory). -/
theorem C11_content_path_verbatim [BEq δ] (H : List α → δ) (stored : List δ) (d : Disk α)
    (single : Bool) (cp : PPath) (names : List (List String)) (files : List (List α)) (L : Nat)
    (i : Int) (hL : 0 < L) (hne : NoEmptyFiles files) (hsz : d.SizesAgree)
    (hsee : ∀ j, j < files.length →
      openRead d (pathOfFile single cp names j) = .ok (files.getD j [])) :
    getPieceFs d single cp names (files.map List.length) L i = GeomSpec.piece files L i ∧
    getPieceHashFs H d single cp names (files.map List.length) L i =
      (GeomSpec.pieceHash H files L i).map some ∧
    verifyPieceFs H stored d single cp names (files.map List.length) L i =
      (GeomSpec.verifyPiece H stored files L i).map some := by
  have hlook : SeesFiles (lookFs d (pathOfFile single cp names) (files.map List.length)) files := by
    intro j hj
    apply lookFs_ok d _ _ j _ hsz (hsee j hj)
    simp [List.getD_eq_getElem?_getD, hj]
  have h1 : getPieceFs d single cp names (files.map List.length) L i = GeomSpec.piece files L i :=
    getPieceVia_sees _ files L i hL hne hlook
  have h2 : getPieceHashFs H d single cp names (files.map List.length) L i =
      (GeomSpec.pieceHash H files L i).map some := by
    unfold getPieceHashFs GeomSpec.pieceHash
    rw [h1]
    unfold GeomSpec.piece
    split <;> rfl
  refine ⟨h1, h2, ?_⟩
  unfold verifyPieceFs verifyOfHash
  rw [h2, ← C11_verify_piece_spec H stored files L i hL hne, ← C11_get_piece_hash_spec H files L i hL hne]
  unfold verifyPiece
  cases storedHash stored i with
  | error e => rfl
  | ok sh => cases getPieceHash H files L true i <;> rfl

/-- **Nothing there.**  If no spelling `content path / names[j]` can be opened (the content path
    dangles, leads to another directory, to a regular file, …; every attempt fails with `e`), every
    valid piece index ends with that error — no bytes from anywhere else — and an invalid one
    with ValueError; for ENOENT `get_piece_hash` is `None`. -/
theorem C11_content_path_dangling (H : List α → δ) (d : Disk α) (single : Bool) (cp : PPath)
    (names : List (List String)) (files : List (List α)) (L : Nat) (i : Int) (e : Err) (hL : 0 < L)
    (hne : NoEmptyFiles files)
    (hnone : ∀ j, j < files.length → openRead d (pathOfFile single cp names j) = .error e) :
    getPieceFs d single cp names (files.map List.length) L i =
      (if GeomSpec.validPiece (files.map List.length) L i then .error e else .error .value) ∧
    (GeomSpec.validPiece (files.map List.length) L i = true → e = .internal "ReadError:ENOENT" →
      getPieceHashFs H d single cp names (files.map List.length) L i = .ok none) := by
  have h1 := getPieceVia_none (lookFs d (pathOfFile single cp names) (files.map List.length))
    files L i e hL hne (fun j hj => lookFs_err d _ _ j e (hnone j hj))
  refine ⟨h1, ?_⟩
  intro hv he
  unfold getPieceHashFs getPieceFs
  rw [h1, hv, he]
  rfl

/-- **The file that is read is found from where the content path leads.**  If the OS resolves the
    content path (less a trailing slash) to the directory `st`, then the joined spelling
    `content path / parts` is resolved by walking `parts` from `st` (with the symbolic-link budget
    that is left) — so when the content path ends behind a symbolic link, `st` is the link's target
    and a `..` in it was taken there, not in the directory the link lies in
    (`Torf.C18.C18_dotdot_physical`). -/
theorem C11_content_path_physical (d : Disk α) (cp : PPath) (parts : List String) (st : List Nat)
    (hp : parts ≠ [])
    (h : Reuse.resolve d.world ⟨cp.abs, joinBase cp⟩ = .ok (.dir st)) :
    ∃ k, k ≤ Reuse.maxLinks ∧
      Reuse.resolve d.world (joinParts cp parts) = Reuse.walk d.fs k st parts := by
  obtain ⟨k, hk, hkk⟩ := Reuse.resolve_append h
  exact ⟨k, hk, joinParts_of_ne cp parts hp ▸ hkk parts⟩

/-- **No normalisation of the spelling**: the path handed out (and opened) for a file of a
    multi-file torrent keeps the content path's components — every `..` in particular — in their
    order, followed by the listed names; only empty and `.` components are gone (pathlib).  For a
    single-file torrent it is the content path itself. -/
theorem C11_returned_path_verbatim (cp : PPath) (parts : List String) (hp : parts ≠ []) :
    (filePath false cp parts).abs = cp.abs ∧
    (filePath false cp parts).comps =
      (joinBase cp ++ parts).filter (fun c => c != "" && c != ".") ∧
    ((filePath false cp parts).comps.filter (· == "..")) =
      (cp.comps.filter (· == "..")) ++ parts.filter (· == "..") ∧
    filePath true cp parts = cp := by
  have hj := joinParts_of_ne cp parts hp
  have hbase : cp.comps.filter (· == "..") = (joinBase cp).filter (· == "..") := by
    rcases comps_eq_joinBase cp with h | h <;> rw [h]
    rw [List.filter_append]
    exact List.append_nil _
  refine ⟨?_, ?_, ?_, rfl⟩
  · simp [filePath, hj, Paths.pathlibNorm]
  · simp [filePath, hj, Paths.pathlibNorm]
  · simp only [filePath, hj, Paths.pathlibNorm, Bool.false_eq_true, if_false, List.filter_filter,
      List.filter_append]
    rw [hbase]
    congr 1 <;>
    · apply List.filter_congr
      intro c _
      by_cases h : c = ".." <;> simp [h]

/-- **pathlib's form is harmless**: the object handed out for a file of a multi-file torrent is
    `type(file)(os.path.join(content_path, …))`, i.e. without empty and `.` components.  The OS
    resolves it exactly like the untouched spelling  content path / listed names  (the listed names
    are plain, the content path is not the empty string) — so "the bytes of the files under the
    given content path" may be read through it.  (Not so for `..`: `C11_normpath_counterexample`.) -/
theorem C11_pathlib_form_harmless (d : Disk α) (cp : PPath) (parts : List String) (hp : parts ≠ [])
    (hplain : ∀ c ∈ parts, (c != "" && c != ".") = true)
    (hcp : cp.abs = true ∨ cp.comps.headD "" ≠ "") :
    openRead d (filePath false cp parts) = osFile d false cp parts ∧
    Reuse.getsize d.world (filePath false cp parts) = Reuse.getsize d.world (joinParts cp parts) := by
  have hj := joinParts_of_ne cp parts hp
  have hres : Reuse.resolve d.world (Paths.pathlibNorm (joinParts cp parts)) =
      Reuse.resolve d.world (joinParts cp parts) := by
    -- the last listed name is looked up
    obtain ⟨ps, c, rfl⟩ : ∃ ps c, parts = ps ++ [c] := ⟨_, _, (List.dropLast_concat_getLast hp).symm⟩
    rw [hj, ← List.append_assoc]
    refine resolve_pathlibNorm _ _ _ c (hplain c (by simp)) (hcp.imp_right fun h => ?_)
    -- the joined spelling begins as the content path does (with a listed name, if nothing of that is left)
    rw [List.append_assoc]
    cases hb : joinBase cp with
    | nil =>
      have := hplain ((ps ++ [c]).head hp) (List.head_mem hp)
      simp only [Bool.and_eq_true, bne_iff_ne, ne_eq] at this
      rw [List.nil_append, List.headD_eq_head?_getD, List.head?_eq_some_head hp]
      exact this.1
    | cons a as =>
      rcases comps_eq_joinBase cp with h' | h' <;> rw [h', hb] at h <;> simpa using h
  constructor
  · unfold osFile filePath
    simp only [Bool.false_eq_true, if_false]
    unfold openRead
    rw [hres]
  · unfold Reuse.getsize filePath
    simp only [Bool.false_eq_true, if_false, hres]

/-! ### why the spelling must not be tidied up lexically

`/work/current -> /store/inbox`; the content lies in `/store/content`, a directory with the same
listing but other bytes in `/work/content`.  `/work/current/../content` is `/store/content` for the
OS; `os.path.normpath` makes `/work/content` of it. -/

def exFS : Reuse.FS :=
  [ .dir true true [("work", 1), ("store", 2)],          -- 0  /
    .dir true true [("current", 3), ("content", 4)],     -- 1  /work
    .dir true true [("inbox", 5), ("content", 6)],       -- 2  /store
    .link ⟨true, ["store", "inbox"]⟩,                    -- 3  /work/current -> /store/inbox
    .dir true true [("a", 7)],                           -- 4  /work/content
    .dir true true [],                                   -- 5  /store/inbox
    .dir true true [("a", 8)],                           -- 6  /store/content
    .file 2 true 0,                                      -- 7  /work/content/a   (other bytes)
    .file 2 true 1 ]                                     -- 8  /store/content/a  (the content)

def exDisk : Disk Nat := ⟨exFS, [], fun cid => if cid = 1 then [1, 2] else [9, 9]⟩
def exCp : PPath := ⟨true, ["work", "current", "..", "content"]⟩

/-- what the property would demand of a stream that normalises the opened spelling with
    `os.path.normpath`: still the bytes of the files the OS finds under the given spelling -/
def C11_lexical_full : Prop :=
  ∀ (d : Disk Nat) (cp : PPath) (names : List (List String)) (files : List (List Nat)) (L : Nat) (i : Int),
    0 < L → NoEmptyFiles files → d.SizesAgree →
    (∀ j, j < files.length → openRead d (pathOfFile false cp names j) = .ok (files.getD j [])) →
    getPieceVia (lookFs d (fun j => normPath (pathOfFile false cp names j)) (files.map List.length))
      (files.map List.length) L i = GeomSpec.piece files L i

/-- … it would silently return the bytes of another file -/
theorem C11_normpath_counterexample : ¬ C11_lexical_full := by
  intro h
  have hsz : exDisk.SizesAgree := by
    intro ino sz r cid hn
    have hm : Reuse.Node.file sz r cid ∈ exFS := List.mem_of_getElem? hn
    simp only [exFS, List.mem_cons, reduceCtorEq, false_or, List.not_mem_nil, or_false,
      Reuse.Node.file.injEq] at hm
    rcases hm with ⟨rfl, _, rfl⟩ | ⟨rfl, _, rfl⟩ <;> rfl
  have := h exDisk exCp [["a"]] [[1, 2]] 2 0 (by decide) (by unfold NoEmptyFiles; decide) hsz
    (by
      intro j hj
      have : j = 0 := by simpa using hj
      subst this
      rfl)
  revert this
  decide +kernel

/-- the same disk, the code as it is: the content; with the normalised spelling: the other file -/
theorem C11_normpath_reads_elsewhere :
    getPieceFs exDisk false exCp [["a"]] [2] 2 0 = .ok [1, 2] ∧
    getPieceVia (lookFs exDisk (fun j => normPath (pathOfFile false exCp [["a"]] j)) [2]) [2] 2 0
      = .ok [9, 9] ∧
    filePath false exCp ["a"] = ⟨true, ["work", "current", "..", "content", "a"]⟩ ∧
    normPath (filePath false exCp ["a"]) = ⟨true, ["work", "content", "a"]⟩ := by
  decide +kernel

/-! Non-vacuity: the hypotheses of the theorems above are met on the example disk (through the
symbolic link), a dangling spelling, a relative spelling from a working directory reached through
the link, a trailing slash. -/
example : openRead exDisk (pathOfFile false exCp [["a"]] 0) = .ok [1, 2] := by decide +kernel
example : openRead exDisk (pathOfFile false ⟨true, ["work", "current", "content"]⟩ [["a"]] 0)
    = .error (.internal "ReadError:ENOENT") := by decide +kernel
example : openRead { exDisk with cwd := [5, 2] } (pathOfFile false ⟨false, ["..", "content", ""]⟩ [["a"]] 0)
    = .ok [1, 2] := by decide +kernel
example : Reuse.resolve exDisk.world ⟨exCp.abs, joinBase exCp⟩ = .ok (.dir [6, 2]) := by decide +kernel
example : joinParts ⟨false, ["x", ""]⟩ ["a", "b"] = ⟨false, ["x", "a", "b"]⟩ := by decide +kernel
example : getPieceHashFs id exDisk false ⟨true, ["work", "current", "content"]⟩ [["a"]] [2] 2 0
    = .ok none := by decide +kernel

end Torf.C11
