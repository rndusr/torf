/-
  C18 — search trees with symbolic links to directories (siblings, ancestors = real loops,
  descendants, names that are string prefixes of one another).

  Which candidates a search path reaches is `Below` (Properties/C18Search): the search path as
  given, followed by names the OS lists — every such spelling that resolves to a `*.torrent` file
  is yielded (`C18_search_complete`), *whatever the directories are called and wherever a link
  leads*.  Here: the code has no loop guard (`C18_guard_free`); a guard that compares the text of
  real paths loses reachable candidates (`C18_prefix_guard_incomplete`), and so does a correct
  ancestor test when the ancestor lies above the search path (`C18_ancestor_guard_incomplete`);
  what the unchanged code does on a real loop (`C18_self_loop_search`: it ends, thanks to the
  OS's limit of 40 links, with 41 copies of every file and one path error).
-/
import Torf.Properties.C18Search
import Torf.Model.ReuseLinks
namespace Torf.C18
open Torf Torf.Reuse Torf.Paths

/-- the code as it is descends into every entry: the guarded search without a guard is `find` -/
theorem C18_guard_free (w : World) (fuel : Nat) (p : PPath) : findG noGuard w fuel p = find w fuel p := by
  induction fuel generalizing p with
  | zero => rfl
  | succ f ih =>
    unfold findG find
    simp only [noGuard, Bool.false_eq_true, if_false, ih]
    rfl

/-! ### a sibling whose name is a string prefix of the search directory's name

`/x/torrents/2024/s.torrent`; the search paths `/x/torrents-new` and `/x/incoming` both hold
`old -> ../torrents`. -/

def lnFS : FS :=
  [ .dir true true [("x", 1)],                                             -- 0  /
    .dir true true [("torrents", 2), ("torrents-new", 4), ("incoming", 7)], -- 1  /x
    .dir true true [("2024", 3)],                                          -- 2  /x/torrents
    .dir true true [("s.torrent", 6)],                                     -- 3  /x/torrents/2024
    .dir true true [("old", 5)],                                           -- 4  /x/torrents-new
    .link ⟨false, ["..", "torrents"]⟩,                                     -- 5  /x/torrents-new/old
    .file 100 true 0,                                                      -- 6  s.torrent
    .dir true true [("old", 8)],                                           -- 7  /x/incoming
    .link ⟨false, ["..", "torrents"]⟩ ]                                    -- 8  /x/incoming/old

def lnWorld : World := ⟨lnFS, [], 1000, fun _ => (.undecodable, fun _ => .missing)⟩
def lnNew : PPath := ⟨true, ["x", "torrents-new"]⟩
def lnIncoming : PPath := ⟨true, ["x", "incoming"]⟩
def lnGoal (p : PPath) : PPath := { p with comps := p.comps ++ ["old", "2024", "s.torrent"] }

/-- **A loop guard that compares real paths as text is incomplete.**  `torrents-new/old/2024/s.torrent`
    lies under the search path as the OS resolves it (so `C18_search_complete` demands it, and the
    code as it is yields it), but `realpath("/x/torrents-new").startswith(realpath("/x/torrents-new/old"))`
    — `"/x/torrents"` is a *string* prefix, not an ancestor — makes the guarded search skip the link:
    nothing is found.  The same tree searched from `incoming` is found by both; so is the candidate
    under a component-wise ancestor test. -/
theorem C18_prefix_guard_incomplete :
    Below lnWorld 3 lnNew (lnGoal lnNew) ∧
    resolve lnWorld (lnGoal lnNew) = .ok (.file 6) ∧
    find lnWorld 10 lnNew = [.tfile (lnGoal lnNew) true] ∧
    findG prefixGuard lnWorld 10 lnNew = [] ∧
    findG prefixGuard lnWorld 10 lnIncoming = [.tfile (lnGoal lnIncoming) true] ∧
    findG ancestorGuard lnWorld 10 lnNew = [.tfile (lnGoal lnNew) true] := by
  refine ⟨?_, by decide +kernel⟩
  exact .step (n := "old") (by decide +kernel : listdir _ _ = .ok ["old"]) (.head _)
    (.step (n := "2024") (by decide +kernel : listdir _ _ = .ok ["2024"]) (.head _)
      (.step (n := "s.torrent") (by decide +kernel : listdir _ _ = .ok ["s.torrent"]) (.head _) (.here _)))

/-! ### a link to an ancestor *above* the search path

`/x/tree/a/up -> ..`, `/x/tree/c/s.torrent`; the search path is `/x/tree/a`. -/

def upFS : FS :=
  [ .dir true true [("x", 1)],                        -- 0  /
    .dir true true [("tree", 2)],                     -- 1  /x
    .dir true true [("a", 3), ("c", 5)],              -- 2  /x/tree
    .dir true true [("up", 4)],                       -- 3  /x/tree/a
    .link ⟨false, [".."]⟩,                            -- 4  /x/tree/a/up -> ..
    .dir true true [("s.torrent", 6)],                -- 5  /x/tree/c
    .file 100 true 0 ]                                -- 6  s.torrent

def upWorld : World := ⟨upFS, [], 1000, fun _ => (.undecodable, fun _ => .missing)⟩
def upSearch : PPath := ⟨true, ["x", "tree", "a"]⟩
def upGoal : PPath := ⟨true, ["x", "tree", "a", "up", "c", "s.torrent"]⟩

/-- **Even a correct ancestor test loses candidates**: `up` leads to a real ancestor of the
    directory it lies in (a loop: `up/a/up/a/…`), but that ancestor lies *above* the search path
    and has other children; `a/up/c/s.torrent` is under the search path for the OS, the code as it
    is finds it (among the copies the loop produces), the guarded search finds nothing. -/
theorem C18_ancestor_guard_incomplete :
    Below upWorld 3 upSearch upGoal ∧
    resolve upWorld upGoal = .ok (.file 6) ∧
    Found.tfile upGoal true ∈ find upWorld 100 upSearch ∧
    findG ancestorGuard upWorld 100 upSearch = [] := by
  have hb : Below upWorld 3 upSearch upGoal :=
    .step (n := "up") (by decide +kernel : listdir _ _ = .ok ["up"]) (.head _)
      (.step (n := "c") (by decide +kernel : listdir _ _ = .ok ["a", "c"]) (.tail _ (.head _))
        (.step (n := "s.torrent") (by decide +kernel : listdir _ _ = .ok ["s.torrent"]) (.head _) (.here _)))
  -- the third claim is `C18_search_complete` for the first two
  exact ⟨hb, by decide +kernel,
    C18_search_complete upWorld 100 3 upSearch upGoal hb (by decide) (by decide +kernel)
      (by decide +kernel) 100 (by decide +kernel) (by decide),
    by decide +kernel⟩

/-! ### a real loop

`/t/loop -> .`, `/t/s.torrent`. -/

def loopFS : FS :=
  [ .dir true true [("t", 1)],                           -- 0  /
    .dir true true [("loop", 2), ("s.torrent", 3)],      -- 1  /t
    .link ⟨false, ["."]⟩,                                -- 2  /t/loop -> .
    .file 100 true 0 ]                                   -- 3  s.torrent

def loopWorld : World := ⟨loopFS, [], 1000, fun _ => (.undecodable, fun _ => .missing)⟩
def loopSearch : PPath := ⟨true, ["t"]⟩

/-- the spelling `/t/loop/…/loop` with `k` links -/
def loops (k : Nat) : PPath := ⟨true, "t" :: List.replicate k "loop"⟩

theorem loops_resolve (k : Nat) (hk : k ≤ 40) (rest : List String) :
    resolve loopWorld ⟨true, "t" :: (List.replicate k "loop" ++ rest)⟩ = walk loopFS (40 - k) [1] rest := by
  have h := walk_dot_links loopFS [1] rfl (List.replicate k "loop")
    (fun c hc => by rw [List.eq_of_mem_replicate hc]; rfl) (40 - k) rest
  -- `resolve` of `/t/…` unfolds to the walk from `[1]`: the step over `t` is evaluated
  rwa [List.length_replicate, Nat.add_sub_cancel' hk] at h

theorem loops_push (k : Nat) : push (loops k) "loop" = loops (k + 1) := by
  simp [push, loops, List.replicate_succ']

/-- the search from `/t/loop^k` with `d` links still allowed: the path error at the bottom, then the
    torrent file of every level on the way back up -/
theorem loops_find (d : Nat) : ∀ k f, k + d = 41 → d < f →
    find loopWorld f (loops k) = .pathError (loops 41) ::
      (List.range' k d).reverse.map (fun j => .tfile (push (loops j) "s.torrent") true) := by
  induction d with
  | zero =>
    intro k f hk hf
    obtain rfl : k = 41 := by omega
    obtain ⟨f, rfl⟩ := Nat.exists_eq_add_one.mpr hf
    have hr : resolve loopWorld (loops 41) = .error .loop := by
      have := loops_resolve 40 (by decide) ["loop"]
      rwa [← List.replicate_succ'] at this
    exact find_missing (by simp [isdir, hr]) (by decide +kernel) (by simp [pexists, hr]) f
  | succ d ih =>
    intro k f hk hf
    obtain ⟨f, rfl⟩ := Nat.exists_eq_add_one.mpr (Nat.zero_lt_of_lt hf)
    obtain ⟨f, rfl⟩ := Nat.exists_eq_add_one.mpr (Nat.zero_lt_of_lt (Nat.lt_of_succ_lt_succ hf))
    have hdir : resolve loopWorld (loops k) = .ok (.dir [1]) := by
      have := loops_resolve k (by omega) []
      rwa [List.append_nil, walk_nil] at this
    have hfile : resolve loopWorld (push (loops k) "s.torrent") = .ok (.file 3) := by
      refine (loops_resolve k (by omega) ["s.torrent"]).trans ?_
      rw [walk_eq]; rfl
    have hl : listdir loopWorld (loops k) = .ok ["loop", "s.torrent"] := by simp only [listdir, hdir]; rfl
    rw [find_dir hl, List.range'_succ, List.reverse_cons, List.map_append]
    simp only [List.flatMap_cons, List.flatMap_nil, List.append_nil, loops_push]
    rw [ih (k + 1) (f + 1) (by omega) (by omega),
      find_file (sz := 100) (by simp [isdir, hfile]) (by rw [basename_push]; decide +kernel)
        (by simp only [getsize, hfile]; rfl) (by decide)]
    rfl

/-- **What the code as it is does on a real loop**: it ends.  The OS follows at most 40 links
    per resolution, so `/t/loop^k` is a directory for `k ≤ 40` and does not resolve for `k = 41`:
    the search yields a path error for that spelling first (without a callback that is the
    ReadError `reuse()` raises) and then the torrent file once per level, 41 times. -/
theorem C18_self_loop_search :
    isdir loopWorld (loops 40) = true ∧ pexists loopWorld (loops 41) = false ∧
    find loopWorld 100 loopSearch =
      .pathError (loops 41) :: (List.range 41).reverse.map (fun k => .tfile (push (loops k) "s.torrent") true) := by
  refine ⟨by decide +kernel, by decide +kernel, ?_⟩
  rw [List.range_eq_range']
  exact loops_find 41 0 100 rfl (by decide)

end Torf.C18
