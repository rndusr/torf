/-
  C07 — nothing structurally invalid is exported.  Property theorems and the evaluated facts about
  their witnesses (lemmas live in
  Torf.Lemmas.{ValidateBase,ValidateCommon,ValidateSingle,ValidateFile,ValidateMulti,ValidateTop,
  ValidateFs,UnknownKeys,SoundBridge,SoundIter,SoundFacts,SoundMain,SerOk,ExportSound,Export}).

  * `C07_export_sound`                    validate = ok → dump = ok bs → Sound bs   (every metainfo with `Codec.wf`)
  * `C07_validate_only_metainfo_error`    validate raises MetainfoError and nothing else outside the
                                          class of the open finding D07f (numbers of any size:
                                          D07j is repaired in /repo 3420ff7, regression `example`s)
  * `C07_validate_ok_world`               validate = ok with a content path ⇒ the OS sees every listed
                                          path as a regular file of the listed size (root: file / dir)
  * `C07_stat_answer_total`, `C07_fs_failure_invisible(_exports)`   the file system is an input:
                                          for every answer of `os.stat` (kind+size, any errno,
                                          embedded null) the per-file check gives a size or
                                          MetainfoError, and `validate`/exports cannot tell one
                                          failure from another
  * `C07_only_metainfo_error_{dump,infohash,magnet}_{full,partial,counterexample}`
  * `C07_ready_iff`, `C07_ready_false_iff`, `C07_convert_only_metainfo_error`,
    `C07_{dump,infohash}_error_from_validate`, `C07_magnet_error_from_infohash`

  Metainfo = the item list of `Torrent._metainfo` (a Python dict: `Codec.wf`, pairwise distinct
  keys, is its representation invariant).  Cyclic containers are outside `PyVal`
  (their exports raise MetainfoError since /repo 19d011f; checked on the implementation).
-/
import Torf.Lemmas.ExportSound
import Torf.Lemmas.UnknownKeys
namespace Torf.C07
open Torf Torf.Export Torf.Validate

/-- `is_ready` is true exactly when an explicit validation call would succeed. -/
theorem C07_ready_iff (urlOk : Bytes → Bool) (fs : FsOracle) (md : Items) :
    isReady urlOk fs md = .ok true ↔ validate urlOk fs md = .ok () := by
  unfold isReady
  cases h : validate urlOk fs md with
  | ok u => simp [pure, Except.pure]
  | error e => cases e <;> simp [pure, Except.pure, throw, throwThe, MonadExceptOf.throw]

/-- … and it is false exactly when validation raises MetainfoError.  With `C07_ready_iff`: after any
    other exception of `validate`, `is_ready` gives no Boolean (the model's `isReady` passes the exception on). -/
theorem C07_ready_false_iff (urlOk : Bytes → Bool) (fs : FsOracle) (md : Items) :
    isReady urlOk fs md = .ok false ↔ validate urlOk fs md = .error .metainfo := by
  unfold isReady
  cases h : validate urlOk fs md with
  | ok u => simp [pure, Except.pure]
  | error e => cases e <;> simp [pure, Except.pure, throw, throwThe, MonadExceptOf.throw]

/-- **Nothing structurally invalid is exported.**  For every metainfo (a Python dict, i.e. with
    pairwise distinct keys at every level), every URL oracle and every state of the file system:
    if `validate()` succeeds and `dump()` returns bytes, the strict parse of those bytes is an
    info dictionary with a name, a positive piece length that is a multiple of 16 KiB, a non-empty
    piece string of exactly 20·⌈size / piece length⌉ bytes, exactly one of a single-file length or
    a file list whose entries have non-negative integer lengths and string path components, and
    only well-formed announce URLs (`Sound.Sound`). -/
theorem C07_export_sound (urlOk : Bytes → Bool) (fs : FsOracle) (md : Items) (bs : Bytes)
    (hwf : Codec.wf (.dict md) = true)
    (hv : validate urlOk fs md = .ok ()) (hd : dump urlOk fs md = .ok bs) :
    Sound.Sound urlOk bs = true :=
  export_sound urlOk fs hwf hv hd

/-- non-vacuity of `C07_export_sound`: a valid single-file metainfo -/
def baseInfo : Items :=
  [(.str "name", .str "a"), (.str "piece length", .int 16384),
   (.str "pieces", .bytes (List.replicate 20 120)), (.str "length", .int 5)]

def validWitness : Items := [(.str "info", .dict baseInfo)]

/-- non-vacuity of `C07_export_sound`: a valid multi-file metainfo with trackers -/
def multiWitness : Items :=
  [(.str "announce", .str "http://a/b"),
   (.str "announce-list", .list [.list [.str "http://a/b"], .tuple []]),
   (.str "info", .dict [(.str "name", .bytes [255]), (.str "piece length", .int 32768),
     (.str "pieces", .bytes (List.replicate 40 120)),
     (.str "files", .list [.dict [(.str "length", .int 32768), (.str "path", .list [.str "a"])],
                           .dict [(.str "length", .float (.fin 1 true false)),
                                  (.str "path", .tuple [.bytes [98], .str "c"])]])])]

example : ∃ bs, validate (fun _ => false) noPath validWitness = .ok () ∧
    dump (fun _ => false) noPath validWitness = .ok bs ∧ Sound.Sound (fun _ => false) bs = true :=
  witness_dumps _ validWitness (by decide +kernel) (by decide +kernel) (by decide +kernel)

example : ∃ bs, validate (fun _ => true) noPath multiWitness = .ok () ∧
    dump (fun _ => true) noPath multiWitness = .ok bs ∧ Sound.Sound (fun _ => true) bs = true :=
  witness_dumps _ multiWitness (by decide +kernel) (by decide +kernel) (by decide +kernel)

/-- **`validate()` raises MetainfoError and nothing else** outside the class of the open finding
    D07f (`info['files']` is a mapping; a content path is set and a `path` is not a non-empty
    sequence of `str`) — the explicit decidable predicate `outsideD07f`, which the driver
    evaluates as `hypThm`.  There is no bound on the numbers in the metainfo: since /repo 3420ff7
    the messages are built with `safe_repr`, so integers beyond the int→str limit of 4300 digits
    (former finding D07j) give MetainfoError like every other offending value. -/
theorem C07_validate_only_metainfo_error (urlOk : Bytes → Bool) (fs : FsOracle) (md : Items)
    (ho : outsideD07f fs md = true) :
    validate urlOk fs md = .ok () ∨ validate urlOk fs md = .error .metainfo := by
  cases h : validate urlOk fs md with
  | ok u => exact .inl rfl
  | error e => exact .inr (by rw [validate_err urlOk fs ho h])

/-- non-vacuity: the valid witnesses and a metainfo that fails validation are inside the predicate -/
example : outsideD07f noPath validWitness = true ∧ outsideD07f noPath multiWitness = true ∧
    outsideD07f { hasPath := true, root := .file 5 } validWitness = true ∧
    outsideD07f noPath [(.str "info", .list [.int 1])] = true := by decide +kernel

/-- The conversion half (`convert()` + `bencode.encode`, i.e. `dump(validate=False)`) raises the
    metainfo error and nothing else — for every metainfo: non-str keys at any depth, None, NaN,
    ±inf, integers beyond the int→str limit, unrepresentable datetimes, objects of unknown type. -/
theorem C07_convert_only_metainfo_error (md : Items) (e : ErrKind)
    (h : dumpNoValidate md = .error e) : e = .metainfo :=
  convertSer_err _ e h

/-- `dump()` (hence `write_stream()`/`write()` before they touch the target) raises either what
    `validate()` raised or the metainfo error — for every metainfo. -/
theorem C07_dump_error_from_validate (urlOk : Bytes → Bool) (fs : FsOracle) (md : Items) (e : ErrKind)
    (h : dump urlOk fs md = .error e) : e = .metainfo ∨ validate urlOk fs md = .error e := by
  unfold dump at h
  rcases bind_err h with h1 | ⟨_, _, h2⟩
  · exact .inr h1
  · exact .inl (C07_convert_only_metainfo_error md e h2)

/-- `infohash` raises either what `validate()` raised or the metainfo error — for every metainfo. -/
theorem C07_infohash_error_from_validate (urlOk : Bytes → Bool) (fs : FsOracle) (md : Items)
    (e : ErrKind) (h : infoBytes urlOk fs md = .error e) :
    e = .metainfo ∨ validate urlOk fs md = .error e := by
  unfold infoBytes at h
  rcases bind_err h with h1 | ⟨u, hv, h2⟩
  · exact .inr h1
  · cases u
    obtain ⟨vf, hen⟩ := validate_ok urlOk fs hv
    obtain ⟨info, _, cf, _⟩ := vf.ex
    rw [hen, getE_dict cf.hinfo] at h2
    simp only [bind, Except.bind] at h2
    exact .inl (convertSer_err info e h2)

/-- `magnet()` within the modelled shape of announce-list/url-list raises what `infohash` raises. -/
theorem C07_magnet_error_from_infohash (urlOk : Bytes → Bool) (fs : FsOracle) (md : Items)
    (e : ErrKind) (h : magnet urlOk fs md = .error e) (hm : magnetTailOk urlOk md = true) :
    infoBytes urlOk fs md = .error e := by
  unfold magnet at h
  rcases bind_err h with h1 | ⟨_, _, h2⟩
  · exact h1
  · simp [hm, pure, Except.pure] at h2

/-- D07f witness: `info['files'] = {0: {'length': 5, 'path': ['a']}}` -/
def d07fWitness : Items :=
  [(.str "info", .dict [(.str "name", .str "a"), (.str "piece length", .int 16384),
     (.str "pieces", .bytes (List.replicate 20 120)),
     (.str "files", .dict [(.int 0, .dict [(.str "length", .int 5), (.str "path", .list [.str "a"])])])])]

/-- former D07j witness: `announce = 10**4300` (an `int`, so the rule fails; `repr` of the value
    raises ValueError, `safe_repr` does not) -/
def d07jWitness : Items := validWitness ++ [(.str "announce", .int (10 ^ 4300))]

/-- former D07j witness: the offending value *contains* an integer beyond the int→str limit -/
def d07jNestedWitness : Items :=
  validWitness ++ [(.str "announce", .list [.int 1, .list [.int (10 ^ 4300)]])]

/-- former D07j witness: `length = 10**4305` — every rule passes, the piece count is wrong and
    the message has to print the expected count, an integer of 4301 digits -/
def d07jLengthWitness : Items :=
  [(.str "info", .dict [(.str "name", .str "a"), (.str "piece length", .int 16384),
     (.str "pieces", .bytes (List.replicate 20 120)), (.str "length", .int (10 ^ 4305))])]

/-- former D07j witness for the "Mismatching file sizes" message: `length = piece length =
    16384·10**4300` validates without a content path; with one (a 5-byte file) the size differs -/
def d07jSizeWitness : Items :=
  [(.str "info", .dict [(.str "name", .str "a"), (.str "piece length", .int (16384 * 10 ^ 4300)),
     (.str "pieces", .bytes (List.replicate 20 120)), (.str "length", .int (16384 * 10 ^ 4300))])]

/-- D07i witness: `url-list = ['nope']` (never validated; the `webseeds` getter raises URLError) -/
def d07iWitness : Items := validWitness ++ [(.str "url-list", .list [.str "nope"])]

/-- D07f witness, second half: a content path is set and a `path` has a `bytes` component -/
def d07fPathWitness : Items :=
  [(.str "info", .dict [(.str "name", .str "a"), (.str "piece length", .int 16384),
     (.str "pieces", .bytes (List.replicate 20 120)),
     (.str "files", .list [.dict [(.str "length", .int 5), (.str "path", .list [.bytes [102]])]])])]

/-- a content directory in which file 0 exists, is a regular file and has 5 bytes -/
def dirOracle : FsOracle :=
  { hasPath := true, root := .dir 60, fileStat := fun i => if i = 0 then .file 5 else .err .ENOENT }

/-- a content path that is a 5-byte regular file -/
def fileOracle : FsOracle := { hasPath := true, root := .file 5 }

/-- the exclusion of `C07_validate_only_metainfo_error` is necessary, both halves: on the
    witnesses of D07f `validate` raises something else than MetainfoError -/
theorem C07_validate_only_metainfo_error_counterexample :
    isInternal (validate (fun _ => false) noPath d07fWitness) = true ∧
    isInternal (validate (fun _ => false) dirOracle d07fPathWitness) = true ∧
    outsideD07f noPath d07fWitness = false ∧
    outsideD07f dirOracle d07fPathWitness = false := by
  decide +kernel

/-- regression of finding D07j (repaired in /repo 3420ff7): the former witnesses are inside the
    hypothesis of `C07_validate_only_metainfo_error` and `validate` answers MetainfoError -/
example : outsideD07f noPath d07jWitness = true ∧ outsideD07f noPath d07jNestedWitness = true ∧
    outsideD07f noPath d07jLengthWitness = true ∧
    outsideD07f fileOracle d07jSizeWitness = true := by
  decide +kernel

theorem d07jWitness_metainfo : validate (fun _ => false) noPath d07jWitness = .error .metainfo := by decide +kernel
theorem d07jLengthWitness_metainfo : validate (fun _ => false) noPath d07jLengthWitness = .error .metainfo := by decide +kernel
theorem d07jSizeWitness_metainfo : validate (fun _ => false) fileOracle d07jSizeWitness = .error .metainfo := by decide +kernel

example : validate (fun _ => false) noPath d07jWitness = .error .metainfo := d07jWitness_metainfo
example : validate (fun _ => false) noPath d07jNestedWitness = .error .metainfo := by decide +kernel
example : validate (fun _ => false) noPath d07jLengthWitness = .error .metainfo := d07jLengthWitness_metainfo
example : validate (fun _ => false) noPath d07jSizeWitness = .ok () := by decide +kernel
example : validate (fun _ => false) fileOracle d07jSizeWitness = .error .metainfo := d07jSizeWitness_metainfo
/-- … and so do the exports -/
example : dump (fun _ => false) noPath d07jWitness = .error .metainfo ∧
    infoBytes (fun _ => false) noPath d07jWitness = .error .metainfo ∧
    magnet (fun _ => false) noPath d07jWitness = .error .metainfo ∧
    isReady (fun _ => false) noPath d07jWitness = .ok false ∧
    dump (fun _ => false) noPath d07jLengthWitness = .error .metainfo ∧
    dump (fun _ => false) fileOracle d07jSizeWitness = .error .metainfo :=
  have h := d07jWitness_metainfo
  ⟨dump_of_validate_err _ _ h, infoBytes_of_validate_err _ _ h, magnet_of_validate_err _ _ h,
   (C07_ready_false_iff _ _ _).mpr h, dump_of_validate_err _ _ d07jLengthWitness_metainfo,
   dump_of_validate_err _ _ d07jSizeWitness_metainfo⟩

/-! ### the file system as an input (content path set) -/

/-- **Every answer of the OS.**  `C07_validate_only_metainfo_error` and the `_partial` theorems
    below quantify over `fs : FsOracle`, i.e. over every answer `os.stat` can give for the content
    path and for each listed file: a regular file, a directory, a FIFO/socket/device of any size,
    a failure with any errno (ENOENT, ENOTDIR, ELOOP, ENAMETOOLONG, EACCES, EIO, … or any other
    number) or a path that never reaches the OS (ValueError: embedded null byte).  This theorem
    says what one answer does to the per-file check `exists → isfile → real_size`: the size of a
    regular file, MetainfoError for everything else — `real_size` never raises ReadError or
    ValueError there and never walks a directory. -/
theorem C07_stat_answer_total (st : Stat) :
    (∃ n, st = .file n ∧ statSize st = .ok n) ∨
    (st.isFile = false ∧ statSize st = .error .metainfo) :=
  statSize_cases st

/-- **The reason of a failed `stat` is invisible.**  In a world where `stat` of the content path
    or of listed files fails — with whatever errno, or before the OS is asked — `validate()` does
    exactly what it does in the world where those paths simply do not exist (`FsOracle.blur`
    replaces every failure by ENOENT).  For every metainfo, with no hypothesis at all (also inside
    D07f).  A rewrite of the cross-check that lets some errno through (`pathlib.Path.exists()`
    re-raises everything but ENOENT/ENOTDIR/EBADF/ELOOP; a bare `os.stat`) falsifies this on the
    code, and the correspondence check compares exactly these worlds. -/
theorem C07_fs_failure_invisible (urlOk : Bytes → Bool) (fs : FsOracle) (md : Items) :
    validate urlOk fs.blur md = validate urlOk fs md :=
  UnknownKeys.validate_same urlOk (.blur fs) (.refl md)

/-- … and the exports and the readiness flag inherit it -/
theorem C07_fs_failure_invisible_exports (urlOk : Bytes → Bool) (fs : FsOracle) (md : Items) :
    dump urlOk fs.blur md = dump urlOk fs md ∧
    infoBytes urlOk fs.blur md = infoBytes urlOk fs md ∧
    magnet urlOk fs.blur md = magnet urlOk fs md ∧
    isReady urlOk fs.blur md = isReady urlOk fs md := by
  simp only [dump, infoBytes, magnet, isReady, C07_fs_failure_invisible, and_self]

/-- **What a successful validation with a content path has seen.**  If `validate()` succeeds while
    `Torrent.path` is set, then — for every metainfo and every world — a single-file torrent's
    content path is, for the OS, a regular file of exactly the listed size, and a multi-file
    torrent's content path is a directory in which every listed path (joined as `validate()`
    joins it) is a regular file of exactly the listed size (`FsAgrees`).  So no answer of the OS
    other than "regular file of that size" lets a listed file through: not a directory, a FIFO,
    a failure of any kind. -/
theorem C07_validate_ok_world (urlOk : Bytes → Bool) (fs : FsOracle) (md : Items)
    (h : validate urlOk fs md = .ok ()) (hp : fs.hasPath = true) : FsAgrees fs md :=
  validate_ok_fs urlOk fs h hp

/-- a multi-file torrent created from a directory with one 5-byte file `f` -/
def dirWitness : Items :=
  [(.str "info", .dict [(.str "name", .str "T"), (.str "piece length", .int 16384),
     (.str "pieces", .bytes (List.replicate 20 120)),
     (.str "files", .list [.dict [(.str "length", .int 5), (.str "path", .list [.str "f"])]])])]

/-- the content directory in which `stat` of the listed file answers `st` -/
def worldWith (st : Stat) : FsOracle := { hasPath := true, root := .dir 60, fileStat := fun _ => st }

/-- non-vacuity / regression of the seeded change C07-3b: the listed file is a regular file of the
    right size ⇒ ok; every other answer ⇒ MetainfoError (never the OSError itself), and
    `is_ready` is `False`: name too long, search permission denied, I/O error, an errno nobody
    has heard of, a link loop, a component that is a file, an embedded null byte, a directory, a
    FIFO, a file of another size; a content path that is not a directory any more -/
example : validate (fun _ => false) (worldWith (.file 5)) dirWitness = .ok () := by decide +kernel
example : ∀ st ∈ [Stat.err .ENAMETOOLONG, .err .EACCES, .err .EIO, .err (.other 9999), .err .ELOOP,
      .err .ENOTDIR, .err .ENOENT, .badPath, .dir 5, .other 5, .file 6],
    isMetainfo (validate (fun _ => false) (worldWith st) dirWitness) = true ∧
    isMetainfo (dump (fun _ => false) (worldWith st) dirWitness) = true ∧
    isMetainfo (infoBytes (fun _ => false) (worldWith st) dirWitness) = true ∧
    isMetainfo (magnet (fun _ => false) (worldWith st) dirWitness) = true := by decide +kernel
example : isReady (fun _ => false) (worldWith (.err .ENAMETOOLONG)) dirWitness = .ok false :=
  (C07_ready_false_iff _ _ _).mpr (by decide +kernel)
example : ∀ st ∈ [Stat.err .EACCES, .err .ELOOP, .badPath, .file 5, .other 0],
    isMetainfo (validate (fun _ => false) { worldWith (.file 5) with root := st } dirWitness) = true := by
  decide +kernel
/-- single-file: the content path must be a regular file of the listed size -/
example : isOk (validate (fun _ => false) fileOracle validWitness) = true ∧
    (∀ st ∈ [Stat.err .ENAMETOOLONG, .err .EACCES, .err .EIO, .badPath, .dir 5, .other 5, .file 6],
      isMetainfo (validate (fun _ => false) { hasPath := true, root := st } validWitness) = true) := by
  decide +kernel

/-- Full strength: `dump()` of every metainfo fails with the metainfo error only. -/
def C07_only_metainfo_error_dump_full : Prop :=
  ∀ (urlOk : Bytes → Bool) (fs : FsOracle) (md : Items) (e : ErrKind),
    dump urlOk fs md = .error e → e = .metainfo

/-- Proved part: outside the class of D07f (`outsideD07f`; numbers of any size) `dump()` (hence
    `write()`/`write_stream()`, C17) raises MetainfoError and nothing else. -/
theorem C07_only_metainfo_error_dump_partial (urlOk : Bytes → Bool) (fs : FsOracle) (md : Items)
    (e : ErrKind) (ho : outsideD07f fs md = true) (h : dump urlOk fs md = .error e) :
    e = .metainfo :=
  (C07_dump_error_from_validate urlOk fs md e h).elim id (validate_err urlOk fs ho)

/-- The current code falsifies the full statement (finding D07f): a mapping as `files` makes
    `validate` subscript an `int` ⇒ TypeError. -/
theorem C07_only_metainfo_error_dump_counterexample : ¬ C07_only_metainfo_error_dump_full := by
  intro h
  obtain ⟨e, he, hne⟩ := not_metainfo_of_internal C07_validate_only_metainfo_error_counterexample.1
  exact hne (h _ _ _ _ (dump_of_validate_err _ _ he))

def C07_only_metainfo_error_infohash_full : Prop :=
  ∀ (urlOk : Bytes → Bool) (fs : FsOracle) (md : Items) (e : ErrKind),
    infoBytes urlOk fs md = .error e → e = .metainfo

/-- Proved part: outside the class of D07f (`outsideD07f`; numbers of any size) `infohash` raises
    MetainfoError and nothing else. -/
theorem C07_only_metainfo_error_infohash_partial (urlOk : Bytes → Bool) (fs : FsOracle) (md : Items)
    (e : ErrKind) (ho : outsideD07f fs md = true) (h : infoBytes urlOk fs md = .error e) :
    e = .metainfo :=
  (C07_infohash_error_from_validate urlOk fs md e h).elim id (validate_err urlOk fs ho)

/-- finding D07f falsifies the full statement: a mapping as `files` ⇒ TypeError from the
    validation `infohash` runs first.  (The D07j witness `announce = 10**4300` falsified it too until
    /repo 3420ff7; it is among the regression `example`s above.) -/
theorem C07_only_metainfo_error_infohash_counterexample :
    ¬ C07_only_metainfo_error_infohash_full := by
  intro h
  obtain ⟨e, he, hne⟩ := not_metainfo_of_internal C07_validate_only_metainfo_error_counterexample.1
  exact hne (h _ _ _ _ (infoBytes_of_validate_err _ _ he))

def C07_only_metainfo_error_magnet_full : Prop :=
  ∀ (urlOk : Bytes → Bool) (fs : FsOracle) (md : Items) (e : ErrKind),
    magnet urlOk fs md = .error e → e = .metainfo

/-- Proved part: outside the classes of D07f (`outsideD07f`) and of D07i (`magnetTailOk`: `announce-list`
    is a list of lists of URLs and `url-list` a URL or a list of URLs, so the `trackers` /
    `webseeds` getters accept them) `magnet()` raises MetainfoError and nothing else. -/
theorem C07_only_metainfo_error_magnet_partial (urlOk : Bytes → Bool) (fs : FsOracle) (md : Items)
    (e : ErrKind) (ho : outsideD07f fs md = true) (hm : magnetTailOk urlOk md = true)
    (h : magnet urlOk fs md = .error e) : e = .metainfo :=
  C07_only_metainfo_error_infohash_partial urlOk fs md e ho (C07_magnet_error_from_infohash urlOk fs md e h hm)

/-- on the D07i witness `magnet()` raises something else than MetainfoError although the
    metainfo is outside D07f and `validate()` and `infohash` accept it -/
theorem C07_magnet_d07i_witness : outsideD07f noPath d07iWitness = true ∧
    validate (fun _ => false) noPath d07iWitness = .ok () ∧
    isInternal (magnet (fun _ => false) noPath d07iWitness) = true :=
  by decide +kernel

/-- finding D07i falsifies the full statement: `url-list = ['nope']` ⇒ URLError from the
    `webseeds` getter -/
theorem C07_only_metainfo_error_magnet_counterexample :
    ¬ C07_only_metainfo_error_magnet_full := by
  intro h
  obtain ⟨e, he, hne⟩ := not_metainfo_of_internal C07_magnet_d07i_witness.2.2
  exact hne (h _ _ _ _ he)

/-- non-vacuity of the partial statements: metainfo inside the predicates whose exports fail
    (with MetainfoError), and one whose exports succeed -/
example : outsideD07f noPath [(.str "info", .list [.int 1])] = true ∧
    magnetTailOk (fun _ => false) [(.str "info", .list [.int 1])] = true ∧
    isOk (dump (fun _ => false) noPath [(.str "info", .list [.int 1])]) = false ∧
    isOk (infoBytes (fun _ => false) noPath [(.str "info", .list [.int 1])]) = false ∧
    isOk (magnet (fun _ => false) noPath [(.str "info", .list [.int 1])]) = false ∧
    magnetTailOk (fun _ => true) multiWitness = true := by decide +kernel

end Torf.C07
