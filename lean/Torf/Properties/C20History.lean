/-
  C20 inside a history — the statement of C20 is about the torrent *as it is when the check
  runs*: whatever was looked up, checked, cancelled, copied or edited before, `verify_filesize`
  (and `partial_size`, which supplies the expected sizes) answer as a fresh `Torrent` object with
  the current metainfo would, on the disk as it is now.
  Property theorems only (helper lemmas: Torf.Lemmas.FileSizeHistory).

  Reading guide: `run memoOn objs ops` (Torf.Model.FileSizeHistory) executes the operations
  `ops` (edit through the mapping | setter | copy | partial_size | filetree/verify lookups |
  size/pieces/files | verify_filesize against the file system of that moment) on a store of
  `Torrent` objects and returns what the user sees of each.  `memoOn = false` is the code;
  `memoOn = true` is the variant in which `partial_size` memoises per object and only
  `_set_files` clears the memo.  `runFresh metas ops` evaluates every operation with the
  memo-free functions of Torf.Model.FileSize on the metainfo current at that moment;
  `runSpec` does the same with the *specification* (`spec`, `partialSizeSpec`).
-/
import Torf.Lemmas.FileSizeHistory
namespace Torf.C20
open Torf Torf.FileSize

/-- **`partial_size` is exact, for every path.** On a well-formed layout in which no listed path
    is a directory prefix of another, `partial_size(p)` is the sum of the recorded lengths of all
    entries whose path (torrent name first) starts with `p`, and the unknown-path error when
    there is none — for listed files, directories at every depth, the torrent name, unknown
    paths. -/
theorem C20_partial_size_spec (t : Torrent) (hwf : WF t) (hpf : PrefixFree t) (p : List String) :
    partialSize t p = partialSizeSpec t p :=
  partialSize_eq_spec t hwf hpf p

/-- … in particular the expected size `verify_filesize` uses for a listed file is that file's
    own recorded length (needs `WF` only, not prefix-freeness). -/
theorem C20_partial_size_file (t : Torrent) (hwf : WF t) (f : Listed) (hf : f ∈ t.listed) :
    partialSize t (t.name :: f.path) = .ok f.size :=
  partialSize_listed t hwf f hf

/-- … and the unknown-path error is returned exactly for the paths that are not paths of the
    torrent (`Known`) — for **every** component list, the empty one included. -/
theorem C20_partial_size_unknown (t : Torrent) (hwf : WF t) (hpf : PrefixFree t)
    (p : List String) :
    partialSize t p = .error .path ↔ ¬ Known t p := by
  rw [C20_partial_size_spec t hwf hpf]
  unfold partialSizeSpec Known
  cases hm : t.mode with
  | single n =>
    by_cases hp : p = [t.name] <;> simp [hp]
  | multi files =>
    -- an entry below `p` is an element of the filtered list
    simp only [List.isEmpty_iff, List.filter_eq_nil_iff]
    by_cases he : ∀ f ∈ files, ¬ startsWith (t.name :: f.path) p = true
    · rw [if_pos he]
      exact iff_of_true rfl fun ⟨f, hf, hs⟩ => he f hf hs
    · rw [if_neg he]
      exact iff_of_false nofun fun h => he fun f hf hs => h ⟨f, hf, hs⟩

/-- **The empty path** (`()`, `[]`, `pathlib.Path('.')`): the unknown-path error on a single-file
    torrent and on a torrent that lists nothing; the total size of a multi-file torrent that lists
    something (every entry is below the empty prefix). Needs no hypothesis on the layout. -/
theorem C20_partial_size_empty (t : Torrent) :
    partialSize t [] =
      if t.isSingle || t.listed.isEmpty then .error .path else .ok t.total := by
  unfold partialSize Torrent.isSingle Torrent.total Torrent.listed
  cases hm : t.mode with
  | single n => simp
  | multi files =>
    simp only [Bool.false_or]
    -- every entry lies below the empty path
    have hall : files.filter (fun g => startsWith (t.name :: g.path.filter (· ≠ "")) []) = files :=
      List.filter_eq_self.mpr fun _ _ => rfl
    rw [partialSizeLoop_noexact t.name [] files [] (fun _ _ => nofun), hall]
    cases files <;> simp

/-- **History independence.** For every store of objects (whatever their memos hold) and every
    history, what each operation shows — every `verify_filesize` result, raised error and
    callback trace, every `partial_size` / `filetree` / `size` answer — is what a *fresh* object
    with the metainfo current at that moment shows on the disk of that moment. -/
theorem C20_history_independent (objs : List Obj) (ops : List Op) :
    run false objs ops = runFresh (objs.map (·.info)) ops :=
  run_spec false objs ops (fun _ _ => nofun) nofun

/-- **Every check of a history meets the specification of that moment.** If the metainfo an
    operation finds is a well-formed layout (prefix-free for lookups of arbitrary paths), then
    every observation of the history is the one the specification prescribes for the current
    metainfo and the current disk: `spec` (Torf.Spec.FileSize — exactness, one error per
    offending file, callback protocol: theorems `C20_iff` … `C20_no_internal` apply to it
    verbatim) for checks, `partialSizeSpec` for lookups. -/
theorem C20_history_spec (objs : List Obj) (ops : List Op)
    (h : HistHyp (objs.map (·.info)) ops) :
    run false objs ops = runSpec (objs.map (·.info)) ops := by
  rw [C20_history_independent]
  generalize objs.map (·.info) = metas at h
  induction ops generalizing metas with
  | nil => rfl
  | cons op ops ih =>
    obtain ⟨h1, h2⟩ := h
    simp only [runFresh, runSpec, ih _ h2]
    congr 1
    cases hm : metas[op.target]? with
    | none => rfl
    | some t => exact freshObs_eq_specObs t op (h1 t hm)

/-- **The check that closes a history** (the statement of C20 at the moment of the call): after
    any history `ops`, on any disk `fs`, with any callback, the result and the callback trace of
    `verify_filesize` on object `o` are those of the specification for the metainfo `o` has
    *now* — in particular it returns `True` iff every file listed *now* is there with exactly
    the size recorded *now* (`C20_iff`), and agrees with full verification (`C20_verify_implies`). -/
theorem C20_history_check_now (objs : List Obj) (ops : List Op) (o : Nat) (fs : FS) (cb : Callback)
    (t : Torrent) (ht : (metasAfter (objs.map (·.info)) ops)[o]? = some t) (hwf : WF t) :
    (run false objs (ops ++ [.check o fs cb false])).getLast? =
      some (.check (.res (spec t fs cb).1) (spec t fs cb).2) := by
  rw [C20_history_independent, runFresh_append]
  simp only [Op.target, ht, List.getLast?_append, List.getLast?_singleton, Option.some_or,
    freshObs, verifyFilesize_eq_spec t hwf fs cb]
  cases cb <;> simp [outcome]

/-- history independence stated for the variant in which `partial_size` memoises its results
    per object and only the setters (`_set_files`) clear the memo -/
def C20_history_independent_memo_full : Prop :=
  ∀ (objs : List Obj) (ops : List Op), run true objs ops = runFresh (objs.map (·.info)) ops

/-- two files; the second is recorded with 7 bytes … -/
def exOld : Torrent := ⟨"T", .multi [⟨["a"], 5⟩, ⟨["b"], 7⟩], 16384, 20⟩
/-- … and, after an edit of `metainfo['info']['files'][1]['length']`, with 8 bytes -/
def exNew : Torrent := ⟨"T", .multi [⟨["a"], 5⟩, ⟨["b"], 8⟩], 16384, 20⟩
/-- the disk still holds the old content: `b` has 7 bytes -/
def exDiskOld : FS := fun p => if p = ["a"] then .file 5 else if p = ["b"] then .file 7 else .missing

/-- a size lookup (`filetree`, `verify()`, an earlier `verify_filesize()`), then an in-place edit
    of a recorded length, then the check -/
def exHistory : List Op := [.lookupAll 0, .edit 0 exNew, .check 0 exDiskOld none false]

def lastOutcome : List Obs → Option Outcome
  | [_, _, .check out _] => some out
  | _ => none

/-- **Counterexample for the memoising variant**: after one lookup and an in-place edit of a
    length, the variant's check returns `True` on content whose file no longer has the recorded
    size, where the code (and a fresh object) raise the size error. -/
theorem C20_history_memo_counterexample : ¬ C20_history_independent_memo_full := by
  intro h
  have h1 := congrArg lastOutcome (h [⟨exOld, []⟩] exHistory)
  revert h1
  decide +kernel

/-- **Why nothing showed before.** The memoising variant *is* history independent on every
    history without an edit through the mapping (lookups, checks, copies, and changes through
    the `files` / `filepaths` / `path` setters, which clear the memo), started from objects whose
    memos are consistent with their metainfo (`MemoOk`: every entry is what `partial_size`
    computes now; e.g. fresh objects; `Op.isEdit` = an edit through the mapping) — which is all a
    test that builds torrents through the setters ever does. -/
theorem C20_history_memo_setters_only (objs : List Obj) (ops : List Op)
    (hok : ∀ ob ∈ objs, MemoOk ob.info ob.memo) (hne : ∀ op ∈ ops, op.isEdit = false) :
    run true objs ops = runFresh (objs.map (·.info)) ops :=
  run_spec true objs ops (fun ob h _ => hok ob h) (fun _ => hne)

/-! ### Non-vacuity -/

example : WF exOld ∧ PrefixFree exOld ∧ WF exNew ∧ PrefixFree exNew := by decide +kernel
/-- the code on the counterexample history: the size error of `b` (7 on disk, 8 recorded) -/
example : lastOutcome (run false [⟨exOld, []⟩] exHistory) = some (.res (.raised (.size 7 8))) := by
  decide +kernel
/-- the variant on the same history: `True` -/
example : lastOutcome (run true [⟨exOld, []⟩] exHistory) = some (.res (.ok true)) := by decide +kernel
example : HistHyp [exOld] exHistory := by
  simp only [HistHyp, metaStep, Op.target, exHistory]
  decide +kernel
/-- `partial_size` of a directory, the torrent name, a file, an unknown path -/
def exTree : Torrent := ⟨"T", .multi [⟨["d", "x"], 5⟩, ⟨["a"], 1⟩, ⟨["d", "e", "y"], 7⟩], 16384, 20⟩
example : WF exTree ∧ PrefixFree exTree := by decide +kernel
example : (partialSize exTree ["T", "d"]).toOption = some 12 := by decide +kernel
example : (partialSize exTree ["T"]).toOption = some 13 := by decide +kernel
example : (partialSize exTree ["T", "d", "e", "y"]).toOption = some 7 := by decide +kernel
example : (partialSize exTree ["T", "d", "y"]).toOption = none := by decide +kernel
example : (partialSize exTree ["d"]).toOption = none := by decide +kernel
/-- the empty path: total of a multi-file torrent, unknown for a single-file one -/
example : (partialSize exTree []).toOption = some 13 := by decide +kernel
example : (partialSize ⟨"s", .single 5, 16384, 20⟩ []).toOption = none := by decide +kernel
example : ¬ Known ⟨"s", .single 5, 16384, 20⟩ [] := by decide +kernel
example : Known exTree [] ∧ Known exTree ["T", "d"] ∧ ¬ Known exTree ["T", "d", "y"] := by decide +kernel
/-- a callback that raises at the second call: two calls are made, then its exception leaves -/
example : (match run false [⟨exNew, []⟩] [.check 0 exDiskOld (some fun c => c.done == 2) true] with
    | [.check out calls] => some (out, calls.length)
    | _ => none) = some (.callbackRaised, 2) := by decide +kernel
/-- the hypotheses of `C20_history_memo_setters_only`: fresh objects, a history without edits
    through the mapping (lookup, change through the `files` setter, check) -/
example : ∀ ob ∈ [({ info := exOld } : Obj)], MemoOk ob.info ob.memo := by
  intro ob hob
  rw [List.mem_singleton.mp hob]
  exact MemoInv.nil true _ rfl
example : ∀ op ∈ [Op.lookupAll 0, .setter 0 exNew, .check 0 exDiskOld none false], op.isEdit = false := by
  decide +kernel

end Torf.C20
