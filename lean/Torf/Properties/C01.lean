/-
  C01 — piece hashes are the SHA-1 of the concatenated content stream.
-/
import Torf.Lemmas.Stream
import Torf.Lemmas.Sort
import Torf.Model.Generate
namespace Torf.C01
open Torf Torf.Stream Torf.Generate

/-- Sequential chunking with carry-over across files yields exactly the consecutive
    piece-length chunks of the concatenated files — every layout, every piece length. -/
theorem C01_iter_eq_chunks (L : Nat) (hL : 0 < L) (files : List (List α)) :
    iterPieces L files = chunks L files.flatten :=
  iterPieces_eq_chunks L hL files

/-- … and there are exactly ceil(total size / piece length) of them. -/
theorem C01_count (L : Nat) (hL : 0 < L) (files : List (List α)) :
    (iterPieces L files).length = nPieces L (files.map List.length).sum := by
  rw [iterPieces_eq_chunks L hL, length_chunks L hL, List.length_flatten]

/-- Only the last chunk may be shorter than the piece length. -/
theorem C01_only_last_short (L : Nat) (hL : 0 < L) (files : List (List α)) (i : Nat)
    (hi : i + 1 < (iterPieces L files).length) :
    ∃ p, (iterPieces L files)[i]? = some p ∧ p.length = L := by
  rw [iterPieces_eq_chunks L hL] at hi ⊢
  -- chunk `i + 1` exists, so chunk `i` ends before the end of the stream
  have h1 : (i + 1) * L < files.flatten.length := by
    have := getElem?_chunks L hL files.flatten (i + 1)
    rw [List.getElem?_eq_getElem hi] at this
    split at this
    · assumption
    · cases this
  rw [Nat.add_mul, Nat.one_mul] at h1
  rw [getElem?_chunks L hL]
  refine ⟨_, if_pos (by omega), ?_⟩
  rw [List.length_take, List.length_drop]
  omega

/-- The collector re-orders digests by piece index: whatever order the hashers finish in, the
    stored sequence is the sequence in reading order. -/
theorem C01_collect_perm (hs : List δ) (arrival : List (Nat × δ))
    (h : arrival.Perm (hs.zipIdx.map (fun p => (p.2, p.1)))) :
    collectorHashes arrival = hs := by
  unfold collectorHashes
  -- the indexes of the enumeration are `0, 1, …`: ascending, and no two members share one
  have hidx : (hs.zipIdx.map fun p => (p.2, p.1)).map Prod.fst = List.range' 0 hs.length := by
    rw [List.map_map]; exact List.zipIdx_map_snd 0 hs
  have hlt := List.pairwise_map.1 (hidx ▸ List.pairwise_lt_range')
  have hnd : ((hs.zipIdx.map fun p => (p.2, p.1)).map Prod.fst).Nodup := hidx ▸ List.nodup_range'
  -- so sorting the arrivals by index gives the enumeration
  rw [mergeSort_key_eq_of_perm (key := Prod.fst) h (hlt.imp Nat.le_of_lt)
      fun _ ha _ hb => eq_of_nodup_map hnd ha hb, List.map_map]
  exact List.zipIdx_map_fst 0 hs

theorem torrentPieces_eq (L : Nat) (hL : 0 < L) (files : List (List α))
    (hne : 0 < (files.map List.length).sum) :
    torrentPieces (files.map List.length).sum L = (iterPieces L files).length := by
  rw [C01_count L hL]
  simp [torrentPieces, hne, hL, nPieces]

/-- the count check at the end of `Torrent.generate` passes for the digests of the chunks -/
theorem finish_chunks (H : List α → δ) (L : Nat) (hL : 0 < L) (files : List (List α))
    (hne : 0 < (files.map List.length).sum) :
    finish (torrentPieces (files.map List.length).sum L) ((chunks L files.flatten).map H) =
      .stored ((chunks L files.flatten).map H) := by
  rw [finish, torrentPieces_eq L hL files hne, iterPieces_eq_chunks L hL, List.length_map, if_pos rfl]

/-- End to end: for every layout, piece length and order in which the hashers deliver their
    results, a hashing run stores exactly `map H (chunks L stream)`, i.e. the digests of the
    consecutive chunks in stream order, and reports success. -/
theorem C01_generate_spec (H : List α → δ) (L : Nat) (hL : 0 < L) (files : List (List α))
    (hne : 0 < (files.map List.length).sum)
    (arrival : List (Nat × List α)) (h : arrival.Perm (readerTasks L files)) :
    run H L files arrival = .stored ((chunks L files.flatten).map H) := by
  unfold run
  have hperm : (arrival.map (hashTask H)).Perm
      ((((chunks L files.flatten).map H).zipIdx).map (fun p => (p.2, p.1))) := by
    refine (h.map (hashTask H)).trans (List.Perm.of_eq ?_)
    unfold readerTasks
    rw [iterPieces_eq_chunks L hL]
    simp only [List.map_map, List.zipIdx_map]
    rfl
  rw [C01_collect_perm _ _ hperm, finish_chunks H L hL files hne]

/-! Non-vacuity: a concrete layout (file boundary inside a piece, an empty file, a short tail). -/
example : iterPieces 3 [[1, 2], [3, 4, 5, 6], [], [7, 8]] = [[1, 2, 3], [4, 5, 6], [7, 8]] := by
  decide +kernel
example : seq (fun p => p.sum) 3 [[1, 2], [3, 4, 5, 6], [], [7, 8]]
    = .stored ((chunks 3 [[1, 2], [3, 4, 5, 6], [], [7, 8]].flatten).map (fun p => p.sum)) :=
  C01_generate_spec _ 3 (by decide) _ (by decide) _ (List.Perm.refl _)

end Torf.C01
