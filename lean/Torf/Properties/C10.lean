/-
  C10 — `TorrentFileStream.iter_pieces` on a damaged disk (missing / mis-sized files):
  one item per piece; an item carries data iff its piece contains no byte of a bad file (and then
  exactly the right bytes); data items carry no exception; every bad file is reported exactly once.
  Property theorems only (helper lemmas live in Torf.Lemmas.Missing*).

  The model is `Torf.Missing.iterItems` (Model/Missing.lean: the main loop of `iter_pieces` with
  `_MissingPieces`, skip-bytes, by-catch files, Python's remove-while-iterating); the specification
  is in Spec/Missing.lean.  All theorems hold for every piece length `L > 0`, every layout `sizes`
  (good zero-length files included) and every disk; the only hypothesis is `NoBadEmpty` (no *bad*
  zero-length entry: on a piece boundary such an entry is finding D10a, off a boundary it blanks a
  neighbouring piece, which `MeetsSpecLenient` allows and `MeetsSpec` does not).
-/
import Torf.Lemmas.Missing
namespace Torf.C10
open Torf Torf.Missing

/-- all files good: the items are exactly the chunks of the concatenated contents, no exceptions -/
theorem C10_all_good (L : Nat) (hL : 0 < L) (sizes : List Nat) (disk : List (Option (List α)))
    (_hlen : disk.length = sizes.length)
    (hgood : ∀ k < sizes.length, fileError sizes disk k = none) :
    iterItems L sizes disk =
      some ((chunks L (expStream sizes disk)).map (fun c => dataItem (c.filterMap id))) := by
  rw [iterItems_of_good L hL sizes disk hgood, expStream_of_good sizes disk hgood, chunks_map L hL,
    List.map_map]
  refine congrArg some (List.map_congr_left fun c _ => ?_)
  simp [List.filterMap_map]

/-- MAIN: every layout, piece length and set of bad files (no bad zero-length entry):
    one item per piece, data iff the piece contains no byte of a bad file (and then exactly the
    right bytes), data items carry no exception, every bad file is reported exactly once. -/
theorem C10_items (L : Nat) (hL : 0 < L) (sizes : List Nat) (disk : List (Option (List α)))
    (_hlen : disk.length = sizes.length) (hyp : NoBadEmpty sizes disk = true) :
    ∃ items, iterItems L sizes disk = some items ∧
      items.map (·.data) = specData L sizes disk ∧
      (∀ it ∈ items, it.data.isSome → it.excs = []) ∧
      (reported items).Perm (badFiles sizes disk) := by
  obtain ⟨items, hit, hdata, hclean, hrep⟩ := iterItems_spec L hL sizes disk hyp
  exact ⟨items, hit, hdata, fun it h1 h2 => (hclean it h1 h2).1, by rw [hrep]⟩

/-- stronger than the `Perm` of `C10_items`: the exceptions come out in file order -/
theorem C10_reported_in_order (L : Nat) (hL : 0 < L) (sizes : List Nat)
    (disk : List (Option (List α))) (_hlen : disk.length = sizes.length)
    (hyp : NoBadEmpty sizes disk = true) (items : List (Item α))
    (h : iterItems L sizes disk = some items) :
    reported items = badFiles sizes disk := by
  obtain ⟨items', hit, _, _, hrep⟩ := iterItems_spec L hL sizes disk hyp
  rw [h] at hit
  cases hit
  exact hrep

/-- one item per piece -/
theorem C10_count (L : Nat) (hL : 0 < L) (sizes : List Nat) (disk : List (Option (List α)))
    (_hlen : disk.length = sizes.length) (hyp : NoBadEmpty sizes disk = true)
    (items : List (Item α)) (h : iterItems L sizes disk = some items) :
    items.length = nPieces L sizes.sum := by
  obtain ⟨items', hit, hdata, _, _⟩ := iterItems_spec L hL sizes disk hyp
  rw [h] at hit
  cases hit
  have := congrArg List.length hdata
  rwa [List.length_map, length_specData L hL] at this

/-- no undocumented exception (IndexError / ValueError from `_MissingPieces`) escapes -/
theorem C10_no_internal_error (L : Nat) (hL : 0 < L) (sizes : List Nat)
    (disk : List (Option (List α))) (_hlen : disk.length = sizes.length)
    (hyp : NoBadEmpty sizes disk = true) :
    iterItems L sizes disk ≠ none := by
  obtain ⟨items, hit, _⟩ := iterItems_spec L hL sizes disk hyp
  rw [hit]; simp

/-! ### non-vacuity: two bad files inside one piece, a by-catch file, a skip into the next file,
    a good zero-length file -/

/-- files 1 (missing) and 2 (wrong size) are bad; both have bytes in piece 1; file 2 is a
    by-catch file of file 1; file 3 is entered at offset 2 (`skip_bytes`); file 4 is empty -/
def exDisk : List (Option (List Nat)) :=
  [some [1, 2, 3], none, some [], some [4, 5, 6, 7, 8, 9], some [], some [10, 11, 12]]

def exSizes : List Nat := [3, 2, 1, 6, 0, 3]

example : exDisk.length = exSizes.length := by decide +kernel
example : NoBadEmpty exSizes exDisk = true := by decide +kernel
example : badFiles exSizes exDisk = [(1, .read), (2, .size)] := by decide +kernel
example : specData 4 exSizes exDisk = [none, none, some [6, 7, 8, 9], some [10, 11, 12]] := by
  decide +kernel
example : (iterItems 4 exSizes exDisk).map (List.map fun it => (it.data, it.file, it.excs)) =
    some [(none, 1, [(1, .read)]), (none, 1, [(2, .size)]),
          (some [6, 7, 8, 9], 0, []), (some [10, 11, 12], 0, [])] := by decide +kernel

end Torf.C10
