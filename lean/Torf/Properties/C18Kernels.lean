/-
  C18 — bridge theorems to the kernels translated from the source (regenerated on every run):
  the position of the sampled middle piece inside a file's piece list is `int(len(all) / 2)`, and
  the piece-size window of `is_file_match`.
-/
import Torf.Generated.Kernels
import Torf.Model.Reuse
namespace Torf.C18
open Torf.Generated

theorem C18_kernel_middle (pl pos size : Nat) :
    Torf.Reuse.fileSamples pl pos size =
      (let r := Torf.Reuse.pieceRange pl pos size
       let all := List.range' r.1 r.2
       all.take 1 ++ (all.drop (reuseMiddle r.2).toNat).take 1 ++ all.drop (r.2 - 1)) := by
  unfold Torf.Reuse.fileSamples reuseMiddle
  simp only
  have h : ((((Torf.Reuse.pieceRange pl pos size).2 : Nat) : Int) / 2).toNat
      = (Torf.Reuse.pieceRange pl pos size).2 / 2 := by omega
  rw [h]

/-- `is_file_match`: with the same name and the same (path, size) identity, the candidate is accepted exactly when
    the code's window test on its piece size holds -/
theorem C18_kernel_piece_size_window (t : Torf.Reuse.Tor) (c : Torf.Reuse.Cand) (tid cid : List (String × Nat))
    (hn : t.name = c.name)
    (ht : Torf.Reuse.filepathsAndSizes t.name t.single t.files = .ok tid)
    (hc : Torf.Reuse.filepathsAndSizes c.name c.single c.files c.bytesPath = .ok cid)
    (hp : tid.isPerm cid = true) :
    Torf.Reuse.isFileMatch t c = .ok (reusePieceSizeOk t.plMin c.pieceLength t.plMax) := by
  unfold Torf.Reuse.isFileMatch reusePieceSizeOk
  simp only [hn, ne_eq, not_true_eq_false, if_false]
  rw [hn] at ht
  simp only [ht, hc, hp, if_true]
  congr 1
  by_cases h1 : t.plMin ≤ c.pieceLength <;> by_cases h2 : c.pieceLength ≤ t.plMax <;> simp [h1, h2] <;> omega

end Torf.C18
