/-
  C15 over histories — one `Torrent` object whose settings are changed step by step.

  The created torrent is a function of the tree at `path` and the *current* settings, whatever
  the object went through before: `path` assigned before or after the patterns, patterns changed
  any number of times (each change = `_filters_changed` firing with the lists as they are then),
  states in which every file is excluded, empty directories, `path = None` in between, a single
  file replaced by a directory and back.

  * `C15_history_independent` … after every history, if `_path` is set (and was not re-attached
    by the `files` setter, see below), `info` holds exactly what reading that path with the final
    settings gives — i.e. what a fresh `Torrent(path, <final settings>)` holds
    (`C15_history_eq_fresh`), and under `hypB` the specified torrent (`C15_history_spec`).
  * `C15_history_info_full` … the same for the key `info['name']` in the state without files:
    false (finding D15e: the name of an earlier state stays); `C15_history_info_partial`: with
    files the name is the fresh one.
  * After `path = None` a change of the patterns runs `files = files`, whose `_set_files` sets
    `_path` again if something called like the torrent exists below the cwd (`reattached`); the
    theorems say nothing about that state (it is not "created from a directory or file"); the
    next change of the patterns reads that path and is covered again.
-/
import Torf.Lemmas.CreateHistory
import Torf.Properties.C15
namespace Torf.C15
open Torf Torf.Paths Torf.Create

/-- For every world that lists real names and every sequence of `path` assignments and callback
    firings, from any starting state that satisfies the invariant (e.g. an object made by the
    constructor with other settings, `Torrent(path, <initial patterns>)`, and then changed): if
    `_path` is set at the end (by reading a path), `info` is what reading that path with the final
    settings gives. -/
theorem C15_history_independent_from (o : Oracles) (w : World) (hw : w.Clean) (s0 : HSt)
    (h0 : HInv o w s0) (ops : List HOp) (B : PPath)
    (hre : (run o w s0 ops).reattached = false) (hB : (run o w s0 ops).path = some B) :
    scan o (run o w s0 ops).st w B = .ok (run o w s0 ops).created :=
  HInv_run o w hw s0 ops h0 hre B hB

/-- … in particular from a new object.  No hypothesis on spellings, the cwd, the patterns or the
    shape of the trees. -/
theorem C15_history_independent (o : Oracles) (w : World) (hw : w.Clean) (ops : List HOp)
    (B : PPath)
    (hre : (run o w HSt.init ops).reattached = false)
    (hB : (run o w HSt.init ops).path = some B) :
    scan o (run o w HSt.init ops).st w B = .ok (run o w HSt.init ops).created :=
  C15_history_independent_from o w hw HSt.init (HInv_init o w) ops B hre hB

/-- … which is the content (with the name, when a file is kept) of the fresh object
    `Torrent(path = B, <the final settings>)`: constructor = four list assignments, then the path.
    The key `info['name']` of the state without files is not covered (D15e). -/
theorem C15_history_eq_fresh (o : Oracles) (w : World) (hw : w.Clean) (ops : List HOp)
    (B : PPath)
    (hre : (run o w HSt.init ops).reattached = false)
    (hB : (run o w HSt.init ops).path = some B) :
    (run o w HSt.init ops).created = (fresh o w (run o w HSt.init ops).st B).created := by
  have h := C15_history_independent o w hw ops B hre hB
  rw [← HNorm_run o w HSt.init ops nofun B hB] at h
  exact (fresh_created o w _ B _ h).1.symm

/-- If `_path` leads to tree `t` (`hypB`: well-formedness only) the history ends in the specified
    torrent for the final settings. -/
theorem C15_history_spec (o : Oracles) (w : World) (hw : w.Clean) (ops : List HOp)
    (B : PPath) (order : List FileEnt) (t : Tree)
    (hre : (run o w HSt.init ops).reattached = false)
    (hB : (run o w HSt.init ops).path = some B)
    (hl : w.listing B = some order)
    (hyp : Spec.hypB ⟨w.cwd, B, order, w.pathExists⟩ t = true) :
    (run o w HSt.init ops).created = Spec.created o (run o w HSt.init ops).st t := by
  have h := C15_history_independent o w hw ops B hre hB
  unfold scan at h
  rw [hl] at h
  simp only [C15_created_env o _ _ t hyp] at h
  exact (Except.ok.inj h).symm

/-- With files in the torrent, `info['name']` is the name stored with them. -/
theorem C15_history_info_partial (o : Oracles) (w : World) (ops : List HOp) (n : String)
    (h : nameOf (run o w HSt.init ops).created = some n) :
    (run o w HSt.init ops).infoName = some n :=
  HName_run o w HSt.init ops nofun n h

/-- the whole `info` dictionary as far as this layer writes it — including the key `name` when
    no file is kept — would be that of the fresh object.  FALSE (finding D15e). -/
def C15_history_info_full : Prop :=
  ∀ (o : Oracles) (w : World), w.Clean → ∀ (ops : List HOp) (B : PPath),
    (run o w HSt.init ops).reattached = false → (run o w HSt.init ops).path = some B →
    (run o w HSt.init ops).infoName = (fresh o w (run o w HSt.init ops).st B).infoName

def witWorld : World :=
  { cwd := ["r", "P"]
    pathExists := fsExists (witFSm ++ [(["r", "P", "f.bin"], some 7), (["r", "P", "E"], none)]) ["r", "P"]
    listing := fun B =>
      if B == ⟨false, ["T"]⟩ then some witTm.files
      else if B == ⟨false, ["f.bin"]⟩ then some [⟨[], 7⟩]
      else if B == ⟨false, ["E"]⟩ then some []
      else none }

theorem witWorld_clean : witWorld.Clean := by
  intro B order h
  unfold witWorld at h
  simp only at h
  split at h
  · cases h; decide +kernel
  · split at h
    · cases h; decide +kernel
    · split at h
      · cases h; intro f hf; cases hf
      · cases h

def witAll : Settings := ⟨["T/a.txt", "T/sub/b.txt", "T/sub/c.log", "f.bin"], [], [], []⟩
def witNone : Settings := ⟨[], [], [], []⟩

/-- D15e: `Torrent('T')`, then every file excluded: `info` keeps `'name': 'T'`; the fresh
    `Torrent('T', exclude_globs=[…])` has no `name`. -/
theorem C15_history_info_counterexample : ¬ C15_history_info_full := by
  intro h
  -- the two premises and the conclusion in one evaluation of the history
  exact absurd (h witO witWorld witWorld_clean [.path (some ⟨false, ["T"]⟩), .fire witAll]
    ⟨false, ["T"]⟩) (by decide +kernel)

/-- non-vacuity: a history through "everything excluded", `path = None`, an empty directory and
    a single file ends, with `_path` set by reading, in what the final settings give -/
example :
    let ops : List HOp := [.fire witAll, .path (some ⟨false, [".", "T"]⟩), .fire witStm,
      .fire witAll, .path none, .fire witNone, .path (some ⟨false, ["E"]⟩),
      .path (some ⟨false, ["f.bin"]⟩), .fire witAll, .fire witNone, .path (some ⟨false, ["T", ""]⟩),
      .fire witAll, .fire witStm]
    let s := run witO witWorld HSt.init ops
    s.reattached = false ∧ s.path = some ⟨false, ["T"]⟩ ∧
    s.created = .multi "T" [(["a.txt"], 3), (["sub", "c.log"], 2)] ∧
    s.created = Spec.created witO witStm witTm := by decide +kernel

/-- the intermediate states of such a history: all excluded (stale name), single file, and the
    `ReadError` of a path that does not exist, which changes nothing -/
example :
    (run witO witWorld HSt.init [.path (some ⟨false, ["T"]⟩), .fire witAll]).created = .empty ∧
    (run witO witWorld HSt.init [.path (some ⟨false, ["T"]⟩), .fire witAll]).infoName = some "T" ∧
    (fresh witO witWorld witAll ⟨false, ["T"]⟩).infoName = none ∧
    (run witO witWorld HSt.init [.path (some ⟨false, ["T"]⟩), .fire witAll, .fire witNone]).created
      = (fresh witO witWorld witNone ⟨false, ["T"]⟩).created ∧
    (run witO witWorld HSt.init [.path (some ⟨false, ["f.bin"]⟩)]).created = .single "f.bin" 7 ∧
    (step witO witWorld (run witO witWorld HSt.init [.path (some ⟨false, ["f.bin"]⟩)])
      (.path (some ⟨false, ["nowhere"]⟩))).2 = some .read := by decide +kernel

/-- after `path = None` a change of the patterns re-filters the stored list and, because a `T`
    exists below the cwd, sets `_path` again (`reattached`); files excluded in that state are
    gone until the next change of the patterns reads the path -/
example :
    let s := run witO witWorld HSt.init
      [.path (some ⟨false, ["T"]⟩), .path none, .fire ⟨["T/a.txt"], [], [], []⟩]
    s.reattached = true ∧ s.path = some ⟨false, ["T"]⟩ ∧
    (step witO witWorld s (.fire witNone)).1.reattached = false ∧
    (step witO witWorld s (.fire witNone)).1.created
      = (fresh witO witWorld witNone ⟨false, ["T"]⟩).created := by decide +kernel

end Torf.C15
