/-
  C04 — cancellation and failures shut the pipeline down cleanly.  Property theorems, and
  `returned_sound`, the one lemma two of them share.

  The transition system of `Model/Pipeline.lean` includes the fault plan of C04: the user callback
  is an arbitrary function `cfg.cb` of (piece index, pieces_done) that may pass, cancel or raise;
  the reader's generator may raise at any item (`cfg.readFault`); thread starts may be refused
  (`cfg.refuse`).  The theorems of C03 that do not assume `noFaults`/a passive callback are
  C04's theorems about termination and threads; they are restated here under C04's names so the
  obligation census of C04 counts them.  The others:

  1. `C04_read_error`, `C04_read_error_only_fault`, `C04_read_error_only_if`: a read failure
     surfaces as the read error, and the read error is raised only then.
  2. `C04_callback_exc(_last)`, `C04_callback_exc_kept(_nofault)`: the callback's exception reaches
     the caller unchanged, unless a read error replaces it.
  3. `C04_cancel_bound_read(_exact)`, `C04_read_fault_no_more`: after the stop flag is set the reader
     pushes at most the one piece whose `put` it is blocked in; after a read fault none.
  4. `C04_cancel_bound_hash`: at most `cap + N + 1` pieces are hashed after the stop request.
  5. `C04_no_partial`, `C04_finish_sound`, `C04_uncancelled_complete`: a returned result holds
     distinct hashable pieces only; it is stored iff it is complete; it is complete unless cancelled.
  6. `C04_reader_refused`, `C04_other_hasher_refused_ok`; `C04_vital_refused_counterexample`,
     `C04_janitor_refused_counterexample` (finding D04a: the full statement
     `C04_threads_done_full` is false).
  3–5 (`C04_uncancelled_complete` apart: no refused starts) and the ⇐ halves of 1, 2 hold for EVERY
  configuration (refused starts included).

  Proof: main's step relation for every configuration `MainStepG`/`StepG` (Lemmas/PipelineStep)
  and further inductive invariants next to C03's:
  * `InvG` (PipelineC04Inv; every cfg): `hs.length = N`; `pq.length ≤ cap`; `rexc` ⇒ the reader
    is `closing`/`done` and `readFault = some r`, `r ≤ #items`; `finished (returned c)` ⇒
    `c = collected`; pending `.cb d` ⇒ `d = #seen` and the callback raised for the last piece of
    `seen` at pieces_done = d; pending `.read` ⇒ `rexc`.  `stop`, `rexc` are monotone.
  * PipelineC04Cancel (every cfg): every non-reader step preserves `#inFlight`; every step keeps
    `#inFlight + pushCredit` (1 iff the reader is `putting`) unless the reader takes up a further
    piece, which needs `stop = false` and a reader that is not `closing`/`done`; a reader that is
    `closing`/`done` stays so.
  * `InvE`, `InvF` (PipelineC04Exc; `refuse = []`): after `reader.join()`, `rexc` ⇒ the pending
    exception is `.read`; main past the collect loop without pending exception, `stop = false`,
    `rexc = false` ⇒ `seen` is a permutation of all pieces.  `Pend d` (every cfg): "pending
    exception is `.cb d`, or `.read` with `rexc`" is preserved by every step.
  * `InvRR` (PipelineC04Refuse; `.reader ∈ refuse`): main is before `startReader` or has raised
    that refusal; no thread was started.  `InvR1` (PipelineCtl) = C03's `InvB1` without "no hasher
    is refused" (only `hs[0]` is not) and C03's `InvB3` re-established for `StepG` (`InvR`,
    PipelineC04Refuse), for configurations that refuse non-vital hashers only.
-/
import Torf.Properties.C03
import Torf.Lemmas.PipelineC04Exc
import Torf.Lemmas.PipelineC04Cancel
import Torf.Lemmas.PipelineC04Result
import Torf.Lemmas.PipelineC04Refuse
import Torf.Model.Generate
namespace Torf.C04
open Torf.Pipeline Torf.C03

/-- With any callback behaviour and any read fault (no start refusal): when generate()/verify()
    returns or raises, no worker thread is left running. -/
theorem C04_threads_done {cfg : Cfg} {s : State} (hwf : wf cfg = true) (hrf : cfg.refuse = [])
    (h : Reachable cfg s) (ht : terminal s = true) : allThreadsDone s = true :=
  C03_threads_done hwf hrf h ht

/-- … the run cannot get stuck before that … -/
theorem C04_deadlock_free {cfg : Cfg} {s : State} (hwf : wf cfg = true) (hrf : cfg.refuse = [])
    (h : Reachable cfg s) (hnt : terminal s = false) : canProgress cfg s = true :=
  C03_deadlock_free hwf hrf h hnt

/-- … and it always ends under a weakly fair scheduler, whatever the callback does and wherever
    the read fault strikes. -/
theorem C04_terminates {cfg : Cfg} (hwf : wf cfg = true) (hrf : cfg.refuse = []) (e : Exec cfg) :
    ¬ e.Fair :=
  C03_termination hwf hrf e

/-- no internal exception (assertion, IndexError) under any fault plan, start refusals included -/
theorem C04_no_internal {cfg : Cfg} {s : State} (h : Reachable cfg s) : noInternalError s = true :=
  C03_no_internal h

private def lM : Label := ⟨.main, false⟩
private def lR : Label := ⟨.reader, false⟩

private def after (cfg : Cfg) (ls : List Label) : State := (run cfg (init cfg) ls).getD (init cfg)

/-- If the reader thread died of a read error, `generate()`/`verify()` raises that error —
    whatever the callback did before (cancel, raise) and whatever exception was pending. -/
theorem C04_read_error {cfg : Cfg} {s : State} (hrf : cfg.refuse = []) (h : Reachable cfg s)
    (ht : terminal s = true) (hx : s.rexc = true) : result? s = some (.raised .read) :=
  (InvE.of_reachable hrf h).read_error ht hx

/-- The reader's exception flag is only ever set by the configured read fault (which strikes at
    an item position `r ≤ #items`; `r = #items` is a failure after the last piece). -/
theorem C04_read_error_only_fault {cfg : Cfg} {s : State} (h : Reachable cfg s)
    (hx : s.rexc = true) : ∃ r, cfg.readFault = some r ∧ r ≤ cfg.items.length :=
  (InvG.of_reachable h).rexcCfg hx

/-- Conversely the read error is raised only if the reader really failed (every configuration). -/
theorem C04_read_error_only_if {cfg : Cfg} {s : State} (h : Reachable cfg s)
    (hr : result? s = some (.raised .read)) : s.rexc = true :=
  (InvG.of_reachable h).rdExc (terminal_of_result hr ▸ rfl)

/-- one hasher, capacity 1, two data pieces, the generator raises instead of yielding piece 1 -/
private def cfgRead : Cfg :=
  { N := 1, cap := 1, items := [.data, .data], readFault := some 1, refuse := [], raiseOnBad := false,
    cb := fun _ _ => .pass }

private def schedRead : List Label :=
  [lM, lM, lM, lM, lM, lM, lR, lR, lH, lH, lR, lH, lH, lH, lH, lJ, lJ, lJ, lJ, lM, lM, lM, lM, lM]

/-- the hypotheses of `C04_read_error` are satisfiable: piece 0 was hashed and collected, the read
    of piece 1 failed, main raises the read error -/
example : cfgRead.refuse = [] ∧ Reachable cfgRead (after cfgRead schedRead) ∧
    terminal (after cfgRead schedRead) = true ∧ (after cfgRead schedRead).rexc = true ∧
    (after cfgRead schedRead).seen = [0] ∧
    result? (after cfgRead schedRead) = some (.raised .read) :=
  ⟨rfl, .of_isSome (by decide +kernel), by decide +kernel⟩

/-- A callback exception that main carries (every configuration, and already while it is pending
    during the join phase) was raised by the callback call for the last piece collected, at the
    reported value of pieces_done, and nothing was collected after it. -/
theorem C04_callback_exc_last {cfg : Cfg} {s : State} {d : Nat} (h : Reachable cfg s)
    (hp : mainExc s.main = some (.cb d)) :
    d = s.seen.length ∧ ∃ k, s.seen.getLast? = some k ∧ cfg.cb k d = .raise :=
  (InvG.of_reachable h).cbExc d hp

/-- In particular an exception of the user callback that `generate()`/`verify()` raises is the one
    the callback raised, at the reported value of pieces_done. -/
theorem C04_callback_exc {cfg : Cfg} {s : State} {d : Nat} (_hrf : cfg.refuse = [])
    (h : Reachable cfg s) (_ht : terminal s = true) (hr : result? s = some (.raised (.cb d))) :
    ∃ k, cfg.cb k d = .raise :=
  have ⟨_, k, _, hk⟩ := C04_callback_exc_last h (terminal_of_result hr ▸ rfl)
  ⟨k, hk⟩

/-- Conversely: once main has taken a `raise` decision of the callback at pieces_done = `d` (it
    carries the pending exception `.cb d` through its join phase), every terminal state reached
    later raises exactly that exception — unless the reader died of a read error, which then
    replaces it. -/
theorem C04_callback_exc_kept {cfg : Cfg} {s s' : State} {d : Nat} {ls : List Label}
    (h : Reachable cfg s) (hp : mainExc s.main = some (.cb d)) (hrun : run cfg s ls = some s')
    (ht : terminal s' = true) :
    result? s' = some (.raised (.cb d)) ∨ (result? s' = some (.raised .read) ∧ s'.rexc = true) :=
  (Pend.run h (Or.inl hp) hrun).result ht

/-- without a read fault the callback's exception is what the caller gets -/
theorem C04_callback_exc_kept_nofault {cfg : Cfg} {s s' : State} {d : Nat} {ls : List Label}
    (hnf : cfg.readFault = none) (h : Reachable cfg s) (hp : mainExc s.main = some (.cb d))
    (hrun : run cfg s ls = some s') (ht : terminal s' = true) :
    result? s' = some (.raised (.cb d)) := by
  rcases C04_callback_exc_kept h hp hrun ht with h1 | ⟨_, hx⟩
  · exact h1
  · obtain ⟨r, hr, _⟩ := C04_read_error_only_fault (h.run hrun) hx
    rw [hnf] at hr; simp at hr

/-- two data pieces; the callback raises at the first report -/
private def cfgCb : Cfg :=
  { N := 1, cap := 1, items := [.data, .data], readFault := none, refuse := [], raiseOnBad := false,
    cb := fun _ d => if d = 1 then .raise else .pass }

/-- the same, and the generator fails after the last piece -/
private def cfgCbRead : Cfg := { cfgCb with readFault := some 2 }

private def schedCb : List Label :=
  [lM, lM, lM, lM, lM, lM, lR, lR, lH, lH, lR, lH, lM, lM, lH, lR, lM, lM, lH, lH, lH, lH, lM, lM,
   lJ, lJ, lJ, lJ, lM]

/-- after 13 steps main has taken the raise decision (pending `.cb 1` in a join pc) while the
    reader and the hasher are still running; the complete schedule ends with that exception -/
example : Reachable cfgCb (after cfgCb (schedCb.take 13)) ∧
    (after cfgCb (schedCb.take 13)).main = .joinReaderChk (some (.cb 1)) ∧
    run cfgCb (after cfgCb (schedCb.take 13)) (schedCb.drop 13) = some (after cfgCb schedCb) ∧
    terminal (after cfgCb schedCb) = true ∧
    result? (after cfgCb schedCb) = some (.raised (.cb 1)) ∧ cfgCb.cb 0 1 = .raise :=
  ⟨.of_isSome (by decide +kernel), by decide +kernel⟩

/-- with the read fault the same schedule ends with the read error instead -/
example : Reachable cfgCbRead (after cfgCbRead (schedCb.take 13)) ∧
    mainExc (after cfgCbRead (schedCb.take 13)).main = some (.cb 1) ∧
    run cfgCbRead (after cfgCbRead (schedCb.take 13)) (schedCb.drop 13) = some (after cfgCbRead schedCb) ∧
    terminal (after cfgCbRead schedCb) = true ∧ (after cfgCbRead schedCb).rexc = true ∧
    result? (after cfgCbRead schedCb) = some (.raised .read) :=
  ⟨.of_isSome (by decide +kernel), by decide +kernel⟩

/-- Once the stop flag is set (cancelling callback, raising callback, raising piece), the reader
    pushes at most ONE further piece — the `put` it may be blocked in — however many pieces the
    torrent has and whatever the schedule (`inFlight` = every piece pushed so far). -/
theorem C04_cancel_bound_read {cfg : Cfg} {s s' : State} {ls : List Label} (h : Reachable cfg s)
    (hstop : s.stop = true) (hrun : run cfg s ls = some s') :
    (inFlight s').length ≤ (inFlight s).length + 1 := by
  have := (stopped_run h hstop hrun).2
  have := pushCredit_le_one s
  omega

/-- … exactly: the one further piece is only possible while the reader sits at a `put`
    (`pushCredit` = 1), and it uses that credit up; the stop flag is never reset. -/
theorem C04_cancel_bound_read_exact {cfg : Cfg} {s s' : State} {ls : List Label}
    (h : Reachable cfg s) (hstop : s.stop = true) (hrun : run cfg s ls = some s') :
    s'.stop = true ∧ (inFlight s').length + pushCredit s' ≤ (inFlight s).length + pushCredit s :=
  stopped_run h hstop hrun

/-- A reader that died of a read fault pushes no further piece at all. -/
theorem C04_read_fault_no_more {cfg : Cfg} {s s' : State} {ls : List Label} (h : Reachable cfg s)
    (hx : s.rexc = true) (hrun : run cfg s ls = some s') :
    (inFlight s').length = (inFlight s).length :=
  (left_run h ((InvG.of_reachable h).rexcPc hx) hrun).2

/-- After the stop request at most `cap + N + 1` further pieces are hashed (delivered to the hash
    queue): those in the piece queue, those in the hands of the hashers, and the reader's pending
    `put` — independent of the torrent's size.  Holds for every configuration. -/
theorem C04_cancel_bound_hash {cfg : Cfg} {s s' : State} {ls : List Label} (h : Reachable cfg s)
    (hstop : s.stop = true) (hrun : run cfg s ls = some s') :
    hashedSoFar s' ≤ hashedSoFar s + cfg.cap + cfg.N + 1 := by
  have h1 := C04_cancel_bound_read h hstop hrun
  have hG := InvG.of_reachable h
  have h2 := hG.held_le
  have h3 := hG.pq_le
  rw [inFlight_len s, inFlight_len s'] at h1
  omega

/-- five data pieces, one hasher, capacity 1; the callback cancels at the first report -/
private def cfgCancel : Cfg :=
  { N := 1, cap := 1, items := [.data, .data, .data, .data, .data], readFault := none, refuse := [],
    raiseOnBad := false, cb := fun _ d => if d = 1 then .cancel else .pass }

private def schedCancel : List Label :=
  [lM, lM, lM, lM, lM, lM, lR, lR, lH, lH, lR, lH, lH, lR, lM] ++ [lH, lH, lR, lH, lH, lH] ++
  [lR, lH, lH, lH, lJ, lJ, lJ, lJ, lM, lM, lM, lM, lM, lM, lM]

/-- both bounds are attained: after 15 steps main has just cancelled (1 piece hashed, 3 pushed: one
    in the queue, one in the hasher's hands, the reader blocked in `put`); 6 steps later
    `1 + cap + N + 1 = 4` pieces are hashed and `3 + 1` pushed; piece 4 is never read -/
example : Reachable cfgCancel (after cfgCancel (schedCancel.take 15)) ∧
    (after cfgCancel (schedCancel.take 15)).stop = true ∧
    run cfgCancel (after cfgCancel (schedCancel.take 15)) ((schedCancel.drop 15).take 6) =
      some (after cfgCancel (schedCancel.take 21)) ∧
    hashedSoFar (after cfgCancel (schedCancel.take 15)) = 1 ∧
    hashedSoFar (after cfgCancel (schedCancel.take 21)) = 1 + cfgCancel.cap + cfgCancel.N + 1 ∧
    (inFlight (after cfgCancel (schedCancel.take 15))).length = 3 ∧
    (inFlight (after cfgCancel (schedCancel.take 21))).length = 3 + 1 :=
  ⟨.of_isSome (by decide +kernel), by decide +kernel⟩

/-- the hypotheses of `C04_read_fault_no_more` are satisfiable (state right after the fault) -/
example : Reachable cfgRead (after cfgRead (schedRead.take 8)) ∧
    (after cfgRead (schedRead.take 8)).rexc = true ∧
    run cfgRead (after cfgRead (schedRead.take 8)) (schedRead.drop 8) = some (after cfgRead schedRead) ∧
    (inFlight (after cfgRead schedRead)).length = 1 :=
  ⟨.of_isSome (by decide +kernel), by decide +kernel⟩

theorem returned_sound {cfg : Cfg} {s : State} {c : List Nat} (h : Reachable cfg s)
    (hr : result? s = some (.returned c)) :
    c.Nodup ∧ (∀ k ∈ c, k ∈ hashedItems cfg) ∧ c.length ≤ (hashedItems cfg).length ∧
    (c.length = (hashedItems cfg).length →
      c.mergeSort (fun a b => decide (a ≤ b)) = hashedItems cfg) :=
  (InvG.of_reachable h).ret c (terminal_of_result hr) ▸ (InvA.of_reachable h).collected_sound

/-- A returned result (`Collector.collect` returned, nothing raised) contains only distinct,
    genuinely hashed pieces, and if it has as many entries as there are hashable pieces, it is —
    sorted, as `Collector.hashes` does — exactly the list of all of them.  Every configuration:
    cancellation, read faults and refused starts included. -/
theorem C04_no_partial {cfg : Cfg} {s : State} {c : List Nat} (h : Reachable cfg s)
    (hr : result? s = some (.returned c)) :
    c.Nodup ∧ (∀ k ∈ c, k < cfg.items.length ∧ isHashed cfg k = true) ∧
    (c.length = (hashedItems cfg).length →
      c.mergeSort (fun a b => decide (a ≤ b)) = hashedItems cfg) := by
  obtain ⟨h1, h2, _, h4⟩ := returned_sound h hr
  exact ⟨h1, fun k hk => mem_hashedItems.1 (h2 k hk), h4⟩

/-- The tail of `Torrent.generate` (`Generate.finish`: compare the number of digests with the
    number of pieces) therefore stores a piece string only if it is the complete, correct one;
    otherwise it reports cancellation (returns False); "too many hashes" is impossible.  (A piece
    index stands for its digest here.) -/
theorem C04_finish_sound {cfg : Cfg} {s : State} {c : List Nat} (h : Reachable cfg s)
    (hr : result? s = some (.returned c)) :
    Generate.finish (hashedItems cfg).length (c.mergeSort (fun a b => decide (a ≤ b))) =
        .stored (hashedItems cfg) ∨
    (Generate.finish (hashedItems cfg).length (c.mergeSort (fun a b => decide (a ≤ b))) = .cancelled ∧
      c.length < (hashedItems cfg).length) := by
  obtain ⟨_, _, h3, h4⟩ := returned_sound h hr
  unfold Generate.finish
  rw [List.length_mergeSort]
  by_cases hl : c.length = (hashedItems cfg).length
  · left; rw [if_pos hl, h4 hl]
  · right
    have hlt : c.length < (hashedItems cfg).length := by omega
    rw [if_neg hl, if_pos hlt]
    exact ⟨rfl, hlt⟩

/-- Conversely (no refused starts): a result that is returned although nobody asked to stop is
    complete — a partial result is only ever returned after a cancellation (read errors raise,
    `C04_read_error`), so `generate()` returns False only if its callback cancelled. -/
theorem C04_uncancelled_complete {cfg : Cfg} {s : State} {c : List Nat} (hrf : cfg.refuse = [])
    (h : Reachable cfg s) (hr : result? s = some (.returned c)) (hst : s.stop = false) :
    c.mergeSort (fun a b => decide (a ≤ b)) = hashedItems cfg ∧
    Generate.finish (hashedItems cfg).length (c.mergeSort (fun a b => decide (a ≤ b))) =
      .stored (hashedItems cfg) := by
  have hm := terminal_of_result hr
  have ht : terminal s = true := by simp [terminal, hm]
  have hx : s.rexc = false := by
    cases hx : s.rexc with
    | false => rfl
    | true => have := C04_read_error hrf h ht hx; rw [hr] at this; simp at this
  have hp := (InvF.of_reachable hrf h).all (by rw [hm]; rfl) (by rw [hm]; rfl) hst hx
  have hc := (InvG.of_reachable h).ret c hm
  have hsort := hc ▸ (InvA.of_reachable h).sorted_of_complete hp
  refine ⟨hsort, ?_⟩
  rw [hsort]
  simp [Generate.finish]

/-- the cancelled run of `cfgCancel` returns four of the five pieces; `finish` reports cancellation -/
example : Reachable cfgCancel (after cfgCancel schedCancel) ∧
    result? (after cfgCancel schedCancel) = some (.returned [0, 1, 2, 3]) ∧
    (hashedItems cfgCancel).length = 5 ∧
    Generate.finish (hashedItems cfgCancel).length [0, 1, 2, 3] = .cancelled :=
  ⟨.of_isSome (by decide +kernel), by decide +kernel⟩

/-- one data piece; the callback cancels when it is reported — too late to leave anything out -/
private def cfgLate : Cfg := { cfgCancel with items := [.data] }

/-- … so the premise of the last clause of `C04_no_partial` is satisfiable even for a cancelled
    run: the result has as many entries as there are pieces, and `finish` stores it -/
example : Reachable cfgLate (after cfgLate schedRead) ∧ (after cfgLate schedRead).stop = true ∧
    result? (after cfgLate schedRead) = some (.returned [0]) ∧
    [0].length = (hashedItems cfgLate).length ∧
    Generate.finish (hashedItems cfgLate).length [0] = .stored (hashedItems cfgLate) :=
  ⟨.of_isSome (by decide +kernel), by decide +kernel⟩

/-- the hypotheses of `C04_uncancelled_complete` are satisfiable: a plain complete run -/
private def cfgPlain : Cfg := { cfgLate with cb := fun _ _ => .pass }

example : cfgPlain.refuse = [] ∧ Reachable cfgPlain (after cfgPlain schedRead) ∧
    result? (after cfgPlain schedRead) = some (.returned [0]) ∧
    (after cfgPlain schedRead).stop = false :=
  ⟨rfl, .of_isSome (by decide +kernel), by decide +kernel⟩

/-- If the OS refuses to start the reader (the first thread), `generate()`/`verify()` raise that
    RuntimeError and no thread has been started at all. -/
theorem C04_reader_refused {cfg : Cfg} {s : State} (hrr : Tid.reader ∈ cfg.refuse)
    (h : Reachable cfg s) (ht : terminal s = true) :
    result? s = some (.raised (.startRefused .reader)) ∧ allThreadsDone s = true :=
  (InvRR.of_reachable hrr h).terminal ht

/-- Refused starts of non-vital hashers (number ≥ 1; `HasherPool.__init__` swallows the
    RuntimeError) do no harm: when main returns or raises, no thread is left running —
    `C04_threads_done` for every configuration whose refusals are of that kind. -/
theorem C04_other_hasher_refused_ok {cfg : Cfg} {s : State}
    (hnv : ∀ t ∈ cfg.refuse, ∃ i : Nat, 1 ≤ i ∧ t = Tid.hasher i) (_hwf : wf cfg = true)
    (h : Reachable cfg s) (ht : terminal s = true) : allThreadsDone s = true :=
  (InvR.of_reachable hnv h).threads_done ht

/-- the full statement — no thread survives main, whichever starts are refused — is FALSE for the
    model (and for the code: known finding D04a) -/
def C04_threads_done_full : Prop :=
  ∀ (cfg : Cfg) (s : State), wf cfg = true → Reachable cfg s → terminal s = true →
    allThreadsDone s = true

/-- one hasher, capacity 1, two pieces; the start of the vital hasher is refused -/
private def cfgVital : Cfg :=
  { N := 1, cap := 1, items := [.data, .data], readFault := none, refuse := [.hasher 0],
    raiseOnBad := false, cb := fun _ _ => .pass }

/-- the same with the janitor's start refused -/
private def cfgJan : Cfg := { cfgVital with refuse := [.janitor] }

/-- Finding D04a in the model: the start of the vital hasher is refused, main raises the
    RuntimeError while the reader keeps running; two steps later the reader is blocked on the full
    piece queue and NO thread can take any step any more — it hangs forever. -/
theorem C04_vital_refused_counterexample :
    wf cfgVital = true ∧ cfgVital.refuse = [.hasher 0] ∧
    Reachable cfgVital (after cfgVital [lM, lM, lM, lM, lR, lR]) ∧
    result? (after cfgVital [lM, lM, lM, lM, lR, lR]) = some (.raised (.startRefused (.hasher 0))) ∧
    (after cfgVital [lM, lM, lM, lM, lR, lR]).rpc = .putting 1 ∧
    allThreadsDone (after cfgVital [lM, lM, lM, lM, lR, lR]) = false ∧
    (allLabels cfgVital).all (fun l => (step cfgVital (after cfgVital [lM, lM, lM, lM, lR, lR]) l).isNone) = true :=
  ⟨by decide, rfl, .of_isSome (by decide +kernel), by decide +kernel⟩

/-- the same finding for the janitor: main raises while the reader and the vital hasher run on -/
theorem C04_janitor_refused_counterexample :
    wf cfgJan = true ∧ cfgJan.refuse = [.janitor] ∧
    Reachable cfgJan (after cfgJan [lM, lM, lM, lM, lM, lM]) ∧
    result? (after cfgJan [lM, lM, lM, lM, lM, lM]) = some (.raised (.startRefused .janitor)) ∧
    (after cfgJan [lM, lM, lM, lM, lM, lM]).rpc.running = true ∧
    hasherRunning (after cfgJan [lM, lM, lM, lM, lM, lM]) 0 = true ∧
    allThreadsDone (after cfgJan [lM, lM, lM, lM, lM, lM]) = false :=
  ⟨by decide, rfl, .of_isSome (by decide +kernel), by decide +kernel⟩

theorem C04_threads_done_full_counterexample : ¬ C04_threads_done_full := by
  intro h
  have h1 := C04_vital_refused_counterexample
  have := h cfgVital _ h1.1 h1.2.2.1 (by decide)
  rw [h1.2.2.2.2.2.1] at this
  exact Bool.noConfusion this

/-- the reader's start refused: the hypotheses of `C04_reader_refused` are satisfiable -/
private def cfgNoReader : Cfg := { cfgVital with refuse := [.reader] }

example : Tid.reader ∈ cfgNoReader.refuse ∧ Reachable cfgNoReader (after cfgNoReader [lM, lM]) ∧
    terminal (after cfgNoReader [lM, lM]) = true ∧
    result? (after cfgNoReader [lM, lM]) = some (.raised (.startRefused .reader)) :=
  ⟨by decide, .of_isSome (by decide +kernel), by decide +kernel⟩

/-- two hashers requested, the second one refused: a complete run with one hasher -/
private def cfgOther : Cfg :=
  { N := 2, cap := 1, items := [.data], readFault := none, refuse := [.hasher 1],
    raiseOnBad := false, cb := fun _ _ => .pass }

private def schedOther : List Label :=
  [lM, lM, lM, lM, lM, lM, lM, lM, lR, lR, lH, lH, lR, lH, lH, lH, lH, lJ, lJ, lJ, lJ, lJ,
   lM, lM, lM, lM, lM, lM]

example : (∀ t ∈ cfgOther.refuse, ∃ i : Nat, 1 ≤ i ∧ t = Tid.hasher i) ∧ wf cfgOther = true ∧
    Reachable cfgOther (after cfgOther schedOther) ∧ terminal (after cfgOther schedOther) = true ∧
    (after cfgOther schedOther).hs = [.done, .refused] ∧
    result? (after cfgOther schedOther) = some (.returned [0]) ∧
    allThreadsDone (after cfgOther schedOther) = true :=
  ⟨by simp [cfgOther], by decide, .of_isSome (by decide +kernel), by decide +kernel⟩

end Torf.C04
