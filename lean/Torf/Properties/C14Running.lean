/-
  C14 — `get_info()` while the magnet object is being changed (by the error callback that `get_info()`
  itself calls between two sources, or by another thread while a source is answering): the hash that
  decides whether fetched metadata is adopted is the one the magnet holds **when the torrent arrives**.
  Helper lemmas: Torf.Lemmas.MagnetRunning (one induction over the run for an `Agree`ing pair of
  semantics); its two instances, `codeSem_agrees_spec` and `codeSem_keeps_GOk`, stand here because
  their fields `act_keeps`, `arrival_keeps`, `arrived_eq` are the C14 theorems above them.
-/
import Torf.Properties.C14
import Torf.Lemmas.MagnetRunning
namespace Torf.C14
open Torf Torf.Magnet

/-- An assignment (either setter, **any** string) on an object in **any** state — also one that is
    in the middle of a `get_info()` call — is the assignment of the specification: judged on its own,
    accepted ⇒ stored (and a stored value is a valid hash), rejected ⇒ MagnetError and nothing changes.
    (`C14_assign_spec` without its hypothesis on the state.) -/
theorem C14_assign_any_state (m : MState) (op : HashOp) :
    stepM m op = specAssignM m op ∧ ∀ s, specAssign op = some s → validHash s = true :=
  ⟨stepM_spec m op, specAssign_valid op⟩

/-- `_set_info_from_torrent` on a readable torrent, on an object holding any valid hash in any notation:
    with validation the torrent is adopted iff its infohash is the 40-digit form of the number denoted by
    the hash the object holds **at that moment**, otherwise MetainfoError and the object is unchanged. -/
theorem C14_arrival_current_hash (validate : Bool) (m : MState) (h : Str) (ne : Bool)
    (hm : ∀ s, m.hash = some s → validHash s = true) :
    arrivedCode validate m h ne = specArrived validate m h ne := by
  unfold arrivedCode specArrived
  cases validate with
  | false => cases m.hash <;> simp
  | true =>
    cases hh : m.hash with
    | none => simp
    | some s =>
      simp only [if_true, setInfoFrom_ok (infohashAsBase16_valid s (hm s hh)), Bool.true_and]
      by_cases e : h = hexLower40 (hashVal s) <;> simp [e]

theorem HashOk.valid {st : GState} (h : HashOk st) : ∀ s, st.m.hash = some s → validHash s = true := by
  obtain ⟨s, hs, hv⟩ := h
  intro x hx; rw [hs] at hx; cases hx; exact hv

/-- every operation of the callback / the other thread keeps "the object holds a valid hash" and
    "… and the metadata it holds, if any, denotes that hash" -/
theorem C14_act_keeps (st : GState) (a : Act) :
    (HashOk st → HashOk (actStep codeSem st a).2) ∧ (GOk st → GOk (actStep codeSem st a).2) := by
  cases a with
  | hash op =>
    show (_ → HashOk { st with m := (stepM st.m op).2 }) ∧ (_ → GOk { st with m := (stepM st.m op).2 })
    rcases stepM_cases st.m op with e | ⟨s, hv, e⟩ <;> rw [e]
    · exact ⟨id, id⟩
    · exact ⟨fun _ => ⟨s, rfl, hv⟩, fun _ => ⟨s, rfl, hv, nofun⟩⟩
  | _ => exact ⟨id, id⟩

theorem arrivedCode_ok {validate : Bool} {m m' : MState} {s h : Str} {ne : Bool} (hs : m.hash = some s)
    (hv : validHash s = true) (hok : arrivedCode validate m h ne = .ok m') :
    m' = { m with info := if ne then some h else m.info } ∧ (validate = true → h = hexLower40 (hashVal s)) := by
  rw [C14_arrival_current_hash validate m h ne (fun x hx => by rw [hs] at hx; cases hx; exact hv)] at hok
  simp only [specArrived, hs] at hok
  split at hok <;> cases hok
  exact ⟨by rw [hs], fun hval => by simp_all⟩

/-- an arriving torrent never touches the hash; with validation it keeps "held metadata denotes the
    hash held now" -/
theorem C14_arrival_keeps (st : GState) (h : Str) (ne : Bool) (m' : MState) :
    (∀ validate, HashOk st → arrivedCode validate st.m h ne = .ok m' → HashOk { st with m := m' }) ∧
    (GOk st → arrivedCode true st.m h ne = .ok m' → GOk { st with m := m' }) := by
  constructor
  · intro validate ⟨s, hs, hv⟩ hok
    obtain ⟨rfl, _⟩ := arrivedCode_ok hs hv hok
    exact ⟨s, hs, hv⟩
  · intro ⟨s, hs, hv, hi⟩ hok
    obtain ⟨rfl, hc⟩ := arrivedCode_ok hs hv hok
    refine ⟨s, hs, hv, fun a ha => ?_⟩
    cases ne with
    | true => cases ha; exact hc rfl
    | false => exact hi a ha

theorem codeSem_agrees_spec (validate : Bool) : Agree codeSem specSem HashOk validate where
  act_keeps st a h := (C14_act_keeps st a).1 h
  arrival_keeps st h ne m' hp hok := (C14_arrival_keeps st h ne m').1 validate hp hok
  assign_eq st op _ := stepM_spec st.m op
  arrived_eq st h ne hp := C14_arrival_current_hash validate st.m h ne (HashOk.valid hp)

theorem codeSem_keeps_GOk : Agree codeSem codeSem GOk true :=
  Agree.refl (fun st a h => (C14_act_keeps st a).2 h)
    (fun st h ne m' hp hok => (C14_arrival_keeps st h ne m').2 hp hok)

/-- **Refinement.**  One `get_info()` call — any world (what every URL serves), with or without callback,
    validating or not, any operations by the callback and by another thread at any source position
    (assignments of any strings to `xt` / `infohash`, accepted or rejected assignments to the source
    fields) — on an object that holds a valid hash: the code-shaped model (regular expressions of the
    setters, base-32 conversion at the moment a torrent has arrived) does exactly what the specification
    says: same error, same object afterwards, same requests, same callback calls, same outcomes of the
    other thread's operations. -/
theorem C14_getinfo_running_spec (validate hasCb : Bool) (world : Str → Served) (st : GState)
    (vs : List Visit) (hst : HashOk st) :
    getInfoCb codeSem validate hasCb world st vs = getInfoCb specSem validate hasCb world st vs :=
  ((codeSem_agrees_spec validate).getInfoCb hasCb world st vs hst).1

/-- what "the metadata held denotes the hash held" means for the user: `torrent().infohash` is the
    40-digit hexadecimal form of the magnet's own hash, with or without metadata -/
theorem C14_torrent_when_ok (st : GState) (h : GOk st) :
    ∃ s, st.m.hash = some s ∧ validHash s = true ∧
      (∀ a, st.m.info = some a → a = hexLower40 (hashVal s)) ∧
      convertM st.m = .converted (.ok (hexLower40 (hashVal s))) st.m.info.isSome := by
  obtain ⟨s, hs, hv, hi⟩ := h
  exact ⟨s, hs, hv, hi, convertM_eq hs hv hi⟩

/-- **The hash that decides adoption is the one held now.**  After a validating `get_info()` with any
    interleaved operations — by the callback between two sources, by another thread while a source is
    answering; re-assignments of the hash to other hashes, to the same hash in another notation, invalid
    values, re-assignments of the sources — whether the call returned or raised: if the magnet holds
    metadata, its infohash is the 40-digit form of the number denoted by the hash the magnet holds
    **after the call**, and `torrent().infohash` is that form in every case. -/
theorem C14_adopt_current_hash (hasCb : Bool) (world : Str → Served) (st : GState) (vs : List Visit)
    (hst : GOk st) :
    ∃ s, (getInfoCb codeSem true hasCb world st vs).st.m.hash = some s ∧ validHash s = true ∧
      (∀ a, (getInfoCb codeSem true hasCb world st vs).st.m.info = some a → a = hexLower40 (hashVal s)) ∧
      convertM (getInfoCb codeSem true hasCb world st vs).st.m =
        .converted (.ok (hexLower40 (hashVal s))) (getInfoCb codeSem true hasCb world st vs).st.m.info.isSome :=
  C14_torrent_when_ok _ (codeSem_keeps_GOk.getInfoCb hasCb world st vs hst).2

/-- … and over any sequence of such calls on one object (worlds, callbacks and interleavings differing
    from call to call), all validating: after every call, and at the end, the metadata held denotes the
    hash held — so `C14_torrent_when_ok` applies to each of these states. -/
theorem C14_adopt_current_hash_calls (st : GState) (cs : List Call) (hst : GOk st)
    (hv : callsValidated cs = true) :
    (∀ r ∈ (runCalls codeSem st cs).1, GOk r.st) ∧ GOk (runCalls codeSem st cs).2 :=
  (Agree.runCalls cs st (fun c hc => (List.all_eq_true.1 hv c hc : c.validate = true) ▸ codeSem_keeps_GOk) hst).2

/-- the refinement `C14_getinfo_running_spec` over any sequence of calls on one object, validating or
    not: the whole sequence is what the specification says -/
theorem C14_calls_running_spec (st : GState) (cs : List Call) (hst : HashOk st) :
    runCalls codeSem st cs = runCalls specSem st cs :=
  (Agree.runCalls cs st (fun c _ => codeSem_agrees_spec c.validate) hst).1

/-- **Adoption is decided at the moment of arrival.**  One source serves a readable torrent (infohash `h`,
    40 lower-case hex digits as `Torrent.infohash` always is) while another thread performs any operations
    before the answer is looked at: the torrent is adopted iff `h` denotes the number of the hash the magnet
    holds **after those operations** — whatever notation, whatever it held when the request was sent —,
    otherwise MetainfoError and no metadata from this source. -/
theorem C14_arrival_decides (hasCb : Bool) (world : Str → Served) (st : GState) (hst : HashOk st)
    (u : Str) (v : Visit) (h : Str) (hs : LowerHex40 h = true) (hw : world u = .torrent h true) :
    ∃ s, (runThread codeSem st v.during).2.m.hash = some s ∧ validHash s = true ∧
      loopCb codeSem true hasCb world st [u] [v] =
        (if hashVal h = hashVal s then
           { err := none,
             st := { (runThread codeSem st v.during).2 with
                     m := { (runThread codeSem st v.during).2.m with info := some h } },
             requested := [u], cbs := [], thr := [(runThread codeSem st v.during).1] }
         else
           { err := some .metainfo, st := (runThread codeSem st v.during).2,
             requested := [u], cbs := [], thr := [(runThread codeSem st v.during).1] }) := by
  have h1 := ((codeSem_agrees_spec true).runThread v.during st hst).2
  have harr := C14_arrival_current_hash true (runThread codeSem st v.during).2.m h true (HashOk.valid h1)
  obtain ⟨s, hs1, hv⟩ := h1
  refine ⟨s, hs1, hv, ?_⟩
  have hc : codeSem.arrived = arrivedCode := rfl
  simp only [loopCb, List.headD_cons, hw, answer, hc, harr, specArrived, hs1, Bool.true_and,
    ← eq_hexLower40_iff hv hs]
  by_cases e : h = hexLower40 (hashVal s) <;> simp [e]

example : GOk { m := { hash := some "ABABABABABABABABABABABABABABABABABABABAB".toList,
                       info := some (hexLower40 (hashVal "ABABABABABABABABABABABABABABABABABABABAB".toList)) },
                src := ⟨none, none, [], []⟩ } := by
  -- a literal as the list of its characters: the kernel is slow on `String.toList` of a literal
  rw [String.toList_ofList]
  exact ⟨_, rfl, by decide +kernel, by intro a ha; exact (Option.some.inj ha).symm⟩

/-- Regression for the seeded change C14-6a (hash converted once at the start of the call): the exact
    source fails, the callback assigns another hash, the fallback source serves the torrent of the **old**
    hash ⇒ MetainfoError, nothing adopted, the magnet holds the new hash.  And the other way round: the
    fallback serves the torrent of the **new** hash ⇒ adopted. -/
example :
    let A : Str := List.replicate 40 'a'
    let B : Str := List.replicate 40 'b'
    let st : GState := { m := { hash := some A }, src := ⟨none, none, [], []⟩ }
    let cb : List Visit := [{ inCb := [.hash (.xt ("urn:btih:".toList ++ B.map asciiUpper))] }]
    let old : Str → Served := fun u => if u = ['y'] then .torrent A true else .connError
    let new : Str → Served := fun u => if u = ['y'] then .torrent B true else .connError
    ((loopCb codeSem true true old st [['x'], ['y']] cb).err = some .metainfo ∧
     (loopCb codeSem true true old st [['x'], ['y']] cb).st.m = { hash := some (B.map asciiUpper), info := none } ∧
     (loopCb codeSem true true old st [['x'], ['y']] cb).requested = [['x'], ['y']]) ∧
    ((loopCb codeSem true true new st [['x'], ['y']] cb).err = none ∧
     (loopCb codeSem true true new st [['x'], ['y']] cb).st.m = { hash := some (B.map asciiUpper), info := some B }) := by
  decide +kernel

end Torf.C14
