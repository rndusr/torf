/-
  C18 — histories on one Torrent object: the outcome of `reuse()` is a function of the object's
  *current* name / kind / file list / piece-size bounds, the candidates found and the content on
  disk *now* — never of the hashes (or the piece length) the object already carries from
  `generate()`, an earlier `reuse()` or an assignment.  A decider that trusts the carried hashes
  (`isContentMatchMemo`) is refuted by a concrete history.

  Reading guide: `runH t0 ops` runs a list of operations (`generate`, `setPieces`,
  `setPieceLength`, `repath`, `reuse items cb elapsed`) on one object made as `t0`; every `reuse`
  gets the item list of its moment (disk as it is then).  `forget s pl` = `s` without hashes.
-/
import Torf.Properties.C18
import Torf.Model.ReuseHistory
namespace Torf.C18
open Torf Torf.Reuse

/-- the generic loop instantiated with the real content check is the model of the code -/
theorem C18_loopWith_real (t : Tor) (cb : Callback) (elapsed : Bool) (tot : Nat) (items : List Item) :
    ∀ idx done, loopWith isContentMatch t cb elapsed tot idx done items = loop t cb elapsed tot idx done items := by
  induction items with
  | nil => intro idx done; simp [loopWith, loop]
  | cons it rest ih =>
    intro idx done
    unfold loopWith loop
    simp only [ih]
    rfl

theorem C18_reuseWith_real (t : Tor) (items : List Item) (cb : Callback) (elapsed : Bool) :
    reuseWith isContentMatch t items cb elapsed = reuse t items cb elapsed := by
  unfold reuseWith reuse
  exact C18_loopWith_real t cb elapsed _ items 0 0

/-- the three deciders / the copy never read `pieces` or `piece length` of the torrent -/
theorem isFileMatch_forget (t : Tor) (p : Option (List Digest)) (pl : Nat) (c : Cand) :
    isFileMatch { t with pieces := p, pieceLength := pl } c = isFileMatch t c := rfl

theorem isContentMatch_forget (t : Tor) (p : Option (List Digest)) (pl : Nat) (c : Cand)
    (loc : Nat → LocalPiece) :
    isContentMatch { t with pieces := p, pieceLength := pl } c loc = isContentMatch t c loc := rfl

/-- **`reuse()` does not look at the hashes the object holds.**  Give the object any `pieces`
    (none, junk, the hashes of an earlier state of the content, exactly the candidate's) and any
    piece length: result and callback trace are the same; when a candidate is accepted the
    torrent afterwards is the same; when nothing is accepted it is what it was. -/
theorem C18_reuse_ignores_hashes (t : Tor) (p : Option (List Digest)) (pl : Nat)
    (items : List Item) (cb : Callback) (elapsed : Bool) :
    (reuse { t with pieces := p, pieceLength := pl } items cb elapsed).1 = (reuse t items cb elapsed).1 ∧
    (reuse { t with pieces := p, pieceLength := pl } items cb elapsed).2.2 = (reuse t items cb elapsed).2.2 ∧
    ((reuse t items cb elapsed).1 = .ok true →
      (reuse { t with pieces := p, pieceLength := pl } items cb elapsed).2.1 = (reuse t items cb elapsed).2.1) ∧
    ((reuse t items cb elapsed).1 ≠ .ok true →
      (reuse { t with pieces := p, pieceLength := pl } items cb elapsed).2.1 = { t with pieces := p, pieceLength := pl }) := by
  -- a round decides with `isFileMatch`, `isContentMatch`, `copy`, none of which reads the two fields
  have h : reuse { t with pieces := p, pieceLength := pl } items cb elapsed = _ :=
    loop_congr (t := t) (t₁ := { t with pieces := p, pieceLength := pl }) (cb := cb) (elapsed := elapsed)
      (fun _ _ _ _ _ _ => rfl) (total items) items 0 0
  rw [h]
  exact ⟨rfl, rfl, fun ht => if_pos ht, fun hne => if_neg hne⟩

/-- what no operation of a history changes: name, kind, bounds; the file list stays a
    permutation of the one the object was made with -/
def SameShape (t0 t : Tor) : Prop :=
  t.name = t0.name ∧ t.single = t0.single ∧ t.plMin = t0.plMin ∧ t.plMax = t0.plMax ∧ t.files.Perm t0.files

theorem SameShape.refl (t : Tor) : SameShape t t := ⟨rfl, rfl, rfl, rfl, .refl _⟩

theorem SameShape.trans {a b c : Tor} (h : SameShape a b) (g : SameShape b c) : SameShape a c := by
  obtain ⟨h1, h2, h3, h4, h5⟩ := h
  obtain ⟨g1, g2, g3, g4, g5⟩ := g
  exact ⟨g1.trans h1, g2.trans h2, g3.trans h3, g4.trans h4, g5.trans h5⟩

theorem reuse_shape (t : Tor) (items : List Item) (cb : Callback) (elapsed : Bool) :
    SameShape t (reuse t items cb elapsed).2.1 := by
  rcases (reuse_ends t items cb elapsed).cases with ⟨_, h⟩ | ⟨_, c, loc, _, _, _, hcopy⟩
  · rw [h]; exact .refl t
  · obtain ⟨_, _, h3, h4, h5, h6, h7, h8⟩ := copy_ok hcopy
    refine ⟨h5, h6, h7, h8, ?_⟩
    cases hs : c.single with
    | true => rw [h4 hs]
    | false => rw [(h3 hs).1]; exact (h3 hs).2.symm

/-- **Shape invariant of histories**: whatever the operations and their outcomes — hashes
    generated, assigned, dropped, candidates accepted — the object keeps its name, kind and
    bounds, and its file list stays a permutation of the original one. -/
theorem C18_history_shape (t0 : Tor) (ops : List HOp) : SameShape t0 (runH t0 ops).1 := by
  have gen : ∀ (ops : List HOp) (t : Tor), SameShape t0 t → SameShape t0 (runWith isContentMatch t0 t ops).1 := by
    intro ops
    induction ops with
    | nil => intro t h; simpa [runWith] using h
    | cons op ops ih =>
      intro t h
      simp only [runWith]
      apply ih
      cases op with
      | generate hs => exact h
      | setPieces p => exact h
      | setPieceLength pl => exact h
      | repath => exact .refl t0
      | reuse items cb elapsed =>
        simp only [stepWith, C18_reuseWith_real]
        exact h.trans (reuse_shape t items cb elapsed)
  exact gen ops t0 (.refl t0)

/-- **History independence.**  After *any* history on the object — generate, earlier successful
    or failed reuse calls against any earlier state of the disk, hashes assigned or dropped —
    a call `reuse(items)` gives the result and the callback trace that the same call gives on an
    object that describes the same files but carries no hashes (`forget`): the hashes an object
    holds say what the content was when they were computed, and are not consulted.  When a
    candidate is accepted both end up as the same torrent. -/
theorem C18_history_independent (t0 : Tor) (ops : List HOp) (items : List Item) (cb : Callback)
    (elapsed : Bool) (pl : Nat) :
    let s := (runH t0 ops).1
    let r := reuse s items cb elapsed
    let rf := reuse (forget s pl) items cb elapsed
    r.1 = rf.1 ∧ r.2.2 = rf.2.2 ∧ (r.1 = .ok true → r.2.1 = rf.2.1) ∧ (r.1 ≠ .ok true → r.2.1 = s) := by
  intro s r rf
  have h := C18_reuse_ignores_hashes (forget s pl) s.pieces s.pieceLength items cb elapsed
  have hs : ({ forget s pl with pieces := s.pieces, pieceLength := s.pieceLength } : Tor) = s := rfl
  simp only [hs] at h
  obtain ⟨h1, h2, h3, _⟩ := h
  refine ⟨h1, h2, ?_, fun hne => C18_atomic s items cb elapsed hne⟩
  intro ht
  exact h3 (h1 ▸ ht)

/-- … and therefore a later acceptance is *sound for the content as it is at that moment*: the
    candidate accepted after any history meets everything `C18_sound` lists, with `loc` = the
    local content of the moment of the call. -/
theorem C18_history_sound (t0 : Tor) (ops : List HOp) (items : List Item) (cb : Callback) (elapsed : Bool)
    (h : (reuse (runH t0 ops).1 items cb elapsed).1 = .ok true) :
    ∃ c loc, Item.file (.torrent c) loc ∈ items ∧
      ∀ f ∈ (runH t0 ops).1.files, ∃ pos, filePosition c.name f c.files 0 = some pos ∧
        ∀ i ∈ fileSamples c.pieceLength pos f.size, ∃ d, c.hashes[i]? = some d ∧ loc i = .hash d := by
  obtain ⟨c, loc, hmem, _, _, _, _, _, hall⟩ := C18_sound _ items cb elapsed h
  exact ⟨c, loc, hmem, hall⟩

/-! ### the memoising decider is unsound

One file `N/a` of 10 bytes, piece length 4 (3 pieces).  The object generates (hashes `h0 h1 h2`),
its torrent lies in the searched directory, then piece 0 changes on disk (same size). -/

def mT : Tor := ⟨"N", false, [⟨["a"], 10⟩], 4, none, 1, 64⟩
def mC : Cand := ⟨"N", false, [⟨["a"], 10⟩], 4, ["h0", "h1", "h2"], false⟩
/-- the content when the object generated -/
def mLoc0 : Nat → LocalPiece := fun i => .hash s!"h{i}"
/-- the content later: piece 0 differs -/
def mLoc1 : Nat → LocalPiece := fun i => if i = 0 then .hash "changed" else .hash s!"h{i}"

/-- **A decider that trusts the hashes the object already carries is history dependent and
    unsound**: after `generate()` and a change of the content, the memoising variant accepts the
    object's own stored torrent although the sampled piece 0 no longer matches (the candidate is
    not acceptable), while the code as it is returns `False`; on a fresh object both return
    `False` — which is why no test on fresh objects can tell them apart. -/
theorem C18_memo_history_dependent :
    let s := (runH mT [.generate mC.hashes]).1
    (reuseWith isContentMatchMemo s [.file (.torrent mC) mLoc1] none true).1 = .ok true ∧
    acceptable s mC mLoc1 = false ∧
    (reuse s [.file (.torrent mC) mLoc1] none true).1 = .ok false ∧
    (reuseWith isContentMatchMemo mT [.file (.torrent mC) mLoc1] none true).1 = .ok false ∧
    (reuse s [.file (.torrent mC) mLoc0] none true).1 = .ok true := by
  decide +kernel

/-- the same through an earlier successful `reuse()` instead of `generate()` -/
theorem C18_memo_after_reuse_unsound :
    let ops := [HOp.reuse [.file (.torrent mC) mLoc0] none true]
    (runWith isContentMatchMemo mT mT (ops ++ [.reuse [.file (.torrent mC) mLoc1] none true])).2.map (·.1)
      = [.ok true, .ok true] ∧
    (runH mT (ops ++ [.reuse [.file (.torrent mC) mLoc1] none true])).2.map (·.1) = [.ok true, .ok false] := by
  decide +kernel

example : (runH mT [.generate ["x"], .setPieceLength 8, .repath, .reuse [.file (.torrent mC) mLoc0] none true]).1
    = { mT with pieces := some mC.hashes } := by decide +kernel
example : SameShape mT (runH mT [.generate ["x"], .reuse [.file (.torrent mC) mLoc0] none true]).1 :=
  C18_history_shape _ _

end Torf.C18
