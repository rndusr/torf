/-
  C02 — content verification is exact, over every state a listed path can be in.
  Property theorems only (helper lemmas live in Torf.Lemmas.VerifyFs*).

  `verifyFs` (Model/VerifyFs.lean) is the sequential reference of `Torrent.verify` where a listed
  path is a regular file, or cannot be stat'ed and `open` raises OSError(errno) (ENOENT, ENOTDIR,
  ELOOP, ENAMETOOLONG, EACCES …), or can be stat'ed but `open` raises OSError(errno) (EISDIR,
  EACCES, ENXIO, EMFILE, EIO …), or is a regular file one byte of which makes `read` raise
  OSError(errno).  `owed` (Spec/VerifyFs.lean) fixes the documented error each state owes: a wrong
  size that stat shows is VerifyFileSizeError, everything else is ReadError carrying the errno of
  the OSError — whatever that errno is.

  * `C02_fs_conservative`        on the two classic states `verifyFs` *is* `verifySeq`, so every
                                 theorem of C02.lean speaks about it verbatim
  * `C02_fs_classic_projection`  … and more generally whenever no byte is unreadable and no path
                                 of the recorded size is unopenable
  * `C02_fs_iff`                 no callback: `True` ⇔ every path is a regular file of the recorded
                                 size whose content has the stored digests (unconditional)
  * `C02_fs_first_damaged_nocb`, `C02_fs_first_damaged_cb`, `C02_fs_first_damaged_errno`
                                 the first file that owes an error gets exactly that error:
                                 raised without a callback (unless an earlier piece differs),
                                 handed to the callback (or raised, for an unreadable byte); its
                                 ReadError carries the errno of the OSError `open` raised
  * `C02_fs_callback`            with a callback, no `read` failing: result, the read/size errors
                                 (sound, each bad file at most once, in order, complete for what
                                 stat shows), content errors, nothing else, progress arguments
  * `C02_fs_nocb_first_exception` without a callback the first of those exceptions is raised
  * `C02_fs_read_fault`          a failing `read`: ReadError naming that file is raised (callback
                                 or not); what the callback saw before is a prefix of the run with
                                 the byte readable
  * `C02_fs_exceptions`          the exceptions of a run in terms of the projected disk
  * `C02_fs_documented`          every outcome is `True`/`False` or a documented error that is
                                 owed: no internal error, no error naming a good file
  Hypotheses where needed: `0 < L`, a proper path kind, `pieces` of the right length and (as in
  C10) no *bad* zero-length entry (`NoBadEmpty` of the projected disk, finding D10a).
-/
import Torf.Properties.C02
import Torf.Lemmas.VerifyFsFault
namespace Torf.C02
open Torf Torf.Missing Torf.Verify Torf.VerifyFs

variable {α δ : Type} [Inhabited α] [DecidableEq δ]

/-- **Projection.** Without unreadable bytes and without paths of the recorded size that cannot
    be opened, every state behaves like one of the two classic ones: a path that cannot be opened
    like a missing file, a path whose stat size is wrong like a file of that size. -/
theorem C02_fs_classic_projection (H : List α → δ) (L : Nat) (sizes : List Nat)
    (fd : List (FState α)) (stored : List δ) (hasCb single pathIsDir : Bool)
    (hr : NoReadErr fd = true) (hs : NoSilent sizes fd = true) :
    verifyFs H L sizes fd stored hasCb single pathIsDir =
      verifySeq H L sizes (mainDisk sizes fd) stored hasCb single pathIsDir := by
  apply verifyFs_of_fold
  exact fold_fs_step L sizes fd _ (fun j _ => not_readFails_of_noReadErr sizes fd hr j)
    (fun j _ st => by rw [statDisk_of_noSilent sizes fd hs, step2_self])

/-- **Conservative extension.** A classic disk (`none` = no such file, `some c` = a regular file)
    read as a description over the full alphabet gives the classic model: all theorems of
    `C02.lean` are theorems about `verifyFs`. -/
theorem C02_fs_conservative (H : List α → δ) (L : Nat) (sizes : List Nat)
    (disk : List (Option (List α))) (stored : List δ) (hasCb single pathIsDir : Bool) :
    verifyFs H L sizes (ofClassic disk) stored hasCb single pathIsDir =
      verifySeq H L sizes disk stored hasCb single pathIsDir := by
  rw [C02_fs_classic_projection H L sizes _ stored hasCb single pathIsDir (noReadErr_ofClassic disk)
    (noSilent_ofClassic sizes disk), mainDisk_ofClassic]

/-- **The first damaged file, without a callback.** If file `j0` is the first (in metainfo
    order) that owes an error, `verify` raises exactly that error — ReadError for every OSError
    of `open`/`read`, VerifyFileSizeError for a wrong stat size — unless a piece before it
    already differs (VerifyContentError) or an internal error escapes (excluded by
    `C02_fs_documented` under its hypotheses). -/
theorem C02_fs_first_damaged_nocb (H : List α → δ) (L : Nat) (sizes : List Nat)
    (fd : List (FState α)) (stored : List δ) (single pathIsDir : Bool)
    (hp : ProperPath single pathIsDir) (j0 : Nat) (o : Owed) (hj0 : j0 < sizes.length)
    (hbad : owedAt sizes fd j0 = some o) (hfirst : ∀ k < j0, owedAt sizes fd k = none) :
    let r := (verifyFs H L sizes fd stored false single pathIsDir).1
    r = .error (owedErr j0 o) ∨ r = .error .internal ∨ ∃ p fs, r = .error (.content p fs) := by
  intro r
  have hr : r = _ :=
    congrArg Prod.fst (verifyFs_eq_collect H L sizes fd stored false single pathIsDir hp)
  cases hit : iterItemsFs L sizes fd with
  | none => simp only [hit] at hr; exact Or.inr (Or.inl hr)
  | some run =>
    obtain ⟨pre, tail, hitems, htail⟩ :=
      iterItemsFs_first_damaged L sizes fd j0 o hj0 hbad hfirst run hit
    simp only [hit, collect_nocb, hitems, List.zipIdx_append, List.findSome?_append] at hr
    -- the data items before decide first; they can only raise an internal or a content error
    cases hpre : (pre.map dataItem).zipIdx.findSome? (itemExc H L sizes stored) with
    | some e =>
      rw [hpre] at hr
      rcases itemExc_dataItems_kind H L sizes stored pre 0 e hpre with rfl | ⟨p, fs, rfl⟩
      · exact Or.inr (Or.inl hr)
      · exact Or.inr (Or.inr ⟨p, fs, hr⟩)
    | none =>
      rw [hpre, Option.none_or] at hr
      left
      rcases htail with ⟨kind, es, rest, rfl, ho, _⟩ | ⟨rfl, e, hf, ho⟩
      · rw [List.zipIdx_cons, List.findSome?_cons,
          itemExc_of_head H L sizes stored _ _ (j0, kind) rfl] at hr
        rw [hr, ho]
      · rw [hr, hf, ho]
        rfl

/-- **Exactness (iff).** Without a callback `verify` returns `True` if and only if every listed
    path is a regular file of exactly the recorded size all of whose bytes can be read, and the
    digests of the consecutive chunks of the content equal the stored ones — for every layout,
    piece length and state of every path. -/
theorem C02_fs_iff (H : List α → δ) (L : Nat) (hL : 0 < L) (sizes : List Nat)
    (fd : List (FState α)) (stored : List δ) (single pathIsDir : Bool)
    (hp : ProperPath single pathIsDir) :
    (verifyFs H L sizes fd stored false single pathIsDir).1 = .ok true ↔
      SpecOkFs H L sizes fd stored = true := by
  cases hg : AllGoodFs sizes fd with
  | true =>
    rw [verifyFs_of_allGoodFs H L sizes fd stored false single pathIsDir hg,
      ← specOk_of_allGoodFs H L sizes fd stored hg]
    exact C02_iff H L hL sizes (mainDisk sizes fd) stored single pathIsDir hp
  | false =>
    have hs : SpecOkFs H L sizes fd stored = false := by unfold SpecOkFs; simp [hg]
    simp only [hs, Bool.false_eq_true, iff_false]
    -- the first file that owes an error has it raised, unless something else is raised before
    obtain ⟨j0, o, hj0, hbad, hfirst⟩ := exists_first_some (owedAt sizes fd) _ hg
    have := C02_fs_first_damaged_nocb H L sizes fd stored single pathIsDir hp j0 o hj0 hbad hfirst
    simp only at this
    rcases this with h | h | ⟨p, fs, h⟩ <;> rw [h] <;> simp

/-! non-vacuity / concrete instances (computed by the kernel): a symlink loop (ELOOP = 40), a
    directory of the recorded size (EISDIR = 21), an unreadable byte (EIO = 5) -/
example : (verifyFs (fun p : List Nat => p) 3 [2, 4, 0, 2]
    [.file [1, 2], .file [3, 4, 5, 6], .file [], .file [7, 8]] [[1, 2, 3], [4, 5, 6], [7, 8]]
    false false true).1 = .ok true := by decide +kernel
example : (verifyFs (fun p : List Nat => p) 3 [2, 4, 0, 2]
    [.file [1, 2], .gone 40, .file [], .file [7, 8]] [[1, 2, 3], [4, 5, 6], [7, 8]]
    false false true).1 = .error (.read 1) := by decide +kernel
example : (verifyFs (fun p : List Nat => p) 3 [2, 4, 0, 2]
    [.file [1, 2], .noOpen 4 21, .file [], .file [7, 8]] [[1, 2, 3], [4, 5, 6], [7, 8]]
    false false true).1 = .error (.read 1) := by decide +kernel
example : (verifyFs (fun p : List Nat => p) 3 [2, 4, 0, 2]
    [.file [1, 2], .noOpen 40 21, .file [], .file [7, 8]] [[1, 2, 3], [4, 5, 6], [7, 8]]
    false false true).1 = .error (.size 1) := by decide +kernel
example : verifyFs (fun p : List Nat => p) 3 [2, 4, 0, 2]
    [.file [1, 2], .readErr [3, 4, 5, 6] 2 5, .file [], .file [7, 8]]
    [[1, 2, 3], [4, 5, 6], [7, 8]] true false true =
    (.error (.read 1), [⟨1, 0, some [1, 2, 3], none⟩]) := by decide +kernel

/-- **Callback run.** For a proper path, any layout, piece length and state of every listed path
    (no bad zero-length entry, as in C10), a `pieces` field of the right length, and no `read`
    failing (`C02_fs_read_fault` is the other case), `verify` with a (passive) callback
    * never raises and returns exactly `SpecOkFs`;
    * hands the callback ReadErrors / VerifyFileSizeErrors only for files that owe exactly that
      error, each such file at most once, in file order …
    * … among them every file whose damage `stat` shows (missing, not stat-able, wrong size),
      and — when no path of the recorded size is unopenable — every damaged file;
    * hands it exactly one VerifyContentError per piece that carries data and whose digest differs
      from the stored one (in piece order), naming `corruptFiles` of that piece, in a call whose
      `piece_index` is that piece; and no other kind of exception;
    * reports at least one exception whenever it returns `False`;
    * and every call has `pieces_done = piece_index + 1 ≥ 1`, `piece_index < nPieces`. -/
theorem C02_fs_callback (H : List α → δ) (L : Nat) (hL : 0 < L) (sizes : List Nat)
    (fd : List (FState α)) (stored : List δ) (single pathIsDir : Bool)
    (hp : ProperPath single pathIsDir)
    (hyp : NoBadEmpty sizes (mainDisk sizes fd) = true)
    (hlen : stored.length = nPieces L sizes.sum) (hnf : readFault L sizes fd = none) :
    let r := verifyFs H L sizes fd stored true single pathIsDir
    r.1 = .ok (SpecOkFs H L sizes fd stored) ∧
    ((excsOf r.2).filter isFileErr).Sublist ((badFiles sizes (mainDisk sizes fd)).map excOf) ∧
    (∀ e ∈ (excsOf r.2).filter isFileErr, ∃ k o, k < sizes.length ∧
      owedAt sizes fd k = some o ∧ e = owedErr k o) ∧
    ((badFiles sizes (statDisk fd)).map excOf).Sublist ((excsOf r.2).filter isFileErr) ∧
    (NoSilent sizes fd = true →
      (excsOf r.2).filter isFileErr = (badFiles sizes (mainDisk sizes fd)).map excOf) ∧
    (excsOf r.2).filter isContentErr =
      (mismatches H L sizes (mainDisk sizes fd) stored).map
        (fun p => VErr.content p (corruptFiles L sizes p)) ∧
    (∀ e ∈ excsOf r.2, isFileErr e = true ∨ isContentErr e = true) ∧
    (∀ c ∈ r.2, ∀ p fs, c.exc = some (.content p fs) → c.piece = p) ∧
    (SpecOkFs H L sizes fd stored = false → ∃ c ∈ r.2, c.exc.isSome = true) ∧
    (∀ c ∈ r.2, 1 ≤ c.done ∧ c.piece < nPieces L sizes.sum ∧ c.done = c.piece + 1) := by
  obtain ⟨items, run, hcb, _⟩ :=
    verifyFs_run H L hL sizes fd stored single pathIsDir hp hyp hlen hnf
  intro r
  rw [show r = _ from hcb]
  refine ⟨rfl, ?_, ?_, ?_, ?_, run.toTrace.calls⟩
  · rw [excs_file]
    exact List.Sublist.map _ run.repSub
  · intro e he
    rw [excs_file] at he
    obtain ⟨x, hx, rfl⟩ := List.mem_map.mp he
    exact owed_of_badFiles sizes fd x (run.repSub.subset hx)
  · rw [excs_file]
    exact List.Sublist.map _ run.repSup
  · -- under `NoSilent` the two bounds `repSub`, `repSup` are the same list
    intro hns
    rw [excs_file]
    congr 1
    have heq : badFiles sizes (statDisk fd) = badFiles sizes (mainDisk sizes fd) := by
      rw [statDisk_of_noSilent sizes fd hns]
    have hsup : (badFiles sizes (mainDisk sizes fd)).Sublist (reported items) := by
      rw [← heq]; exact run.repSup
    exact run.repSub.eq_of_length_le hsup.length_le

/-! non-vacuity of the hypotheses of `C02_fs_callback`, and a concrete trace: file 1 is a directory
    of the recorded size (ReadError, EISDIR), file 2 — wholly inside piece 1, which file 1 already
    blanks — has the recorded size but cannot be opened and is not probed; file 3 is missing -/
def exFs : List (FState Nat) :=
  [.file [1, 2], .noOpen 3 21, .noOpen 1 13, .gone 2, .file [7, 8, 9]]

example : ProperPath false true ∧ NoBadEmpty [2, 3, 1, 1, 3] (mainDisk [2, 3, 1, 1, 3] exFs) = true ∧
    [[1, 2, 3], [4, 5, 6], [0, 7, 8], [9]].length = nPieces 3 [2, 3, 1, 1, 3].sum ∧
    readFault 3 [2, 3, 1, 1, 3] exFs = none ∧ NoSilent [2, 3, 1, 1, 3] exFs = false :=
  ⟨rfl, by decide +kernel, by decide +kernel, by decide +kernel, by decide +kernel⟩
example : verifyFs (fun p : List Nat => p) 3 [2, 3, 1, 1, 3] exFs
    [[1, 2, 3], [4, 5, 6], [0, 7, 8], [9]] true false true =
    (.ok false, [⟨1, 0, none, some (.read 1)⟩, ⟨2, 1, none, none⟩,
                 ⟨3, 2, none, some (.read 3)⟩, ⟨4, 3, some [9], none⟩]) := by decide +kernel
example : badFiles [2, 3, 1, 1, 3] (mainDisk [2, 3, 1, 1, 3] exFs) =
    [(1, .read), (2, .read), (3, .read)] ∧
    badFiles [2, 3, 1, 1, 3] (statDisk exFs) = [(3, .read)] := by decide +kernel

/-- **First exception.** Without a callback `verify` raises the first exception the callback
    would have been handed, and returns `True` if there is none (no `read` failing). -/
theorem C02_fs_nocb_first_exception (H : List α → δ) (L : Nat) (hL : 0 < L) (sizes : List Nat)
    (fd : List (FState α)) (stored : List δ) (single pathIsDir : Bool)
    (hp : ProperPath single pathIsDir)
    (hyp : NoBadEmpty sizes (mainDisk sizes fd) = true)
    (hlen : stored.length = nPieces L sizes.sum) (hnf : readFault L sizes fd = none) :
    verifyFs H L sizes fd stored false single pathIsDir =
      (match (excsOf (verifyFs H L sizes fd stored true single pathIsDir).2).head? with
        | some e => .error e
        | none => .ok true, []) := by
  obtain ⟨items, _, hcb, hnocb⟩ :=
    verifyFs_run H L hL sizes fd stored single pathIsDir hp hyp hlen hnf
  rw [hnocb, hcb]
  rfl

/-- **Unreadable byte.** If a `read` fails (OSError with any errno, at any offset of any file —
    the first, a middle or the last one — including the `read` that would hit end-of-file), then
    * the error that file owes is ReadError(errno) (it is a regular file of the recorded size with
      an unreadable byte: `ReadFails`, first conjunct of `iterItemsFs_fault`);
    * `verify` raises ReadError naming that file, with a callback as well as without one (without
      a callback an exception the callback would have been handed earlier comes first);
    * what the callback was handed before is a prefix of what it is handed when the byte is
      readable — to that run `C02_fs_callback` applies: nothing was reported that is not owed. -/
theorem C02_fs_read_fault (H : List α → δ) (L : Nat) (hL : 0 < L) (sizes : List Nat)
    (fd : List (FState α)) (stored : List δ) (single pathIsDir : Bool)
    (hp : ProperPath single pathIsDir)
    (hyp : NoBadEmpty sizes (mainDisk sizes fd) = true)
    (hlen : stored.length = nPieces L sizes.sum) (j e : Nat)
    (h : readFault L sizes fd = some (j, e)) :
    let cb := verifyFs H L sizes fd stored true single pathIsDir
    let nocb := verifyFs H L sizes fd stored false single pathIsDir
    j < sizes.length ∧ owedAt sizes fd j = some (.read e) ∧
    cb.1 = .error (.read j) ∧
    cb.2 <+: (verifyFs H L sizes (heal fd) stored true single pathIsDir).2 ∧
    (readFault L sizes (heal fd) = none ∧
      NoBadEmpty sizes (mainDisk sizes (heal fd)) = true ∧
      mainDisk sizes (heal fd) = mainDisk sizes fd ∧ statDisk (heal fd) = statDisk fd) ∧
    nocb.1 = (match (excsOf cb.2).head? with
      | some x => .error x
      | none => .error (.read j)) := by
  intro cb nocb
  obtain ⟨hrf, hj, items, calls, _, _, hcb, hpre, hno⟩ :=
    verifyFs_fault H L hL sizes fd stored single pathIsDir hp hyp hlen j e h
  have hcb' : cb = (.error (.read j), calls) := hcb
  refine ⟨hj, owed_of_readFails sizes fd j e hrf, by rw [hcb'], by rw [hcb']; exact hpre,
    heal_spec L sizes fd hyp, ?_⟩
  rw [hcb']
  exact hno

/-! non-vacuity of `C02_fs_read_fault`: byte 2 of file 1 is unreadable (EIO); piece 0 was read -/
example : readFault 3 [2, 4, 0, 2]
    ([.file [1, 2], .readErr [3, 4, 5, 6] 2 5, .file [], .file [7, 8]] : List (FState Nat))
    = some (1, 5) := by decide +kernel
example : readFault 3 [2, 4, 0, 2]
    ([.gone 2, .readErr [3, 4, 5, 6] 0 5, .file [], .file [7, 8]] : List (FState Nat))
    = none := by decide +kernel     -- the unreadable byte lies in the piece the missing file 0 blanks: it is skipped

/-- what an exception handed to the callback or raised may be: the error a file owes, or the
    content error of a data piece whose digest differs -/
def Documented (H : List α → δ) (L : Nat) (sizes : List Nat) (fd : List (FState α))
    (stored : List δ) (x : VErr) : Prop :=
  (∃ k o, k < sizes.length ∧ owedAt sizes fd k = some o ∧ x = owedErr k o) ∨
  (∃ p ∈ mismatches H L sizes (mainDisk sizes fd) stored,
    x = .content p (corruptFiles L sizes p))

/-- **Exceptions of a run.** Every exception handed to the callback (no `read` failing) is the
    error of a file that is bad on the projected disk, or the content error of a data piece whose
    digest differs. -/
theorem C02_fs_exceptions (H : List α → δ) (L : Nat) (hL : 0 < L) (sizes : List Nat)
    (fd : List (FState α)) (stored : List δ) (single pathIsDir : Bool)
    (hp : ProperPath single pathIsDir)
    (hyp : NoBadEmpty sizes (mainDisk sizes fd) = true)
    (hlen : stored.length = nPieces L sizes.sum) (hnf : readFault L sizes fd = none) :
    ∀ x ∈ excsOf (verifyFs H L sizes fd stored true single pathIsDir).2,
      (∃ y ∈ badFiles sizes (mainDisk sizes fd), x = excOf y) ∨
      (∃ p ∈ mismatches H L sizes (mainDisk sizes fd) stored,
        x = .content p (corruptFiles L sizes p)) := by
  obtain ⟨items, run, hcb, _⟩ :=
    verifyFs_run H L hL sizes fd stored single pathIsDir hp hyp hlen hnf
  rw [hcb]
  intro x hx
  rcases run.toTrace.excs_cases x hx with ⟨y, hy, rfl⟩ | h
  · exact Or.inl ⟨y, run.repSub.subset hy, rfl⟩
  · exact Or.inr h

/-- **Only documented, owed outcomes.** For every state of every listed path:
    * with a callback `verify` returns `SpecOkFs`, or raises the ReadError a file with an
      unreadable byte owes; without one it returns `True` or raises;
    * every exception handed to the callback, and the exception raised without a callback, is the
      error owed by a listed file (ReadError for every OSError of `open`/`read` whatever its
      errno, VerifyFileSizeError for a wrong stat size) or the VerifyContentError of a data piece
      whose digest differs — never an undocumented exception, never an error about a file that is
      as recorded, never `False` without a callback. -/
theorem C02_fs_documented (H : List α → δ) (L : Nat) (hL : 0 < L) (sizes : List Nat)
    (fd : List (FState α)) (stored : List δ) (single pathIsDir : Bool)
    (hp : ProperPath single pathIsDir)
    (hyp : NoBadEmpty sizes (mainDisk sizes fd) = true)
    (hlen : stored.length = nPieces L sizes.sum) :
    let cb := verifyFs H L sizes fd stored true single pathIsDir
    let nocb := (verifyFs H L sizes fd stored false single pathIsDir).1
    (cb.1 = .ok (SpecOkFs H L sizes fd stored) ∨
      ∃ j e, j < sizes.length ∧ owedAt sizes fd j = some (.read e) ∧ cb.1 = .error (.read j)) ∧
    (∀ x ∈ excsOf cb.2, Documented H L sizes fd stored x) ∧
    (nocb = .ok true ∨ ∃ x, Documented H L sizes fd stored x ∧ nocb = .error x) := by
  intro cb nocb
  -- exceptions of a run without failing `read`, on a description with the same projections
  have key : ∀ g : List (FState α), mainDisk sizes g = mainDisk sizes fd →
      readFault L sizes g = none →
      ∀ x ∈ excsOf (verifyFs H L sizes g stored true single pathIsDir).2,
        Documented H L sizes fd stored x := by
    intro g hg hnf x hx
    have hyp' : NoBadEmpty sizes (mainDisk sizes g) = true := by rw [hg]; exact hyp
    rcases C02_fs_exceptions H L hL sizes g stored single pathIsDir hp hyp' hlen hnf x hx with
      ⟨y, hy, rfl⟩ | ⟨p, hp', rfl⟩
    · exact Or.inl (owed_of_badFiles sizes fd y (hg ▸ hy))
    · exact Or.inr ⟨p, hg ▸ hp', rfl⟩
  cases hrf : readFault L sizes fd with
  | none =>
    obtain ⟨hres, _⟩ := C02_fs_callback H L hL sizes fd stored single pathIsDir hp hyp hlen hrf
    have hdoc := key fd rfl hrf
    refine ⟨Or.inl hres, hdoc, ?_⟩
    have hno := C02_fs_nocb_first_exception H L hL sizes fd stored single pathIsDir hp hyp hlen hrf
    have hn : nocb = _ := congrArg Prod.fst hno
    rcases head?_cases (excsOf cb.2) with h | ⟨x, hx, h⟩
    · exact Or.inl (by rw [hn, h])
    · exact Or.inr ⟨x, hdoc x hx, by rw [hn, h]⟩
  | some je =>
    obtain ⟨j, e⟩ := je
    obtain ⟨hj, hown, hres, hpre, ⟨hnf', _, hmd, _⟩, hno⟩ :=
      C02_fs_read_fault H L hL sizes fd stored single pathIsDir hp hyp hlen j e hrf
    have hdoc : ∀ x ∈ excsOf cb.2, Documented H L sizes fd stored x := by
      intro x hx
      apply key (heal fd) hmd hnf' x
      exact (List.IsPrefix.filterMap _ hpre).subset hx
    refine ⟨Or.inr ⟨j, e, hj, hown, hres⟩, hdoc, Or.inr ?_⟩
    have hn : nocb = _ := hno
    rcases head?_cases (excsOf cb.2) with h | ⟨x, hx, h⟩
    · exact ⟨.read j, Or.inl ⟨j, .read e, hj, hown, rfl⟩, by rw [hn, h]⟩
    · exact ⟨x, hdoc x hx, by rw [hn, h]⟩

/-- **The first damaged file, with a callback.** The error owed by the first file (in metainfo
    order) that owes one is handed to the callback, or — for an unreadable byte — raised. -/
theorem C02_fs_first_damaged_cb (H : List α → δ) (L : Nat) (hL : 0 < L) (sizes : List Nat)
    (fd : List (FState α)) (stored : List δ) (single pathIsDir : Bool)
    (hp : ProperPath single pathIsDir)
    (hyp : NoBadEmpty sizes (mainDisk sizes fd) = true)
    (hlen : stored.length = nPieces L sizes.sum)
    (j0 : Nat) (o : Owed) (hj0 : j0 < sizes.length)
    (hbad : owedAt sizes fd j0 = some o) (hfirst : ∀ k < j0, owedAt sizes fd k = none) :
    let cb := verifyFs H L sizes fd stored true single pathIsDir
    owedErr j0 o ∈ excsOf cb.2 ∨ cb.1 = .error (owedErr j0 o) := by
  intro cb
  obtain ⟨run, hit, hcb⟩ :=
    verifyFs_cb_run H L hL sizes fd stored single pathIsDir hp hyp hlen
  obtain ⟨pre, tail, hitems, h⟩ := iterItemsFs_first_damaged L sizes fd j0 o hj0 hbad hfirst run hit
  rw [show cb = _ from hcb]
  rcases h with ⟨kind, es, rest, rfl, ho, _⟩ | ⟨_, e, hf, ho⟩
  · left
    rw [ho]
    exact mem_excs_of_item H L sizes stored _ _ _
      (hitems ▸ List.mem_append_right _ List.mem_cons_self) List.mem_cons_self
  · right
    rw [hf, ho]
    rfl

/-! non-vacuity of the hypotheses of `C02_fs_first_damaged_*`: file 1 of `exFs` (a directory of
    the recorded size) is the first that owes an error, a ReadError with EISDIR -/
example : 1 < [2, 3, 1, 1, 3].length ∧ owedAt [2, 3, 1, 1, 3] exFs 1 = some (.read 21) ∧
    ∀ k < 1, owedAt [2, 3, 1, 1, 3] exFs k = none := by decide +kernel

/-- **The errno of the first damaged file.** When the first file that owes an error owes a
    ReadError because `open` raised `OSError(errno)` — whatever the errno: ENOENT, EACCES,
    EISDIR, ENOTDIR, ELOOP, ENAMETOOLONG, EMFILE, EIO … — the item that reports it is an item of
    that file and the ReadError carries exactly that errno. -/
theorem C02_fs_first_damaged_errno (L : Nat) (sizes : List Nat) (fd : List (FState α))
    (j0 : Nat) (o : Owed) (hj0 : j0 < sizes.length)
    (hbad : owedAt sizes fd j0 = some o) (hfirst : ∀ k < j0, owedAt sizes fd k = none)
    (pre : List (List α)) (first : Item α) (rest : List (Item α)) (fault : Option (Nat × Nat))
    (hit : iterItemsFs L sizes fd = some ⟨pre.map dataItem ++ first :: rest, fault⟩)
    (hdata : first.data = none) :
    ∃ x, first.excs.head? = some x ∧ x.1 = j0 ∧ excOf x = owedErr j0 o ∧
      ∀ n, excErrno fd first x = some n → o = .read n := by
  obtain ⟨pre', tail, hitems, h⟩ :=
    iterItemsFs_first_damaged L sizes fd j0 o hj0 hbad hfirst _ hit
  -- `first` is the first item without data, however the list is cut
  have hfind : ∀ (p : List (List α)) (tl : List (Item α)),
      (p.map dataItem ++ tl).find? (·.data.isNone) = tl.find? (·.data.isNone) := by
    intro p tl
    rw [List.find?_append, List.find?_eq_none.mpr (by simp [dataItem]), Option.none_or]
  have hf : (first :: rest).find? (·.data.isNone) = tail.find? (·.data.isNone) := by
    rw [← hfind pre, ← hfind pre' tail]
    exact congrArg _ hitems
  simp only [List.find?_cons, hdata, Option.isNone_none] at hf
  rcases h with ⟨kind, es, rest', rfl, ho, herrno⟩ | ⟨rfl, _⟩
  · cases hf
    refine ⟨(j0, kind), rfl, rfl, ho.symm, ?_⟩
    intro n hn
    unfold excErrno at hn
    cases kind with
    | size => cases hn
    | read =>
      simp only [if_true, Option.some.injEq] at hn
      rw [herrno rfl, hn]
  · cases hf

end Torf.C02
