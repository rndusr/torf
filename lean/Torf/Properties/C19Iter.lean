/-
  C19 — content-stream objects: histories with KEPT (suspended) ITERATORS
  (`Torf.Model.HandlesIter`): `iterStart` creates an iterator that stays referenced, `iterNext s k`
  advances it by `k` items (it may stay suspended in the middle of a file), `iterDrop s` closes it;
  several may be alive at once, interleaved with indexed reads, hash checks, `close()`, context
  exit and re-use after close.

  `Obj.opened` = every descriptor the stream object has caused to be open and not closed yet —
  whether or not it sits in the table `_open_files`; `Row.nopen` its number after a step,
  `Row.ntbl` the size of the table.  `c.pop = false` = the code; `pop = true` = seeded change C19/b
  of round 4 (the generator takes the handle it reads from out of the table and re-inserts it in
  a `finally` clause), for which the descriptor theorems fail.
  All theorems: every layout, piece length, cap, geometry function, hash function, history.
-/
import Torf.Lemmas.HandlesIter
namespace Torf.C19
open Torf Torf.HandlesIter

/-- The descriptors a stream object keeps open are exactly the handles in its table, after every
    step of every history — however many iterators are suspended, wherever they are suspended:
    a suspended generator owns no descriptor, it only refers to a handle of the table. -/
theorem C19_iter_descriptors [BEq δ] (c : Cfg α δ) (hp : c.pop = false) (ops : List Op) :
    ∀ r ∈ runAll c ops {}, r.nopen = r.ntbl :=
  fun r hr => (runAll_good c hp ops {} (good_empty c.cap) r hr).1

/-- `C19_open_bound` over histories with live suspended iterators: never more than
    `max_open_files + 1` descriptors, counting every descriptor the object caused to be open. -/
theorem C19_iter_open_bound [BEq δ] (c : Cfg α δ) (hp : c.pop = false) (ops : List Op) :
    ∀ r ∈ runAll c ops {}, r.nopen ≤ c.cap + 1 :=
  fun r hr => (runAll_good c hp ops {} (good_empty c.cap) r hr).2

/-- `C19_close` over histories with live suspended iterators: after ANY history, `close()` and
    leaving the context leave no descriptor open and an empty table — the iterators that are still
    suspended keep nothing alive. -/
theorem C19_iter_close [BEq δ] (c : Cfg α δ) (hp : c.pop = false) (ops : List Op) :
    (run c .close (after c ops {})).obj.opened = [] ∧ (run c .close (after c ops {})).obj.tbl = [] ∧
      (run c .ctxExit (after c ops {})).obj.opened = [] ∧ (run c .ctxExit (after c ops {})).obj.tbl = [] := by
  have h := closeAll_good c.cap _ (after_good c hp ops {} (good_empty c.cap))
  exact ⟨h.2.1, h.1, h.2.1, h.1⟩

/-- What the code guarantees when an iterator is resumed AFTER `close()` (or after its handle was
    evicted): if it is suspended inside a file, `next()` raises ValueError("read of closed file"),
    the iterator is dead, and NOTHING is opened or changed — no descriptor comes back.  (An
    iterator that was never advanced, or that is exhausted, does not look at old handles at all:
    it behaves as on any other object with that table.) -/
theorem C19_iter_resume_closed [BEq δ] (c : Cfg α δ) (o : Obj α) (s k j hid off : Nat) (tr : List α)
    (hg : o.gens[s]? = some (.inFile j hid off tr none)) (hc : findHid o.tbl hid = none) :
    (run c (.iterNext s (k + 1)) o).out = .err .closedHandle ∧
      (run c (.iterNext s (k + 1)) o).obj = { o with gens := o.gens.set s .finished } := by
  refine ⟨?_, ?_⟩ <;> simp only [run, hg, pulls, pull_closed c j hid off tr o hc, pulledOut]

/-- … in particular right after `close()`: the table is empty, so every iterator suspended inside a
    file is in that situation. -/
theorem C19_iter_resume_after_close [BEq δ] (c : Cfg α δ) (hp : c.pop = false) (ops : List Op)
    (s k j hid off : Nat) (tr : List α)
    (hg : (run c .close (after c ops {})).obj.gens[s]? = some (.inFile j hid off tr none)) :
    (run c (.iterNext s (k + 1)) (run c .close (after c ops {})).obj).out = .err .closedHandle ∧
      (run c (.iterNext s (k + 1)) (run c .close (after c ops {})).obj).obj.opened = [] := by
  have hcl := C19_iter_close c hp ops
  have := C19_iter_resume_closed c _ s k j hid off tr hg (by rw [hcl.2.1]; rfl)
  exact ⟨this.1, by rw [this.2]; exact hcl.1⟩

/-- Suspension is transparent when nothing happens in between: `k1` calls of `next()` followed at
    once by `k2` more give the items, the iterator state and the object of `k1 + k2` calls. -/
theorem C19_iter_next_compose (c : Cfg α δ) (k1 k2 : Nat) (g : Gen α) (o : Obj α) (acc : List (List α)) :
    pulls c (k1 + k2) g o acc =
      match pulls c k1 g o acc with
      | (.ok acc1, g1, o1) => pulls c k2 g1 o1 acc1
      | r => r := by
  induction k1 generalizing g o acc with
  | zero => simp only [Nat.zero_add, pulls]
  | succ k ih =>
    rw [Nat.succ_add, pulls, pulls]
    have hs := pull_stop c g o
    rcases hr : pull c g o with ⟨r, g1, o1⟩
    rw [hr] at hs
    cases r with
    | item p => simp only; exact ih g1 o1 _
    | stop =>
      have : g1 = .finished := hs rfl
      subst this
      simp only [pulls_finished]
    | closedFile => rfl
    | fuel => rfl

/-! ### concrete data: files of 7, 5, 4 bytes, piece length 3 (6 pieces) -/

def cI (pop : Bool) (cap : Nat := 10) : Cfg Nat Nat :=
  { files := [[1, 2, 3, 4, 5, 6, 7], [8, 9, 10, 11, 12], [13, 14, 15, 16]], L := 3, cap := cap,
    geom := fun i => match i with
      | 0 => .ok ([0], 0)
      | 1 => .ok ([0], 3)
      | 2 => .ok ([0, 1], 6)
      | 3 => .ok ([1], 2)
      | 4 => .ok ([2], 0)
      | _ => .ok ([2], 3),
    H := List.sum, stored := [6, 15, 24, 33, 42, 31], pop := pop }

/-- The seeded change C19/b of round 4 (the generator pops the handle it reads from): an iterator
    suspended in the middle of a file keeps a descriptor that `close()` does not see. -/
theorem C19_iter_pop_close_counterexample :
    ¬ ∀ ops : List Op, (run (cI true) .close (after (cI true) ops {})).obj.opened = [] := by
  intro h
  have := h [.iterStart, .iterNext 0 1]
  revert this
  decide +kernel

/-- … and that the eviction loop does not count: `max_open_files + 2` descriptors (cap 0: the hidden
    handle of file 0 plus the handle `get_piece(4)` opens on file 2). -/
theorem C19_iter_pop_bound_counterexample :
    ¬ ∀ ops : List Op, ∀ r ∈ runAll (cI true 0) ops {}, r.nopen ≤ (cI true 0).cap + 1 := by
  intro h
  have := h [.iterStart, .iterNext 0 1, .getPiece 4] ⟨.piece [13, 14, 15], 2, 1⟩ (by decide)
  revert this
  decide +kernel

/-- the rows of that history for the code and for the variant: (answer, descriptors, table) -/
example : (runAll (cI false) [.iterStart, .iterNext 0 1, .close, .iterNext 0 1, .iterDrop 0] {}).map
      (fun r => (r.out, r.nopen, r.ntbl))
    = [(.none, 0, 0), (.pieces [[1, 2, 3]], 1, 1), (.none, 0, 0), (.err .closedHandle, 0, 0), (.none, 0, 0)] := by
  decide +kernel
example : (runAll (cI true) [.iterStart, .iterNext 0 1, .close, .iterNext 0 1, .iterDrop 0] {}).map
      (fun r => (r.out, r.nopen, r.ntbl))
    = [(.none, 0, 0), (.pieces [[1, 2, 3]], 1, 0), (.none, 1, 0), (.pieces [[4, 5, 6]], 1, 0), (.none, 1, 1)] := by
  decide +kernel

/-! ### the items of a resumed iterator: not history independent (finding D19f) -/

/-- "Whatever is done with the stream object between two advances of a kept iterator (other than
    closing the stream or the iterator), it goes on with the next pieces": FALSE for the code. -/
def C19_iter_resumed_full : Prop :=
  ∀ x : Op, x ≠ .close → x ≠ .ctxExit → (∀ k, x ≠ .iterNext 0 k) → x ≠ .iterDrop 0 →
    ((runAll (cI false) [.iterStart, .iterNext 0 1, x, .iterNext 0 7] {}).map (·.out))[3]? =
      some (.pieces [[4, 5, 6], [7, 8, 9], [10, 11, 12], [13, 14, 15], [16]])

/-- `get_piece(1)` between two advances moves the shared handle: the iterator skips piece 1. -/
theorem C19_iter_resumed_counterexample : ¬ C19_iter_resumed_full := by
  intro h
  have := h (.getPiece 1) (by decide) (by decide) (by intro k h; cases h) (by decide)
  revert this
  decide +kernel

/-- what is true: with nothing in between it does (`C19_iter_next_compose` in general; here the
    concrete answers), and an operation that does not touch the file the iterator is suspended in
    — nor evicts its handle — does no harm either -/
theorem C19_iter_resumed_partial :
    ((runAll (cI false) [.iterStart, .iterNext 0 1, .iterNext 0 7] {}).map (·.out))[2]? =
        some (.pieces [[4, 5, 6], [7, 8, 9], [10, 11, 12], [13, 14, 15], [16]]) ∧
      ((runAll (cI false) [.iterStart, .iterNext 0 1, .getPiece 4, .iterNext 0 7] {}).map (·.out))[3]? =
        some (.pieces [[4, 5, 6], [7, 8, 9], [10, 11, 12], [13, 14, 15], [16]]) := by
  decide +kernel

/-- the other two faces of D19f: a second iterator rewinds the shared handle (piece 1 twice), and
    with cap 0 a read in another file evicts and closes it (ValueError) -/
example : (runAll (cI false) [.iterStart, .iterStart, .iterNext 0 2, .iterNext 1 1, .iterNext 0 1] {}).map (·.out)
    = [.none, .none, .pieces [[1, 2, 3], [4, 5, 6]], .pieces [[1, 2, 3]], .pieces [[4, 5, 6]]] := by decide +kernel
example : (runAll (cI false 0) [.iterStart, .iterNext 0 1, .getPiece 4, .iterNext 0 1] {}).map
      (fun r => (r.out, r.nopen))
    = [(.none, 0), (.pieces [[1, 2, 3]], 1), (.piece [13, 14, 15], 1), (.err .closedHandle, 1)] := by decide +kernel

/-- `iterFull` / `iterAbandon k`, single operations in `Torf.Model.Handles`, are composites here (`pulls` from a fresh
    generator, then drop): a complete and an abandoned iteration on the same object -/
example : (runAll (cI false) [.iterAbandon 2, .iterFull, .verifyPiece 2, .close] {}).map (fun r => (r.out, r.nopen))
    = [(.pieces [[1, 2, 3], [4, 5, 6]], 1),
       (.pieces [[1, 2, 3], [4, 5, 6], [7, 8, 9], [10, 11, 12], [13, 14, 15], [16]], 3),
       (.bool true, 3), (.none, 0)] := by decide +kernel

end Torf.C19
