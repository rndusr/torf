/-
  C19 — content-stream objects give history-independent answers.
  Property theorems only (helper lemmas live in Torf.Lemmas.Handles and Torf.Lemmas.HandlesSpec).

  `Cfg` = torrent (piece length, stored hashes, geometry helpers), content on disk (`files`),
  handle cap, hash function.  `run c op t` = one public operation on an object whose handle table
  is `t`; `Reach c t` = `t` is the table of an object after some finite history of operations
  (complete or abandoned iterations, indexed reads, hash checks, closes, context exits).
  All theorems hold for every piece length, layout, cap, geometry function and hash function.
-/
import Torf.Lemmas.Handles
import Torf.Lemmas.HandlesSpec
namespace Torf.C19
open Torf Torf.Handles

/-- History independence: on an object with any past, every operation returns what it returns on
    a fresh object (for the code as it is, `fix = true`). -/
theorem C19_independent [BEq δ] (c : Cfg α δ) (hfix : c.fix = true) (t : Table) (_h : Reach c t)
    (op : Op) : (run c op t).out = (run c op []).out :=
  run_out_indep c hfix op t []

/-- The same for whole histories: the sequence of answers of any history is the sequence of the
    fresh-object answers of its operations. -/
theorem C19_history [BEq δ] (c : Cfg α δ) (hfix : c.fix = true) (ops : List Op) :
    (runAll c ops []).map (·.1) = ops.map fun op => (run c op []).out :=
  runAll_out c hfix ops []

/-- The answers are the specification's: chunks of the concatenated stream (first `k` of them
    for an iteration abandoned after `k` items), whatever was done with the object before. -/
theorem C19_iter_spec [BEq δ] (c : Cfg α δ) (hfix : c.fix = true) (hL : 0 < c.L) (t : Table)
    (_h : Reach c t) :
    (run c .iterFull t).out = .pieces (chunks c.L c.files.flatten) ∧
      ∀ k, (run c (.iterAbandon k) t).out = .pieces ((chunks c.L c.files.flatten).take k) :=
  ⟨run_iterFull_spec c hfix hL t, fun k => run_iterAbandon_spec c hfix hL k t⟩

/-- At most `max_open_files + 1` handles are open after any history … -/
theorem C19_open_bound [BEq δ] (c : Cfg α δ) (t : Table) (h : Reach c t) : t.length ≤ c.cap + 1 := by
  induction h with
  | init => simp
  | step op _ ih => exact run_bound c op _ ih

/-- … after every operation of a history (the sizes reported by `runAll`) … -/
theorem C19_open_bound_history [BEq δ] (c : Cfg α δ) (ops : List Op) :
    ∀ r ∈ runAll c ops [], r.2 ≤ c.cap + 1 :=
  runAll_bound c ops [] (by simp)

/-- … and at every intermediate point: each primitive step on the table (`_get_open_file`,
    `seek`, `read`) preserves the bound (all operations are compositions of these). -/
theorem C19_step_bound (files : List (List α)) (cap : Nat) (t : Table) (j n : Nat)
    (h : t.length ≤ cap + 1) :
    (getOpenFile cap t j).length ≤ cap + 1 ∧ (seek t j n).length ≤ cap + 1 ∧
      (read files t j n).2.1.length ≤ cap + 1 := by
  refine ⟨length_getOpenFile_le cap t j h, ?_, ?_⟩
  · rw [length_seek]; exact h
  · rw [length_read]; exact h

/-- `close()` and leaving the context close every handle, whatever the table was. -/
theorem C19_close [BEq δ] (c : Cfg α δ) (t : Table) :
    (run c .close t).tbl = [] ∧ (run c .ctxExit t).tbl = [] :=
  ⟨closeAll_self t, closeAll_self t⟩

/-- No operation ever reads from a handle that has been evicted/closed, and no fuelled loop of
    the model runs dry (so the model's error values `closedHandle`/`fuel` are never produced by
    an iteration). -/
theorem C19_iter_no_internal_error [BEq δ] (c : Cfg α δ) (hfix : c.fix = true) (hL : 0 < c.L)
    (t : Table) (_h : Reach c t) (k : Nat) :
    (∃ ps, (run c .iterFull t).out = .pieces ps) ∧ ∃ ps, (run c (.iterAbandon k) t).out = .pieces ps :=
  ⟨⟨_, (C19_iter_spec c hfix hL t _h).1⟩, ⟨_, (C19_iter_spec c hfix hL t _h).2 k⟩⟩

/-- `get_piece` never reads from a closed handle either (its only errors are the ones of the
    range check, of the geometry helpers and of the final length assertion). -/
theorem C19_getPiece_no_closed_handle (c : Cfg α δ) (hg : ∀ n, c.geom n ≠ .error .closedHandle)
    (i : Int) (t : Table) : (getPiece c i t).1 ≠ .error .closedHandle := by
  rw [getPiece_eq]
  split
  · exact fun h => nomatch h
  · split
    · rename_i e he
      exact fun h => hg i.toNat (he.trans (congrArg _ (Except.error.inj h)))
    · simp only
      split <;> exact fun h => nomatch h

/-! ### the code before commit b86c84a (`fix = false`) is *not* history independent -/

/-- three files of 2, 4, 2 bytes, piece length 3 -/
def c0 (fix : Bool) : Cfg Nat Nat :=
  { files := [[1, 2], [3, 4, 5, 6], [7, 8]], L := 3, cap := 10,
    geom := fun i => match i with
      | 0 => .ok ([0, 1], 0)
      | 1 => .ok ([1], 1)
      | _ => .ok ([2], 0),
    H := List.sum, stored := [6, 15, 15], fix := fix }

/-- Without the unconditional `fh.seek(skip_bytes)` the second complete iteration on one object
    yields nothing (defect D19a, repaired in /repo by b86c84a). -/
theorem C19_prefix_counterexample :
    ¬ ∀ (t : Table) (op : Op), Reach (c0 false) t → (run (c0 false) op t).out = (run (c0 false) op []).out := by
  intro h
  have := h (run (c0 false) .iterFull []).tbl .iterFull (.step _ .init)
  revert this
  decide +kernel

/-! ### non-vacuity: reachable tables with handles parked at non-zero offsets exist, and the
    current code answers correctly from them -/

example : Reach (c0 true) (run (c0 true) (.iterAbandon 1) (run (c0 true) (.getPiece 1) []).tbl).tbl :=
  .step _ (.step _ .init)
example : (run (c0 true) (.iterAbandon 1) (run (c0 true) (.getPiece 1) []).tbl).tbl = [(1, 1), (0, 2)] := by
  decide +kernel
example : (runAll (c0 true) [.getPiece 1, .iterAbandon 1, .iterFull, .verifyPiece 2, .verifyPiece 1,
      .getPiece 3, .close] []).map (·.1)
    = [.piece [4, 5, 6], .pieces [[1, 2, 3]], .pieces [[1, 2, 3], [4, 5, 6], [7, 8]], .bool true,
       .bool true, .err .value, .none] := by
  decide +kernel
/-- eviction: cap 1 keeps at most 2 handles -/
example : (runAll { c0 true with cap := 1 } [.iterFull, .getPiece 0] []).map (·.2) = [2, 2] := by
  decide +kernel

/-- The stored hashes are an argument of `verify_piece`, not state of the stream object: in a
    history that also replaces `info['pieces']` between operations, every operation answers what a
    fresh object answers with the hashes stored *at that moment*. -/
theorem C19_history_hashes [BEq δ] (c : Cfg α δ) (hfix : c.fix = true) (ss : List (Step δ)) :
    (runAllS c ss []).map (·.1) = freshAllS c ss :=
  runAllS_out c hfix ss []

/-- … and the handle bound is not affected by such replacements. -/
theorem C19_open_bound_history_hashes [BEq δ] (c : Cfg α δ) (ss : List (Step δ)) :
    ∀ r ∈ runAllS c ss [], r.2 ≤ c.cap + 1 :=
  runAllS_bound c ss [] (by simp)

/-- non-vacuity: `verify_piece 1` is `true`, after the stored hash of piece 1 was replaced it is
    `false` on the same object, after the hashes were removed it is a ValueError -/
example : (runAllS (c0 true) [.op (.verifyPiece 1), .setStored [6, 0, 15], .op (.verifyPiece 1),
      .setStored [], .op (.verifyPiece 1)] []).map (·.1)
    = [.bool true, .none, .bool false, .none, .err .value] := by
  decide +kernel

/-! ### damaged disks: the `_MissingPieces` record is created per `iter_pieces()` call -/

/-- On a disk with missing / mis-sized files a complete sequential iteration answers
    `Missing.iterItems L sizes disk` — a function of piece length, layout and disk only (C10 proves
    what it is) — whatever iterations the object has performed before. -/
theorem C19_damaged_iter_independent (L : Nat) (sizes : List Nat) (disk : List (Option (List α)))
    (m : MRec) (_h : ReachM true L sizes disk m) :
    (iterDamaged true L sizes disk m).1 = (iterDamaged true L sizes disk {}).1 := rfl

theorem C19_damaged_iter_spec (L : Nat) (sizes : List Nat) (disk : List (Option (List α)))
    (m : MRec) (_h : ReachM true L sizes disk m) :
    (iterDamaged true L sizes disk m).1 = Missing.iterItems L sizes disk := rfl

/-- files of 5, 5, 1, 8, 3 bytes, piece length 4, file 1 missing: its last piece (2) also holds
    the by-catch file 2 and the first byte of file 3 -/
def dSizes : List Nat := [5, 5, 1, 8, 3]
def dDisk : List (Option (List Nat)) :=
  [some [0, 1, 2, 3, 4], none, some [10], some [11, 12, 13, 14, 15, 16, 17, 18], some [19, 20, 21]]

/-- One `_MissingPieces` record per stream object (instead of per call) is *not* history
    independent: the second complete iteration reports fewer `None` pieces, so every later piece
    shifts (model-level image of the seeded regression C19/a). -/
theorem C19_shared_missing_counterexample :
    ¬ ∀ (m : MRec), ReachM false 4 dSizes dDisk m →
      ((iterDamaged false 4 dSizes dDisk m).1.map fun its => its.map (·.data))
        = ((iterDamaged false 4 dSizes dDisk {}).1.map fun its => its.map (·.data)) := by
  intro h
  have := h _ (.step .init)
  revert this
  decide +kernel

/-- non-vacuity / what the current code answers there: six items, pieces 1 and 2 are `None` -/
example : ((iterDamaged true 4 dSizes dDisk {}).1.map fun its => its.map (·.data))
    = some [some [0, 1, 2, 3], none, none, some [12, 13, 14, 15], some [16, 17, 18, 19], some [20, 21]] := by
  decide +kernel
/-- … and what an object with a shared record answers the second time: one `None` fewer -/
example : ((iterDamaged false 4 dSizes dDisk (iterDamaged false 4 dSizes dDisk {}).2).1.map
      fun its => its.map (·.data))
    = some [some [0, 1, 2, 3], none, some [12, 13, 14, 15], some [16, 17, 18, 19], some [20, 21]] := by
  decide +kernel

end Torf.C19
