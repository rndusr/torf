/-
  C01 — `generate()` depends only on the bytes the listed files contain when it runs
  (`Model/GenHistory.lean`): not on other `TorrentFileStream` objects that are open on the same
  files, not on what they have read, not on handles that still name replaced inodes, not on
  earlier `generate()` runs.  For EVERY history of the process.
-/
import Torf.Properties.C01
import Torf.Lemmas.GenHistory
namespace Torf.C01
open Torf Torf.Stream Torf.Generate Torf.GenHistory

/-- One `generate()` in an arbitrary world (any inode store, any other streams with any tables,
    any class-level leftovers): the private stream reads the current bytes, and the run stores
    `map H (chunks L (current stream))`. -/
theorem C01_generate_reads_current (H : List α → δ) (L cap : Nat) (hL : 0 < L) (w : World α)
    (hne : 0 < (w.cur.map List.length).sum) :
    (step false H L cap w .generate).2 = some (.stored ((chunks L w.cur.flatten).map H)) ∧
      (step false H L cap w .generate).1 = w := by
  simp only [step, readAll_private]
  exact ⟨congrArg some (C01_generate_spec H L hL w.cur hne _ (List.Perm.refl _)), by trivial⟩

/-- … in particular the result does not change when the other streams' handle tables are replaced
    by anything else. -/
theorem C01_generate_ignores_other_streams (H : List α → δ) (L cap : Nat) (w : World α)
    (streams' : List Table) (cls' : Table) :
    (step false H L cap { w with streams := streams', cls := cls' } .generate).2 =
      (step false H L cap w .generate).2 := by
  simp only [step, readAll_private]
  rfl

/-- **History independence.**  Start from the files `files₀`; let the process do anything:
    create stream objects, let them open any files (`touch`), close them, replace listed files
    atomically or rewrite them in place (same size), run `generate()` any number of times.  Every
    `generate()` returns True and stores the SHA-1 (`H`) of the consecutive chunks of the bytes
    the files contain *at that moment* — the sequence of outcomes is the one computed by the
    specification `specHist`, whose only state is the list of current contents. -/
theorem C01_generate_history (H : List α → δ) (L cap : Nat) (hL : 0 < L) (files₀ : List (List α))
    (hne : 0 < (files₀.map List.length).sum) (ops : List (Op α))
    (hsz : sizesKept (files₀.map List.length) ops = true) :
    runHist false H L cap (World.init files₀) ops = specHist H L files₀ ops := by
  -- the specification's state is the current contents of a well-formed world
  suffices ∀ (ops : List (Op α)) (w : World α) (cur : List (List α)), WF w → w.cur = cur →
      cur.map List.length = files₀.map List.length → sizesKept (files₀.map List.length) ops = true →
      runHist false H L cap w ops = specHist H L cur ops from
    this ops _ _ (WF.init files₀) (cur_init files₀) rfl hsz
  intro ops
  induction ops with
  | nil => intro _ _ _ _ _ _; rfl
  | cons op ops ih =>
    intro w cur hw hcur hlen hk
    subst hcur
    obtain ⟨h1, h2, h3⟩ := step_private H L cap hw op
    unfold runHist
    simp only
    cases op with
    | replace j b | rewrite j b =>
      simp only [sizesKept, Bool.and_eq_true, beq_iff_eq] at hk
      rw [h3]
      exact ih _ _ h1 h2 (map_length_set_kept _ _ hlen j b hk.1) hk.2
    | newStream | touch s j | close s =>
      rw [h3]
      exact ih _ _ h1 h2 hlen hk
    | generate =>
      rw [h3]
      exact congr (congrArg List.cons (C01_generate_spec H L hL w.cur (hlen ▸ hne) _ (List.Perm.refl _)))
        (ih _ _ h1 h2 hlen hk)

/-- **One run, code as it is (no memo).**  In any well-formed world, with any other streams and
    any memo slot, the run is the specification's function of the Torrent's current metainfo and
    the current bytes; the world and the Torrent object are unchanged. -/
theorem C01_generate_one_run_current_metainfo (fp : Meta → List Nat) (H : List α → δ) (cap : Nat) (w : World α) (t : Tor)
    (hL : 0 < t.info.L) :
    genM false fp H cap w t = (specGen H t.info w.cur, w, t) := by
  unfold genM specGen filesOf
  simp only [Bool.false_eq_true, ↓reduceIte, readPaths_private, ← sizeOnDisk_eq_cur]
  cases hall : t.info.files.all fun e => sizeOnDisk w e.path == some e.length with
  | false =>
    -- some listed file is missing or has another size: the run fails (in either check)
    simp only [Bool.not_false, Bool.false_and, Bool.false_eq_true, ↓reduceIte]
    split <;> rfl
  | true =>
    have hmem : ∀ e ∈ t.info.files, sizeOnDisk w e.path = some e.length := fun e he => by
      simpa using List.all_eq_true.1 hall e he
    have hex : (t.info.files.all fun e => (sizeOnDisk w e.path).isSome) = true :=
      List.all_eq_true.2 fun e he => by rw [hmem e he]; rfl
    have hsum : (t.info.files.map fun e => (sizeOnDisk w e.path).getD 0).sum =
        (t.info.files.map (·.length)).sum :=
      congrArg List.sum (List.map_congr_left fun e he => by rw [hmem e he]; rfl)
    simp only [hex, hsum, Bool.not_true, Bool.false_or, Bool.true_and, Bool.false_eq_true, ↓reduceIte,
      decide_eq_true_eq]
    by_cases hpos : 1 ≤ (t.info.files.map (·.length)).sum
    · rw [if_neg (Nat.not_lt.2 hpos), if_pos hpos]
      -- the private stream read the current bytes of the listed paths, of the listed sizes
      have hcont : (t.info.files.map (·.path)).map (fun j => w.inodes.getD (w.dir.getD j 0) []) =
          t.info.files.map fun e => w.cur.getD e.path [] := by
        rw [List.map_map]
        exact List.map_congr_left fun e he => (cur_getD_of_sizeOnDisk (hmem e he)).1.symm
      have hlen : (t.info.files.map fun e => w.cur.getD e.path []).map List.length =
          t.info.files.map (·.length) := by
        rw [List.map_map]
        exact List.map_congr_left fun e he => (cur_getD_of_sizeOnDisk (hmem e he)).2
      have hspec := C01_generate_spec H t.info.L hL (t.info.files.map fun e => w.cur.getD e.path [])
        (by rw [hlen]; exact hpos) _ (List.Perm.refl _)
      unfold Generate.run at hspec
      rw [hlen] at hspec
      rw [hcont, hspec, List.flatMap_def]
    · rw [if_pos (Nat.lt_of_not_le hpos), if_neg hpos]

/-- Histories on the metainfo side, for the code's `files` getter and for a memoising one with a
    faithful key alike: in a well-formed world whose memo slots are sound, every run is the
    specification's function of the object's metainfo and the bytes on disk at that moment.  The
    specification's state (`ms`, `cur`) is the image of the world; each step kind says how the image
    moves (`infos_setMeta`, `infos_append`, `cur_create`, …).  `C01_generate_reads_current_metainfo`
    and `C01_memo_files_faithful` are this theorem at the initial world. -/
theorem runHistM_eq_specHistM (memo : Bool) (fp : Meta → List Nat)
    (hfp : memo = true → ∀ m m' : Meta, fp m = fp m' → m.files = m'.files) (H : List α → δ) (cap : Nat)
    (ops : List (MOp α)) : ∀ (w : MWorld α) (ms : List Meta) (cur : List (List α)), WF w.disk →
      (∀ t ∈ w.tors, MemoOk fp t) → infos w.tors = ms → w.disk.cur = cur → metasOk ms ops = true →
      runHistM memo fp H cap w ops = specHistM H ms cur ops := by
  induction ops with
  | nil => intro w _ _ _ _ _ _ _; rfl
  | cons op ops ih =>
    intro w ms cur hw hmemo hms hcur hk
    subst hms hcur
    unfold runHistM
    cases op with
    | disk dop =>
      obtain ⟨h1, h2⟩ := diskStep_private cap hw dop
      have := ih { w with disk := diskStep cap w.disk dop } _ _ h1 hmemo rfl h2 hk
      cases dop <;> exact this
    | create b => exact ih { w with disk := _ } _ _ (hw.create b) hmemo rfl (cur_create hw b) hk
    | setMeta k m =>
      simp only [metasOk, Bool.and_eq_true, decide_eq_true_eq] at hk
      exact ih { w with tors := _ } _ _ hw (memoOk_modifyTor hmemo fun _ ht => ht) (infos_setMeta ..) rfl
        (metasOk_set _ _ _ _ hk.1 hk.2)
    | newTor m =>
      simp only [metasOk, Bool.and_eq_true, decide_eq_true_eq] at hk
      refine ih { w with tors := _ } _ _ hw (fun x hx => ?_) (infos_append ..) rfl
        (metasOk_append _ _ _ hk.1 hk.2)
      rcases List.mem_append.1 hx with h | h
      · exact hmemo x h
      · cases List.mem_singleton.1 h; exact fun _ _ hm => nomatch hm
    | get k =>
      exact ih { w with tors := _ } _ _ hw (memoOk_modifyTor hmemo fun _ ht => (filesOf_ok hfp ht).2)
        (infos_modify_same _ _ _ (filesOf_info memo fp)) rfl hk
    | generate k =>
      simp only [mstep, specHistM, infos_getElem?]
      cases hk' : w.tors[k]? with
      | none => exact congrArg _ (ih w _ _ hw hmemo rfl rfl hk)
      | some t =>
        have hf := filesOf_ok hfp (hmemo t (List.mem_of_getElem? hk'))
        have hLt : 0 < t.info.L := metasOk_pos _ _ hk t.info
          (List.mem_map.2 ⟨t, List.mem_of_getElem? hk', rfl⟩)
        simp only [Option.map_some, genM_of_files memo fp H cap w.disk t hf.1,
          C01_generate_one_run_current_metainfo fp H cap w.disk t hLt]
        refine congrArg _ (ih { disk := w.disk, tors := _ } _ _ hw (fun x hx => ?_)
          (infos_set_same hk' (filesOf_info memo fp t)) rfl hk)
        rcases List.mem_or_eq_of_mem_set hx with h | h
        · exact hmemo x h
        · exact h ▸ hf.2

theorem runHistM_init (memo : Bool) (fp : Meta → List Nat)
    (hfp : memo = true → ∀ m m' : Meta, fp m = fp m' → m.files = m'.files) (H : List α → δ) (cap : Nat)
    (files₀ : List (List α)) (metas₀ : List Meta) (ops : List (MOp α))
    (hL : metasOk metas₀ ops = true) :
    runHistM memo fp H cap (MWorld.init files₀ metas₀) ops = specHistM H metas₀ files₀ ops :=
  runHistM_eq_specHistM memo fp hfp H cap ops (MWorld.init files₀ metas₀) _ _ (WF.init files₀)
    (fun t ht => by
      obtain ⟨m, _, rfl⟩ := List.mem_map.1 ht
      exact fun _ _ hm => nomatch hm)
    (infos_init metas₀) (cur_init files₀) hL

/-- **History independence on the metainfo side.**  Any number of Torrent objects over one content
    directory; the process edits their metainfo between runs in any way (in place or not: re-order,
    swap, edit a path or a length, replace the list, change the piece length, the name, `copy()`),
    calls getters, creates / replaces / rewrites files (any size), opens and closes other streams,
    and runs `generate()` on any object any number of times.  Every run is the specification's
    function of *that object's metainfo at that moment* and *the bytes on disk at that moment*:
    True with the SHA-1 (`H`) of the chunks of the listed files in list order at the listed piece
    length when disk and metainfo agree, a failure that stores nothing when they do not.  The
    specification's state has no handles, inodes, list identities or remembered file lists. -/
theorem C01_generate_reads_current_metainfo (fp : Meta → List Nat) (H : List α → δ) (cap : Nat)
    (files₀ : List (List α)) (metas₀ : List Meta) (ops : List (MOp α))
    (hL : metasOk metas₀ ops = true) :
    runHistM false fp H cap (MWorld.init files₀ metas₀) ops = specHistM H metas₀ files₀ ops :=
  runHistM_init false fp (fun h => nomatch h) H cap files₀ metas₀ ops hL

/-- a run over `files` does not store the digests (here: the chunks themselves) of `files'` when the
    two chunk differently; `iterPieces` computes by structural recursion, which `chunks` does not -/
theorem seq_id_ne {files files' : List (List Nat)} (hne : 0 < (files.map List.length).sum)
    (h : iterPieces 2 files ≠ iterPieces 2 files') :
    seq (fun p : List Nat => p) 2 files ≠ .stored ((chunks 2 files'.flatten).map fun p => p) := by
  intro h4
  unfold seq at h4
  rw [C01_generate_spec _ 2 (by decide) files hne _ (List.Perm.refl _)] at h4
  have h5 := Outcome.stored.inj h4
  simp only [List.map_id'] at h5
  rw [← C01_iter_eq_chunks 2 (by decide), ← C01_iter_eq_chunks 2 (by decide)] at h5
  exact h h5

/-- The variant whose `Torrent.files` keeps the tuple it built under the cheap fingerprint
    (name, id of the list object, length of the list) is not a function of the current metainfo:
    read `files`, reverse `info['files']` in place, `generate()` — the digests follow the old
    order.  (Model-level image of the seeded change C01/b of round 3.) -/
def C01_memo_files_full : Prop :=
  ∀ (cap : Nat) (files₀ : List (List Nat)) (metas₀ : List Meta) (ops : List (MOp Nat)),
    metasOk metas₀ ops = true →
    runHistM true fpSeed (fun p => p) cap (MWorld.init files₀ metas₀) ops =
      specHistM (fun p => p) metas₀ files₀ ops

theorem C01_memo_files_counterexample : ¬ C01_memo_files_full := by
  intro h
  have h0 := h 10 [[1, 2, 3], [4, 5]]
    [{ L := 2, files := [⟨0, 3⟩, ⟨1, 2⟩], listId := 7 }]
    [.get 0, .setMeta 0 { L := 2, files := [⟨1, 2⟩, ⟨0, 3⟩], listId := 7 }, .generate 0] (by decide)
  -- the memoised tuple still lists file 0 first
  have h1 : runHistM true fpSeed (fun p : List Nat => p) 10
      (MWorld.init [[1, 2, 3], [4, 5]] [{ L := 2, files := [⟨0, 3⟩, ⟨1, 2⟩], listId := 7 }])
      [.get 0, .setMeta 0 { L := 2, files := [⟨1, 2⟩, ⟨0, 3⟩], listId := 7 }, .generate 0] =
      [.out (seq (fun p : List Nat => p) 2 [[1, 2, 3], [4, 5]])] := by rfl
  have h2 : specHistM (fun p : List Nat => p) [{ L := 2, files := [⟨0, 3⟩, ⟨1, 2⟩], listId := 7 }]
      [[1, 2, 3], [4, 5]]
      [.get 0, .setMeta 0 { L := 2, files := [⟨1, 2⟩, ⟨0, 3⟩], listId := 7 }, .generate 0] =
      [.out (.stored ((chunks 2 [[4, 5], [1, 2, 3]].flatten).map fun p => p))] := by rfl
  rw [h1, h2] at h0
  exact seq_id_ne (by decide) (by decide +kernel) (Res.out.inj (List.head_eq_of_cons_eq h0))

/-- A memoising `Torrent.files` is harmless when its key is faithful: if the fingerprint
    determines the file list (`fp m = fp m' → m.files = m'.files`), every history still meets the
    specification.  (The seeded key (name, id of the list, length of the list) is not faithful,
    nor is the id alone, nor the paths without the lengths.) -/
theorem C01_memo_files_faithful (fp : Meta → List Nat)
    (hfp : ∀ m m' : Meta, fp m = fp m' → m.files = m'.files) (H : List α → δ) (cap : Nat)
    (files₀ : List (List α)) (metas₀ : List Meta) (ops : List (MOp α))
    (hL : metasOk metas₀ ops = true) :
    runHistM true fp H cap (MWorld.init files₀ metas₀) ops = specHistM H metas₀ files₀ ops :=
  runHistM_init true fp (fun _ => hfp) H cap files₀ metas₀ ops hL

/-- The variant with ONE class-level handle table for all streams is not history independent:
    another stream opens file 0, the file is replaced atomically, `generate()` hashes the bytes
    of the old inode.  (Model-level image of the seeded change C01/a of round 2.) -/
def C01_shared_cache_full : Prop :=
  ∀ (L cap : Nat) (files₀ : List (List Nat)) (ops : List (Op Nat)),
    0 < L → 0 < (files₀.map List.length).sum → sizesKept (files₀.map List.length) ops = true →
    runHist true (fun p => p) L cap (World.init files₀) ops = specHist (fun p => p) L files₀ ops

theorem C01_shared_cache_counterexample : ¬ C01_shared_cache_full := by
  intro h
  have h0 := h 2 10 [[1, 2, 3], [4]] [.newStream, .touch 0 0, .replace 0 [7, 8, 9], .generate]
    (by decide) (by decide) (by decide)
  -- the shared table still holds the handle on the old inode of file 0
  have h1 : runHist true (fun p : List Nat => p) 2 10 (World.init [[1, 2, 3], [4]])
      [.newStream, .touch 0 0, .replace 0 [7, 8, 9], .generate] =
      [seq (fun p : List Nat => p) 2 [[1, 2, 3], [4]]] := by rfl
  have h2 : specHist (fun p : List Nat => p) 2 [[1, 2, 3], [4]]
      [.newStream, .touch 0 0, .replace 0 [7, 8, 9], .generate] =
      [.stored ((chunks 2 [[7, 8, 9], [4]].flatten).map fun p => p)] := by rfl
  rw [h1, h2] at h0
  exact seq_id_ne (by decide) (by decide +kernel) (List.head_eq_of_cons_eq h0)

/-! Non-vacuity: the hypotheses of `C01_generate_history` hold for a history with two other
    streams, an atomic replacement, an in-place rewrite and three runs; in the model the second
    and third run see the new bytes (`#eval` of both sides gives
    `[stored [3, 7], stored [15, 13], stored [15, 14]]` for `H = sum`). -/
example : sizesKept ([[1, 2, 3], [4]].map List.length)
    ([.generate, .newStream, .touch 0 0, .touch 0 1, .replace 0 [7, 8, 9], .newStream, .touch 1 0,
      .generate, .rewrite 1 [5], .close 0, .generate] : List (Op Nat)) = true := by decide +kernel

example : runHist false (fun p : List Nat => p.sum) 2 10 (World.init [[1, 2, 3], [4]])
    [.generate, .newStream, .touch 0 0, .touch 0 1, .replace 0 [7, 8, 9], .newStream, .touch 1 0,
     .generate, .rewrite 1 [5], .close 0, .generate] =
    specHist (fun p : List Nat => p.sum) 2 [[1, 2, 3], [4]]
    [.generate, .newStream, .touch 0 0, .touch 0 1, .replace 0 [7, 8, 9], .newStream, .touch 1 0,
     .generate, .rewrite 1 [5], .close 0, .generate] :=
  C01_generate_history _ 2 10 (by decide) _ (by decide) _ (by decide)

end Torf.C01
